import Abverif.Model.Basic
import Abverif.Generated.DeflateConsts
/-
C12 — per-message compression: negotiation lattice and data path.

Mirrors (autobahn/websocket):
  compress_deflate.py   PerMessageDeflateOffer / OfferAccept / Response / ResponseAccept / PerMessageDeflate
  compress_bzip2.py     the same five classes (compression level lattice)
  compress_brotli.py    the same five classes (context takeover lattice)
  protocol.py           `_parseExtensionsHeader`, the permessage-compress parts of the server
                        `succeedHandshake` and of the client `processHandshake`, the RSV1 rules of `processData`,
                        `onFrameBegin/Data/End`, `sendMessage`, `beginMessage … endMessage`

Text is `List Char` on the ISO-8859-1 code points the handshake decodes to.  `lower` is modelled on ASCII
(the harness generates ASCII headers only; the model's domain is stated in harness/c12.py).
Everything that raises in Python is `none` here (the callers turn every exception into `failHandshake`,
so the exception class is not an observable).
The window/mem-level tables, defaults, the `[:-4]` strip length and the re-appended tail come from
`Abverif.Generated.DeflateConsts`, regenerated from the source on every run.
-/
namespace Abverif.Pmce
open Abverif.DeflateConsts

/-! ## Python `str` helpers on `List Char` -/

/-- `str.isspace` on the Latin-1 range (what `str.strip()` and `int()` skip). -/
def isWs (c : Char) : Bool :=
  let n := c.toNat
  (9 ≤ n && n ≤ 13) || (28 ≤ n && n ≤ 32) || n == 0x85 || n == 0xa0

def lstrip (s : List Char) : List Char := s.dropWhile isWs
def rstrip (s : List Char) : List Char := (s.reverse.dropWhile isWs).reverse
/-- `str.strip()` -/
def strip (s : List Char) : List Char := rstrip (lstrip s)

/-- what `int()` skips around the digits: ASCII characters are judged by C `isspace` (so 0x1c–0x1f, which
`str.strip()` removes, are NOT skipped), the Latin-1 spaces 0x85 / 0xa0 by `Py_UNICODE_ISSPACE` -/
def isIntWs (c : Char) : Bool :=
  let n := c.toNat
  (9 ≤ n && n ≤ 13) || n == 32 || n == 0x85 || n == 0xa0

/-- `str.lower()` on ASCII -/
def lowerChar (c : Char) : Char :=
  if 'A' ≤ c ∧ c ≤ 'Z' then Char.ofNat (c.toNat + 32) else c
def lower (s : List Char) : List Char := s.map lowerChar

/-- `str.split(sep)` for a one-character separator (never returns the empty list). -/
def splitOn (sep : Char) : List Char → List (List Char)
  | [] => [[]]
  | c :: cs =>
    if c = sep then [] :: splitOn sep cs
    else match splitOn sep cs with
      | [] => [[c]]
      | h :: t => (c :: h) :: t

/-- `sep.join(parts)` -/
def joinWith (sep : List Char) : List (List Char) → List Char
  | [] => []
  | [a] => a
  | a :: b :: rest => a ++ sep ++ joinWith sep (b :: rest)

def digitVal (c : Char) : Option Nat :=
  if '0' ≤ c ∧ c ≤ '9' then some (c.toNat - 48) else none

/-- digits with single underscores between them: `digit (_? digit)*`; `acc` is the value so far,
`prevDigit` says whether the previous character was a digit (an underscore must sit between two digits). -/
def pyDigits : List Char → Nat → Bool → Option Nat
  | [], acc, prevDigit => if prevDigit then some acc else none
  | c :: cs, acc, prevDigit =>
    if c = '_' then (if prevDigit ∧ cs ≠ [] then pyDigitsU cs acc else none)
    else match digitVal c with
      | some d => pyDigits cs (acc * 10 + d) true
      | none => none
where
  /-- directly after an underscore a digit must follow -/
  pyDigitsU : List Char → Nat → Option Nat
    | [], _ => none
    | c :: cs, acc => match digitVal c with
      | some d => pyDigits cs (acc * 10 + d) true
      | none => none

/-- Python `int(s)` for `str` arguments (base 10): surrounding whitespace, one optional sign, decimal digits
with single underscores. `none` = `ValueError`. -/
def pyInt (s : List Char) : Option Int :=
  match ((s.dropWhile isIntWs).reverse.dropWhile isIntWs).reverse with
  | [] => none
  | '+' :: r => (pyDigits r 0 false).map Int.ofNat
  | '-' :: r => (pyDigits r 0 false).map (fun n => - Int.ofNat n)
  | r => (pyDigits r 0 false).map Int.ofNat

/-- `int(val)` succeeded and the result is `in` the list of naturals -/
def intIn (xs : List Nat) (s : List Char) : Option Nat :=
  match pyInt s with
  | some (Int.ofNat n) => if xs.contains n then some n else none
  | _ => none

/-! ## `_parseExtensionsHeader` -/

/-- a parameter value: `none` is Python's `True` (parameter without `=`), `some s` the string after `=` -/
abbrev Val := Option (List Char)
/-- `params`: insertion-ordered dict `key ↦ list of values` -/
abbrev Params := List (List Char × List Val)

def Params.add : Params → List Char → Val → Params
  | [], k, v => [(k, [v])]
  | (k', vs) :: rest, k, v => if k' = k then (k', vs ++ [v]) :: rest else (k', vs) :: Params.add rest k v

/-- `if value[0] == '"': value = value[1:]`, then `if value[-1] == '"': value = value[:-1]` -/
def unquote (v : List Char) : List Char :=
  let v1 := match v with
    | '"' :: r => r
    | _ => v
  match v1.reverse with
  | '"' :: r => r.reverse
  | _ => v1

def parseParam (p : List Char) : List Char × Val :=
  match (splitOn '=' p).map strip with
  | [] => ([], none)                      -- unreachable: split never returns []
  | [k] => (lower k, none)
  | k :: rest => (lower k, some (unquote (joinWith ['='] rest)))

def parseExt (e : List Char) : List Char × Params :=
  match (splitOn ';' e).map strip with
  | [] => ([], [])                        -- unreachable
  | name :: ps => (lower name, ps.foldl (fun acc p => let kv := parseParam p; acc.add kv.1 kv.2) [])

/-- `_parseExtensionsHeader(header)` (with `removeQuotes=True`, the only way it is called) -/
def parseExtensionsHeader (h : List Char) : List (List Char × Params) :=
  (((splitOn ',' h).map strip).filter (· ≠ [])).map parseExt

/-- `int(val)` where `val` may be Python's `True` (`int(True) == 1`) -/
def intInV (xs : List Nat) : Val → Option Nat
  | none => if xs.contains 1 then some 1 else none
  | some s => intIn xs s

/-! ## rendering helpers -/

def natStr (n : Nat) : List Char := Nat.toDigits 10 n

def sClientNct : List Char := "client_no_context_takeover".toList
def sClientMwb : List Char := "client_max_window_bits".toList
def sServerNct : List Char := "server_no_context_takeover".toList
def sServerMwb : List Char := "server_max_window_bits".toList

def flag (b : Bool) (name : List Char) : List Char := if b then "; ".toList ++ name else []
def kv (n : Nat) (name : List Char) : List Char :=
  if n ≠ 0 then "; ".toList ++ name ++ ['='] ++ natStr n else []

def winOk (n : Nat) : Bool := windowSizePermissible.contains n
def memOk (n : Nat) : Bool := memLevelPermissible.contains n

/-! ## permessage-deflate: the four parameter classes -/

/-- `PerMessageDeflateOffer` -/
structure Offer where
  acceptNct : Bool
  acceptMwb : Bool
  reqNct : Bool
  reqMwb : Nat
deriving DecidableEq, Repr

/-- constructor guard of `PerMessageDeflateOffer.__init__` (the `type(..) != bool` guards are types here) -/
def Offer.guard (o : Offer) : Bool := o.reqMwb == 0 || winOk o.reqMwb

/-- `PerMessageDeflateOffer.get_extension_string` -/
def Offer.render (o : Offer) : List Char :=
  extensionName ++ flag o.acceptNct sClientNct ++ flag o.acceptMwb sClientMwb
    ++ flag o.reqNct sServerNct ++ kv o.reqMwb sServerMwb

/-- one step of the `for p in params` loop of `PerMessageDeflateOffer.parse` -/
def Offer.parseStep (acc : Option Offer) (kvs : List Char × List Val) : Option Offer :=
  match acc with
  | none => none
  | some o =>
    match kvs.2 with
    | [v] =>
      if kvs.1 = sClientMwb then
        match v with
        | none => some { o with acceptMwb := true }
        | some s => (intIn windowSizePermissible s).map (fun _ => { o with acceptMwb := true })
      else if kvs.1 = sClientNct then
        match v with
        | none => some { o with acceptNct := true }
        | some _ => none
      else if kvs.1 = sServerMwb then
        (intInV windowSizePermissible v).map (fun n => { o with reqMwb := n })
      else if kvs.1 = sServerNct then
        match v with
        | none => some { o with reqNct := true }
        | some _ => none
      else none
    | _ => none      -- `len(params[p]) > 1`

/-- `PerMessageDeflateOffer.parse(params)`; the defaults are those of the source
(`accept_no_context_takeover = True`: the flag is not transmitted). -/
def Offer.parse (ps : Params) : Option Offer :=
  (ps.foldl Offer.parseStep (some ⟨true, false, false, 0⟩)).bind
    (fun o => if o.guard then some o else none)

/-- `PerMessageDeflateOfferAccept` (without `max_message_size`, which belongs to C16) -/
structure OfferAccept where
  offer : Offer
  reqNct : Bool
  reqMwb : Nat
  nct : Option Bool
  wbits : Option Nat
  memLevel : Option Nat
deriving DecidableEq, Repr

/-- constructor guards of `PerMessageDeflateOfferAccept.__init__` -/
def OfferAccept.guard (a : OfferAccept) : Bool :=
  !(a.reqNct && !a.offer.acceptNct)
  && (a.reqMwb == 0 || winOk a.reqMwb)
  && !(a.reqMwb != 0 && !a.offer.acceptMwb)
  && (match a.nct with
      | some n => !(a.offer.reqNct && !n)
      | none => true)
  && (match a.wbits with
      | some w => winOk w && !(a.offer.reqMwb != 0 && decide (w > a.offer.reqMwb))
      | none => true)
  && (match a.memLevel with
      | some m => memOk m
      | none => true)

/-- `PerMessageDeflateOfferAccept.get_extension_string` -/
def OfferAccept.render (a : OfferAccept) : List Char :=
  extensionName ++ flag a.offer.reqNct sServerNct ++ kv a.offer.reqMwb sServerMwb
    ++ flag a.reqNct sClientNct ++ kv a.reqMwb sClientMwb

/-- `PerMessageDeflateResponse` -/
structure Response where
  cMwb : Nat
  cNct : Bool
  sMwb : Nat
  sNct : Bool
deriving DecidableEq, Repr

def Response.parseStep (acc : Option Response) (kvs : List Char × List Val) : Option Response :=
  match acc with
  | none => none
  | some r =>
    match kvs.2 with
    | [v] =>
      if kvs.1 = sClientMwb then
        (intInV windowSizePermissible v).map (fun n => { r with cMwb := n })
      else if kvs.1 = sClientNct then
        match v with
        | none => some { r with cNct := true }
        | some _ => none
      else if kvs.1 = sServerMwb then
        (intInV windowSizePermissible v).map (fun n => { r with sMwb := n })
      else if kvs.1 = sServerNct then
        match v with
        | none => some { r with sNct := true }
        | some _ => none
      else none
    | _ => none

/-- `PerMessageDeflateResponse.parse(params)` -/
def Response.parse (ps : Params) : Option Response :=
  ps.foldl Response.parseStep (some ⟨0, false, 0, false⟩)

/-- `PerMessageDeflateResponseAccept` -/
structure ResponseAccept where
  response : Response
  nct : Option Bool
  wbits : Option Nat
  memLevel : Option Nat
deriving DecidableEq, Repr

/-- constructor guards of `PerMessageDeflateResponseAccept.__init__` -/
def ResponseAccept.guard (a : ResponseAccept) : Bool :=
  (match a.nct with
   | some n => !(a.response.cNct && !n)
   | none => true)
  && (match a.wbits with
      | some w => winOk w && !(a.response.cMwb != 0 && decide (w > a.response.cMwb))
      | none => true)
  && (match a.memLevel with
      | some m => memOk m
      | none => true)

/-- `PerMessageDeflate`: the six effective fields held by one end -/
structure Pmce where
  isServer : Bool
  sNct : Bool
  cNct : Bool
  sMwb : Nat
  cMwb : Nat
  memLevel : Nat
deriving DecidableEq, Repr

/-- `PerMessageDeflate.__init__`: `0 ↦ DEFAULT_WINDOW_BITS`, falsy mem level `↦ DEFAULT_MEM_LEVEL` -/
def Pmce.init (isServer sNct cNct : Bool) (sMwb cMwb : Nat) (mem : Option Nat) : Pmce :=
  { isServer, sNct, cNct,
    sMwb := if sMwb ≠ 0 then sMwb else defaultWindowBits,
    cMwb := if cMwb ≠ 0 then cMwb else defaultWindowBits,
    memLevel := match mem with
      | some (m + 1) => m + 1
      | _ => defaultMemLevel }

/-- `PerMessageDeflate.create_from_offer_accept(is_server, accept)` -/
def Pmce.fromOfferAccept (isServer : Bool) (a : OfferAccept) : Pmce :=
  Pmce.init isServer (a.nct.getD a.offer.reqNct) a.reqNct (a.wbits.getD a.offer.reqMwb) a.reqMwb a.memLevel

/-- `PerMessageDeflate.create_from_response_accept(is_server, accept)` -/
def Pmce.fromResponseAccept (isServer : Bool) (a : ResponseAccept) : Pmce :=
  Pmce.init isServer a.response.sNct (a.nct.getD a.response.cNct) a.response.sMwb
    (a.wbits.getD a.response.cMwb) a.memLevel

/-- the parameters this end compresses with: `start_compress_message` -/
def Pmce.encNct (p : Pmce) : Bool := if p.isServer then p.sNct else p.cNct
def Pmce.encWbits (p : Pmce) : Nat := if p.isServer then p.sMwb else p.cMwb
/-- the parameters this end inflates with: `start_decompress_message` -/
def Pmce.decNct (p : Pmce) : Bool := if p.isServer then p.cNct else p.sNct
def Pmce.decWbits (p : Pmce) : Nat := if p.isServer then p.cMwb else p.sMwb

/-- what one direction needs (Spec): the inflater's window is at least the deflater's, and an inflater that
forgets its context between messages is only paired with a deflater that does so too. -/
def dirCompatible (enc dec : Pmce) : Prop :=
  enc.encWbits ≤ dec.decWbits ∧ (dec.decNct = true → enc.encNct = true)

instance (enc dec : Pmce) : Decidable (dirCompatible enc dec) := by unfold dirCompatible; exact inferInstance

/-- Spec (RFC 7692 §7.1): what a response may contain given the offer the client sent.
`server_*` only when requested and never above the request; requests are honoured; `client_max_window_bits`
only when the offer carried it, with a permissible value. (`client_no_context_takeover` may always be sent.) -/
def permittedBy (o : Offer) (r : Response) : Prop :=
  (r.sNct = true ↔ o.reqNct = true)
  ∧ (r.sMwb ≠ 0 → r.sMwb ≤ o.reqMwb)
  ∧ (o.reqMwb ≠ 0 → r.sMwb ≠ 0)
  ∧ (r.cMwb ≠ 0 → o.acceptMwb = true ∧ winOk r.cMwb = true)

instance (o : Offer) (r : Response) : Decidable (permittedBy o r) := by unfold permittedBy; exact inferInstance

/-- the four negotiated parameters an end holds -/
def Pmce.params (p : Pmce) : Bool × Bool × Nat × Nat := (p.sNct, p.cNct, p.sMwb, p.cMwb)

/-! ## complete enumeration of the lattice -/

def bools : List Bool := [false, true]
def optBools : List (Option Bool) := [none, some false, some true]
def winVals : List Nat := 0 :: windowSizePermissible
def optWins : List (Option Nat) := none :: windowSizePermissible.map some
def optMems : List (Option Nat) := none :: memLevelPermissible.map some

def Offer.all : List Offer :=
  bools.flatMap fun a => bools.flatMap fun b => bools.flatMap fun c => winVals.map fun w => ⟨a, b, c, w⟩

/-! ## the negotiation as the two ends run it -/

/-- everything the two ends compute from (offer, accept parameters, response-accept parameters) -/
structure Negotiated where
  offerStr : List Char
  responseStr : List Char
  server : Pmce
  client : Pmce
deriving Repr

/-- parameters the server application passes to `PerMessageDeflateOfferAccept(offer, …)` -/
structure AcceptArgs where
  reqNct : Bool
  reqMwb : Nat
  nct : Option Bool
  wbits : Option Nat
  memLevel : Option Nat
deriving DecidableEq, Repr

/-- parameters the client application passes to `PerMessageDeflateResponseAccept(response, …)` -/
structure RAcceptArgs where
  nct : Option Bool
  wbits : Option Nat
  memLevel : Option Nat
deriving DecidableEq, Repr

def AcceptArgs.on (x : AcceptArgs) (o : Offer) : OfferAccept := ⟨o, x.reqNct, x.reqMwb, x.nct, x.wbits, x.memLevel⟩
def RAcceptArgs.on (x : RAcceptArgs) (r : Response) : ResponseAccept := ⟨r, x.nct, x.wbits, x.memLevel⟩

/-- first `permessage-deflate` entry of a parsed header -/
def findDeflate : List (List Char × Params) → Option Params
  | [] => none
  | (n, ps) :: rest => if n = extensionName then some ps else findDeflate rest

/-- client renders the offer, the server parses the header and accepts, renders its response, the client
parses that and accepts. `none` when a parser or a constructor guard raises on the way. -/
def negotiate (o : Offer) (x : AcceptArgs) (y : RAcceptArgs) : Option Negotiated := do
  if !o.guard then none
  let offerStr := o.render
  let ps ← findDeflate (parseExtensionsHeader offerStr)
  let o' ← Offer.parse ps
  let a := x.on o'
  if !a.guard then none
  let responseStr := a.render
  let rps ← findDeflate (parseExtensionsHeader responseStr)
  let r ← Response.parse rps
  let ra := y.on r
  if !ra.guard then none
  pure ⟨offerStr, responseStr, Pmce.fromOfferAccept true a, Pmce.fromResponseAccept false ra⟩

/-! ## re-parsing what was rendered (used by the round-trip theorems and the driver) -/

/-- what the server's parser can know of an offer: `accept_no_context_takeover` is not transmitted when
false and defaults to `True` in `PerMessageDeflateOffer.parse` -/
def Offer.normalize (o : Offer) : Offer := { o with acceptNct := true }

/-- the header a client renders for an offer, as `_parseExtensionsHeader` + `Offer.parse` read it -/
def Offer.reparse (o : Offer) : Option Offer :=
  (findDeflate (parseExtensionsHeader o.render)).bind Offer.parse

/-- the response as the client will parse it -/
def OfferAccept.response (a : OfferAccept) : Response :=
  ⟨a.reqMwb, a.reqNct, a.offer.reqMwb, a.offer.reqNct⟩

def OfferAccept.reparse (a : OfferAccept) : Option Response :=
  (findDeflate (parseExtensionsHeader a.render)).bind Response.parse

/-- a quarter of `Offer.all` -/
def Offer.slice (a b : Bool) : List Offer :=
  bools.flatMap fun c => winVals.map fun w => ⟨a, b, c, w⟩

/-! ## permessage-bzip2 (compress_bzip2.py): compression-level lattice -/

def sClientMcl : List Char := "client_max_compress_level".toList
def sServerMcl : List Char := "server_max_compress_level".toList
def lvlOk (n : Nat) : Bool := bzip2LevelPermissible.contains n

structure BzOffer where
  acceptMcl : Bool
  reqMcl : Nat
deriving DecidableEq, Repr

def BzOffer.guard (o : BzOffer) : Bool := o.reqMcl == 0 || lvlOk o.reqMcl
def BzOffer.render (o : BzOffer) : List Char :=
  bzip2ExtensionName ++ flag o.acceptMcl sClientMcl ++ kv o.reqMcl sServerMcl

def BzOffer.parseStep (acc : Option BzOffer) (kvs : List Char × List Val) : Option BzOffer :=
  match acc with
  | none => none
  | some o =>
    match kvs.2 with
    | [v] =>
      if kvs.1 = sClientMcl then
        match v with
        | none => some { o with acceptMcl := true }
        | some _ => none
      else if kvs.1 = sServerMcl then
        (intInV bzip2LevelPermissible v).map (fun n => { o with reqMcl := n })
      else none
    | _ => none

def BzOffer.parse (ps : Params) : Option BzOffer := ps.foldl BzOffer.parseStep (some ⟨false, 0⟩)

structure BzOfferAccept where
  offer : BzOffer
  reqMcl : Nat
  level : Option Nat
deriving DecidableEq, Repr

def BzOfferAccept.guard (a : BzOfferAccept) : Bool :=
  (a.reqMcl == 0 || lvlOk a.reqMcl)
  && !(a.reqMcl != 0 && !a.offer.acceptMcl)
  && (match a.level with
      | some l => lvlOk l && !(a.offer.reqMcl != 0 && decide (l > a.offer.reqMcl))
      | none => true)

def BzOfferAccept.render (a : BzOfferAccept) : List Char :=
  bzip2ExtensionName ++ kv a.offer.reqMcl sServerMcl ++ kv a.reqMcl sClientMcl

structure BzResponse where
  cMcl : Nat
  sMcl : Nat
deriving DecidableEq, Repr

def BzResponse.parseStep (acc : Option BzResponse) (kvs : List Char × List Val) : Option BzResponse :=
  match acc with
  | none => none
  | some r =>
    match kvs.2 with
    | [v] =>
      if kvs.1 = sClientMcl then (intInV bzip2LevelPermissible v).map (fun n => { r with cMcl := n })
      else if kvs.1 = sServerMcl then (intInV bzip2LevelPermissible v).map (fun n => { r with sMcl := n })
      else none
    | _ => none

def BzResponse.parse (ps : Params) : Option BzResponse := ps.foldl BzResponse.parseStep (some ⟨0, 0⟩)

structure BzResponseAccept where
  response : BzResponse
  level : Option Nat
deriving DecidableEq, Repr

def BzResponseAccept.guard (a : BzResponseAccept) : Bool :=
  match a.level with
  | some l => lvlOk l && !(a.response.cMcl != 0 && decide (l > a.response.cMcl))
  | none => true

/-- `PerMessageBzip2`: effective fields -/
structure BzPmce where
  isServer : Bool
  sMcl : Nat
  cMcl : Nat
deriving DecidableEq, Repr

def BzPmce.init (isServer : Bool) (s c : Nat) : BzPmce :=
  ⟨isServer, if s ≠ 0 then s else bzip2DefaultLevel, if c ≠ 0 then c else bzip2DefaultLevel⟩
def BzPmce.fromOfferAccept (isServer : Bool) (a : BzOfferAccept) : BzPmce :=
  BzPmce.init isServer (a.level.getD a.offer.reqMcl) a.reqMcl
def BzPmce.fromResponseAccept (isServer : Bool) (a : BzResponseAccept) : BzPmce :=
  BzPmce.init isServer a.response.sMcl (a.level.getD a.response.cMcl)

def lvlVals : List Nat := 0 :: bzip2LevelPermissible
def BzOffer.all : List BzOffer := bools.flatMap fun a => lvlVals.map fun l => ⟨a, l⟩

/-! ## permessage-brotli (compress_brotli.py): context-takeover lattice -/

structure BrOffer where
  acceptNct : Bool
  reqNct : Bool
deriving DecidableEq, Repr

def BrOffer.render (o : BrOffer) : List Char :=
  brotliExtensionName ++ flag o.acceptNct sClientNct ++ flag o.reqNct sServerNct

def BrOffer.parseStep (acc : Option BrOffer) (kvs : List Char × List Val) : Option BrOffer :=
  match acc with
  | none => none
  | some o =>
    match kvs.2 with
    | [none] =>
      if kvs.1 = sClientNct then some { o with acceptNct := true }
      else if kvs.1 = sServerNct then some { o with reqNct := true }
      else none
    | _ => none

def BrOffer.parse (ps : Params) : Option BrOffer := ps.foldl BrOffer.parseStep (some ⟨false, false⟩)

structure BrOfferAccept where
  offer : BrOffer
  reqNct : Bool
  nct : Option Bool
deriving DecidableEq, Repr

def BrOfferAccept.guard (a : BrOfferAccept) : Bool :=
  !(a.reqNct && !a.offer.acceptNct)
  && (match a.nct with
      | some n => !(a.offer.reqNct && !n)
      | none => true)

def BrOfferAccept.render (a : BrOfferAccept) : List Char :=
  brotliExtensionName ++ flag a.offer.reqNct sServerNct ++ flag a.reqNct sClientNct

structure BrResponse where
  cNct : Bool
  sNct : Bool
deriving DecidableEq, Repr

def BrResponse.parseStep (acc : Option BrResponse) (kvs : List Char × List Val) : Option BrResponse :=
  match acc with
  | none => none
  | some r =>
    match kvs.2 with
    | [none] =>
      if kvs.1 = sClientNct then some { r with cNct := true }
      else if kvs.1 = sServerNct then some { r with sNct := true }
      else none
    | _ => none

def BrResponse.parse (ps : Params) : Option BrResponse := ps.foldl BrResponse.parseStep (some ⟨false, false⟩)

structure BrResponseAccept where
  response : BrResponse
  nct : Option Bool
deriving DecidableEq, Repr

def BrResponseAccept.guard (a : BrResponseAccept) : Bool :=
  match a.nct with
  | some n => !(a.response.cNct && !n)
  | none => true

/-- `PerMessageBrotli`: effective fields -/
structure BrPmce where
  isServer : Bool
  sNct : Bool
  cNct : Bool
deriving DecidableEq, Repr

def BrPmce.fromOfferAccept (isServer : Bool) (a : BrOfferAccept) : BrPmce :=
  ⟨isServer, a.nct.getD a.offer.reqNct, a.reqNct⟩
def BrPmce.fromResponseAccept (isServer : Bool) (a : BrResponseAccept) : BrPmce :=
  ⟨isServer, a.response.sNct, a.nct.getD a.response.cNct⟩

def BrOffer.all : List BrOffer := bools.flatMap fun a => bools.map fun b => ⟨a, b⟩

/-! ## the permessage-compress part of the two handshakes -/

inductive AnyOffer
  | deflate (o : Offer)
  | bzip2 (o : BzOffer)
  | brotli (o : BrOffer)
deriving DecidableEq, Repr

inductive AnyPmce
  | deflate (p : Pmce)
  | bzip2 (p : BzPmce)
  | brotli (p : BrPmce)
deriving DecidableEq, Repr

/-- the harness' server policy: for the first offer whose kind is enabled, construct the `…OfferAccept` with
these arguments; a constructor that raises makes the policy return `None`. -/
structure ServerPolicy where
  deflate : Option AcceptArgs
  bzip2 : Option (Nat × Option Nat)          -- request_max_compress_level, compress_level
  brotli : Option (Bool × Option Bool)       -- request_no_context_takeover, no_context_takeover

/-- `Offer.parse` of the class registered for the extension name; `none` = not a compression extension,
`some none` = the parser raised -/
def parseAnyOffer (name : List Char) (ps : Params) : Option (Option AnyOffer) :=
  if name = extensionName then some ((Offer.parse ps).map .deflate)
  else if name = bzip2ExtensionName then some ((BzOffer.parse ps).map .bzip2)
  else if name = brotliExtensionName then some ((BrOffer.parse ps).map .brotli)
  else none

/-- the `for extension, params in self.websocket_extensions` loop of `succeedHandshake`:
`none` = `failHandshake`, otherwise the offers collected (unknown extensions are skipped) -/
def collectOffers : List (List Char × Params) → Option (List AnyOffer)
  | [] => some []
  | (n, ps) :: rest =>
    match parseAnyOffer n ps with
    | none => collectOffers rest
    | some none => none
    | some (some o) => (collectOffers rest).map (o :: ·)

/-- result of applying the policy to one offer: `none` = not this one, `some none` = constructor raised -/
def acceptOne (pol : ServerPolicy) : AnyOffer → Option (Option (List Char × AnyPmce))
  | .deflate o => pol.deflate.map fun x =>
      let a := x.on o
      if a.guard then some (a.render, .deflate (Pmce.fromOfferAccept true a)) else none
  | .bzip2 o => pol.bzip2.map fun x =>
      let a : BzOfferAccept := ⟨o, x.1, x.2⟩
      if a.guard then some (a.render, .bzip2 (BzPmce.fromOfferAccept true a)) else none
  | .brotli o => pol.brotli.map fun x =>
      let a : BrOfferAccept := ⟨o, x.1, x.2⟩
      if a.guard then some (a.render, .brotli (BrPmce.fromOfferAccept true a)) else none

def applyPolicy (pol : ServerPolicy) : List AnyOffer → Option (List Char × AnyPmce)
  | [] => none
  | o :: rest =>
    match acceptOne pol o with
    | none => applyPolicy pol rest
    | some r => r

inductive HsResult
  | fail
  | ok (ext : Option (List Char)) (pmce : Option AnyPmce)
deriving DecidableEq, Repr

/-- server: `Sec-WebSocket-Extensions` request header value ↦ (response extension string, PMCE in use) -/
def serverHandshake (pol : ServerPolicy) (hdr : List Char) : HsResult :=
  match collectOffers (parseExtensionsHeader hdr) with
  | none => .fail
  | some offers =>
    match applyPolicy pol offers with
    | none => .ok none none
    | some (s, p) => .ok (some s) (some p)

/-- the harness' client policy: `none` = the application declines (`perMessageCompressionAccept` returns
`None`, the default); otherwise the `…ResponseAccept` arguments per kind -/
structure ClientPolicy where
  deflate : Option RAcceptArgs
  bzip2 : Option (Option Nat)
  brotli : Option (Option Bool)

/-- parse the response with the class registered for the name and ask the policy.
`none` = not a compression extension; `some none` = parser raised / policy declined / constructor raised -/
def acceptResponse (pol : ClientPolicy) (name : List Char) (ps : Params) : Option (Option AnyPmce) :=
  if name = extensionName then
    some ((Response.parse ps).bind fun r => pol.deflate.bind fun y =>
      let a := y.on r
      if a.guard then some (.deflate (Pmce.fromResponseAccept false a)) else none)
  else if name = bzip2ExtensionName then
    some ((BzResponse.parse ps).bind fun r => pol.bzip2.bind fun l =>
      let a : BzResponseAccept := ⟨r, l⟩
      if a.guard then some (.bzip2 (BzPmce.fromResponseAccept false a)) else none)
  else if name = brotliExtensionName then
    some ((BrResponse.parse ps).bind fun r => pol.brotli.bind fun n =>
      let a : BrResponseAccept := ⟨r, n⟩
      if a.guard then some (.brotli (BrPmce.fromResponseAccept false a)) else none)
  else none

/-- the `for extension, params in websocket_extensions` loop of the client's `processHandshake`;
`cur` is `self._perMessageCompress`. `none` = `failHandshake`. -/
def clientLoop (pol : ClientPolicy) : List (List Char × Params) → Option AnyPmce → Option (Option AnyPmce)
  | [], cur => some cur
  | (n, ps) :: rest, cur =>
    match acceptResponse pol n ps with
    | none => none                                   -- extension we did not request / do not know
    | some r =>
      match cur with
      | some _ => none                               -- multiple occurrence of a permessage-compress extension
      | none =>
        match r with
        | none => none                               -- parser raised, or the accept policy said no
        | some p => clientLoop pol rest (some p)

/-- client: `Sec-WebSocket-Extensions` response header value ↦ PMCE in use -/
def clientHandshake (pol : ClientPolicy) (hdr : List Char) : HsResult :=
  match clientLoop pol (parseExtensionsHeader hdr) none with
  | none => .fail
  | some p => .ok none p

/-! ## frames and the RSV1 rules of `processData` -/

structure Frame where
  fin : Bool
  rsv : Nat
  opcode : Nat
  payload : Bytes
deriving DecidableEq, Repr

/-- the header checks of `processData` that involve RSV, the opcode class and the fragmentation state
(`pmce` = an extension is in use, `inside` = `self.inside_message`); masking and length rules are C02's.
`false` = `_protocol_violation`. -/
def headerOk (pmce inside fin : Bool) (rsv opcode : Nat) : Bool :=
  -- RSV MUST be 0 unless an extension defines it
  (rsv == 0 || (pmce && rsv == 4))
  && (if opcode > 7 then
        fin && (opcode == 8 || opcode == 9 || opcode == 10)
        && !(pmce && rsv == 4)                                  -- control frames MUST NOT be compressed
      else
        (opcode == 0 || opcode == 1 || opcode == 2)
        && !(!inside && opcode == 0)
        && !(inside && opcode != 0)
        && !(pmce && rsv == 4 && inside))                       -- continuation MUST NOT carry the bit

/-! ## data path over an abstract stream codec -/

/-- an incremental compressor/decompressor pair (zlib's `compressobj`/`decompressobj`) -/
structure Codec where
  CSt : Type
  DSt : Type
  /-- `zlib.compressobj(level, DEFLATED, -wbits, memLevel)` -/
  freshC : Nat → Nat → CSt
  /-- `zlib.decompressobj(-wbits)` -/
  freshD : Nat → DSt
  compress : CSt → Bytes → CSt × Bytes
  /-- `flush(Z_SYNC_FLUSH)` -/
  flush : CSt → CSt × Bytes
  /-- `none` = `zlib.error` -/
  decompress : DSt → Bytes → Option (DSt × Bytes)

/-- the empty stored block a sync flush ends with (RFC 7692 §7.2.1) -/
def rfcTail : Bytes := [0x00, 0x00, 0xff, 0xff]

/-- feed chunks to a decompressor, concatenating what comes out -/
def Codec.feed (K : Codec) : K.DSt → List Bytes → Option (K.DSt × Bytes)
  | d, [] => some (d, [])
  | d, c :: cs =>
    match K.decompress d c with
    | none => none
    | some (d1, o1) =>
      match K.feed d1 cs with
      | none => none
      | some (d2, o2) => some (d2, o1 ++ o2)

/-- compress a message handed over in pieces, collecting the output of every call -/
def Codec.compressAll (K : Codec) : K.CSt → List Bytes → K.CSt × List Bytes
  | c, [] => (c, [])
  | c, p :: ps =>
    let r := K.compress c p
    let r2 := K.compressAll r.1 ps
    (r2.1, r.2 :: r2.2)

/-- send half of the extension object (`_compressor` is touched by the send path only) -/
structure Tx (K : Codec) where
  pmce : Option Pmce
  comp : Option K.CSt

/-- receive half (`_decompressor` is touched by the receive path only) -/
structure Rx (K : Codec) where
  pmce : Option Pmce
  dec : Option K.DSt
  inside : Bool
  compressed : Bool
  bin : Bool
  acc : Bytes

variable {K : Codec}

/-- `start_compress_message`: a new compressor if there is none or on no-context-takeover -/
def startCompress (p : Pmce) (comp : Option K.CSt) : K.CSt :=
  match comp with
  | some c => if p.encNct then K.freshC p.encWbits p.memLevel else c
  | none => K.freshC p.encWbits p.memLevel

/-- `end_compress_message`: `flush(Z_SYNC_FLUSH)[:-stripLen]` -/
def endCompress (c : K.CSt) : K.CSt × Bytes :=
  let r := K.flush c
  (r.1, r.2.take (r.2.length - stripLen))

/-- `start_decompress_message` -/
def startDecompress (p : Pmce) (dec : Option K.DSt) : K.DSt :=
  match dec with
  | some d => if p.decNct then K.freshD p.decWbits else d
  | none => K.freshD p.decWbits

def single (opcode rsv : Nat) (payload : Bytes) : Frame := ⟨true, rsv, opcode, payload⟩

/-- the `while not done` loop of `sendMessage` (`pfs = n + 1`); `rest = payload[i:]`.
`j > n` is `rest.length < pfs`: a payload that is a multiple of `pfs` ends with an empty final frame. -/
def fragLoop (n : Nat) (opcode rsv : Nat) (first : Bool) (rest : Bytes) : List Frame :=
  if rest.length < n + 1 then
    [⟨true, if first then rsv else 0, if first then opcode else 0, rest⟩]
  else
    ⟨false, if first then rsv else 0, if first then opcode else 0, rest.take (n + 1)⟩
      :: fragLoop n opcode rsv false (rest.drop (n + 1))
termination_by rest.length
decreasing_by simp; omega

/-- frames of one `sendMessage`; `none` = `Exception("payload fragment size must be at least 1")` -/
def fragment (frag : Option Nat) (opcode rsv : Nat) (payload : Bytes) : Option (List Frame) :=
  match frag with
  | none => some [single opcode rsv payload]
  | some pfs =>
    if payload.length ≤ pfs then some [single opcode rsv payload]
    else match pfs with
      | 0 => none
      | n + 1 => some (fragLoop n opcode rsv true payload)

inductive SendRes
  | sent (frames : List Frame)
  | refused            -- `PayloadExceededError`
  | error              -- any other exception
deriving DecidableEq, Repr

def opcodeOf (bin : Bool) : Nat := if bin then 2 else 1

/-- `sendMessage(payload, isBinary, fragmentSize, doNotCompress)` with `maxMessagePayloadSize = maxPayload`
(`frag` is the effective fragment size: the argument, else `autoFragmentSize` if positive). -/
def sendMessage (t : Tx K) (maxPayload : Nat) (bin dnc : Bool) (frag : Option Nat) (payload : Bytes) :
    Tx K × SendRes :=
  match t.pmce, dnc with
  | some p, false =>
    let c0 := startCompress p t.comp
    let r1 := K.compress c0 payload
    let r2 := endCompress r1.1
    let wire := r1.2 ++ r2.2
    let t' : Tx K := { t with comp := some r2.1 }
    -- refused after compressing: the compression context is dropped, the next message starts a fresh one
    if 0 < maxPayload ∧ maxPayload < wire.length then ({ t with comp := none }, .refused)
    else match fragment frag (opcodeOf bin) 4 wire with
      | none => (t', .error)
      | some fs => (t', .sent fs)
  | _, _ =>
    if 0 < maxPayload ∧ maxPayload < payload.length then (t, .refused)
    else match fragment frag (opcodeOf bin) 0 payload with
      | none => (t, .error)
      | some fs => (t, .sent fs)

/-- frames of `sendMessageFrame` calls after the first one: continuation frames, FIN clear -/
def contFrames (payloads : List Bytes) : List Frame := payloads.map fun p => ⟨false, 0, 0, p⟩

/-- `beginMessage(isBinary, doNotCompress)`, one `sendMessageFrame` per piece, `endMessage()`.
With no piece at all `endMessage` emits a lone continuation frame (what the code does). -/
def sendStream (t : Tx K) (bin dnc : Bool) (pieces : List Bytes) : Tx K × List Frame :=
  match t.pmce, dnc with
  | some p, false =>
    let c0 := startCompress p t.comp
    let r := K.compressAll c0 pieces
    let e := endCompress r.1
    let fs := match r.2 with
      | [] => []
      | o :: os => ⟨false, 4, opcodeOf bin, o⟩ :: contFrames os
    ({ t with comp := some e.1 }, fs ++ [⟨true, 0, 0, e.2⟩])
  | _, _ =>
    let fs := match pieces with
      | [] => []
      | o :: os => ⟨false, 0, opcodeOf bin, o⟩ :: contFrames os
    (t, fs ++ [⟨true, 0, 0, []⟩])

/-- a frame as the receiver sees it: the payload arrives in chunks (`onFrameData` per read) -/
structure WireFrame where
  fin : Bool
  rsv : Nat
  opcode : Nat
  chunks : List Bytes
deriving Repr

/-- `wf` is a segmentation of `f` -/
def Seg (f : Frame) (wf : WireFrame) : Prop :=
  wf.fin = f.fin ∧ wf.rsv = f.rsv ∧ wf.opcode = f.opcode ∧ wf.chunks.flatten = f.payload

/-- `onFrameData` on every chunk of a data frame -/
def rxData (compressed : Bool) : Option K.DSt → Bytes → List Bytes → Option (Option K.DSt × Bytes)
  | dec, acc, [] => some (dec, acc)
  | dec, acc, c :: cs =>
    if compressed then
      match dec with
      | none => none
      | some d =>
        match K.decompress d c with
        | none => none
        | some (d1, o) => rxData compressed (some d1) (acc ++ o) cs
    else rxData compressed dec (acc ++ c) cs

/-- one frame through `processData` (RSV/opcode rules) and `onFrameBegin/Data/End`.
`none` = the connection is failed; otherwise the new state and the message delivered, if one ended.
Control frames that pass the header rules are C02/C05's and leave this state alone. -/
def rxFrame (r : Rx K) (wf : WireFrame) : Option (Rx K × Option (Bool × Bytes)) :=
  if !headerOk r.pmce.isSome r.inside wf.fin wf.rsv wf.opcode then none
  else if wf.opcode > 7 then some (r, none)
  else
    -- onFrameBegin
    let r1 : Rx K :=
      if !r.inside then
        match r.pmce with
        | some p =>
          if wf.rsv == 4 then
            { r with inside := true, compressed := true, dec := some (startDecompress p r.dec),
                     bin := wf.opcode == 2, acc := [] }
          else { r with inside := true, compressed := false, bin := wf.opcode == 2, acc := [] }
        | none => { r with inside := true, compressed := false, bin := wf.opcode == 2, acc := [] }
      else r
    -- onFrameData
    match rxData r1.compressed r1.dec r1.acc wf.chunks with
    | none => none
    | some (dec2, acc2) =>
      -- onFrameEnd
      if wf.fin then
        if r1.compressed then
          match dec2 with
          | none => none
          | some d =>
            -- end_decompress_message: the output of the re-appended tail is dropped
            match K.decompress d tailBytes with
            | none => none
            | some (d3, _) =>
              some ({ r1 with dec := some d3, inside := false, acc := [] }, some (r1.bin, acc2))
        else some ({ r1 with dec := dec2, inside := false, acc := [] }, some (r1.bin, acc2))
      else some ({ r1 with dec := dec2, acc := acc2 }, none)

/-- a whole frame sequence; `none` = connection failed somewhere -/
def rxAll : Rx K → List WireFrame → Option (Rx K × List (Bool × Bytes))
  | r, [] => some (r, [])
  | r, wf :: rest =>
    match rxFrame r wf with
    | none => none
    | some (r1, m) =>
      match rxAll r1 rest with
      | none => none
      | some (r2, ms) => some (r2, m.toList ++ ms)

/-- a message as the application hands it to the sender -/
inductive Msg
  | whole (bin dnc : Bool) (frag : Option Nat) (payload : Bytes)
  | stream (bin dnc : Bool) (pieces : List Bytes)
deriving Repr

def Msg.bin : Msg → Bool
  | .whole b _ _ _ => b
  | .stream b _ _ => b
def Msg.data : Msg → Bytes
  | .whole _ _ _ p => p
  | .stream _ _ ps => ps.flatten
/-- API preconditions: a fragment size is at least 1, a streamed message has at least one frame -/
def Msg.wf : Msg → Prop
  | .whole _ _ frag _ => frag ≠ some 0
  | .stream _ _ ps => ps ≠ []

/-- send one message; refused or erroneous sends put nothing on the wire (`sent = false`) -/
def sendOne (t : Tx K) (maxPayload : Nat) : Msg → Tx K × List Frame × Bool
  | .whole b d frag p =>
    match sendMessage t maxPayload b d frag p with
    | (t', .sent fs) => (t', fs, true)
    | (t', _) => (t', [], false)
  | .stream b d ps => let r := sendStream t b d ps; (r.1, r.2, true)

/-- send a sequence; returns the final state, all frames, and the messages that were actually sent -/
def sendAll (t : Tx K) (maxPayload : Nat) : List Msg → Tx K × List Frame × List (Bool × Bytes)
  | [] => (t, [], [])
  | m :: ms =>
    let r := sendOne t maxPayload m
    let r2 := sendAll r.1 maxPayload ms
    (r2.1, r.2.1 ++ r2.2.1, (if r.2.2 then [(m.bin, m.data)] else []) ++ r2.2.2)

end Abverif.Pmce

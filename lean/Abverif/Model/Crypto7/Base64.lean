import Abverif.Model.Basic
/-
C07 — Base64 reference oracle (RFC 4648 §4: standard alphabet `A–Z a–z 0–9 + /`, `=` padding).

Text is carried as ASCII code units in `Bytes`. `encode` is structurally recursive over 3-byte
groups, `decode` over 4-character groups; `decode` is strict about length and padding position
but does not require the unused low bits of a padded group to be zero (non-canonical accepted).
-/
namespace Abverif.Crypto7.Base64

/-- ASCII code units of a string literal. -/
def asc (s : String) : Bytes := s.toList.map (fun c => UInt8.ofNat c.toNat)

/-- The pad character `=`. -/
abbrev padChar : UInt8 := 61

/-- Alphabet character of a 6-bit value (`n < 64`; larger `n` map to `/`). -/
def enc6 (n : UInt8) : UInt8 :=
  if n < 26 then n + 65        -- 'A' …
  else if n < 52 then n + 71   -- 'a' … (97 - 26)
  else if n < 62 then n - 4    -- '0' … (48 - 52)
  else if n = 62 then 43       -- '+'
  else 47                      -- '/'

/-- The 64 alphabet characters (excludes `=`). -/
def isAlphabet (c : UInt8) : Bool :=
  (65 ≤ c && c ≤ 90) || (97 ≤ c && c ≤ 122) || (48 ≤ c && c ≤ 57) || c == 43 || c == 47

/-- 6-bit value of an alphabet character. -/
def dec6 (c : UInt8) : Option UInt8 :=
  if 65 ≤ c ∧ c ≤ 90 then some (c - 65)
  else if 97 ≤ c ∧ c ≤ 122 then some (c - 71)
  else if 48 ≤ c ∧ c ≤ 57 then some (c + 4)
  else if c = 43 then some 62
  else if c = 47 then some 63
  else none

def encode : Bytes → Bytes
  | a :: b :: c :: rest =>
    enc6 (a >>> 2) ::
    enc6 (((a &&& 3) <<< 4) ||| (b >>> 4)) ::
    enc6 (((b &&& 15) <<< 2) ||| (c >>> 6)) ::
    enc6 (c &&& 63) :: encode rest
  | [a, b] =>
    [enc6 (a >>> 2), enc6 (((a &&& 3) <<< 4) ||| (b >>> 4)), enc6 ((b &&& 15) <<< 2), padChar]
  | [a] => [enc6 (a >>> 2), enc6 ((a &&& 3) <<< 4), padChar, padChar]
  | [] => []

/-- Three bytes from four characters without padding. -/
def decodeFull (w x y z : UInt8) : Option Bytes := do
  let p ← dec6 w
  let q ← dec6 x
  let r ← dec6 y
  let s ← dec6 z
  pure [(p <<< 2) ||| (q >>> 4), (q <<< 4) ||| (r >>> 2), (r <<< 6) ||| s]

/-- The final group `w x y =` (two bytes) or `w x = =` (one byte). -/
def decodePadded (w x y : UInt8) : Option Bytes :=
  if y = padChar then do
    let p ← dec6 w
    let q ← dec6 x
    pure [(p <<< 2) ||| (q >>> 4)]
  else do
    let p ← dec6 w
    let q ← dec6 x
    let r ← dec6 y
    pure [(p <<< 2) ||| (q >>> 4), (q <<< 4) ||| (r >>> 2)]

/-- Strict decoder: the length is a multiple of four, every character is in the alphabet, and
`=` occurs only as the last one or two characters of the last group. -/
def decode : Bytes → Option Bytes
  | [] => some []
  | w :: x :: y :: z :: rest =>
    if z = padChar then
      if rest.isEmpty then decodePadded w x y else none
    else do
      let g ← decodeFull w x y z
      let r ← decode rest
      pure (g ++ r)
  | _ => none

/-! ## Facts about single characters (by exhaustive evaluation over the 256 bytes) -/

/-- Bounded universal quantification over `UInt8` is decidable. -/
instance decForallUInt8 (P : UInt8 → Prop) [DecidablePred P] : Decidable (∀ a, P a) :=
  @decidable_of_iff _ (∀ n, n < 256 → P (UInt8.ofNat n))
    ⟨fun h a => by have := h a.toNat a.toNat_lt; simpa using this, fun h n _ => h _⟩
    (Nat.decidableBallLT 256 (fun n _ => P (UInt8.ofNat n)))

theorem isAlphabet_enc6 : ∀ n : UInt8, isAlphabet (enc6 n) = true := by decide +kernel

theorem dec6_enc6 : ∀ n : UInt8, n >>> 6 = 0 → dec6 (enc6 n) = some n := by decide +kernel

theorem enc6_ne_pad : ∀ n : UInt8, enc6 n ≠ padChar := by decide +kernel

theorem isAlphabet_iff_dec6 : ∀ c : UInt8, isAlphabet c = (dec6 c).isSome := by decide +kernel

/-! ## Bit-level identities (extensionality over the eight bit positions) -/

set_option hygiene false in
/-- Proves an equation between `UInt8` bit-operator terms bit by bit. -/
local macro "bits" : tactic =>
  `(tactic| (
    apply UInt8.eq_of_toBitVec_eq
    simp
    ext i hi
    have : i = 0 ∨ i = 1 ∨ i = 2 ∨ i = 3 ∨ i = 4 ∨ i = 5 ∨ i = 6 ∨ i = 7 := by omega
    rcases this with rfl | rfl | rfl | rfl | rfl | rfl | rfl | rfl <;> simp))

theorem sextet0_small (a : UInt8) : (a >>> 2) >>> 6 = 0 := by bits
theorem sextet1_small (a b : UInt8) : (((a &&& 3) <<< 4) ||| (b >>> 4)) >>> 6 = 0 := by bits
theorem sextet1'_small (a : UInt8) : ((a &&& 3) <<< 4) >>> 6 = 0 := by simpa using sextet1_small a 0
theorem sextet2_small (b c : UInt8) : (((b &&& 15) <<< 2) ||| (c >>> 6)) >>> 6 = 0 := by bits
theorem sextet2'_small (b : UInt8) : ((b &&& 15) <<< 2) >>> 6 = 0 := by simpa using sextet2_small b 0
theorem sextet3_small (c : UInt8) : (c &&& 63) >>> 6 = 0 := by bits

theorem byte0 (a b : UInt8) :
    ((a >>> 2) <<< 2) ||| ((((a &&& 3) <<< 4) ||| (b >>> 4)) >>> 4) = a := by bits
theorem byte0' (a : UInt8) : ((a >>> 2) <<< 2) ||| (((a &&& 3) <<< 4) >>> 4) = a := by simpa using byte0 a 0
theorem byte1 (a b c : UInt8) :
    ((((a &&& 3) <<< 4) ||| (b >>> 4)) <<< 4) ||| ((((b &&& 15) <<< 2) ||| (c >>> 6)) >>> 2) = b := by
  bits
theorem byte1' (a b : UInt8) :
    ((((a &&& 3) <<< 4) ||| (b >>> 4)) <<< 4) ||| (((b &&& 15) <<< 2) >>> 2) = b := by simpa using byte1 a b 0
theorem byte2 (b c : UInt8) :
    ((((b &&& 15) <<< 2) ||| (c >>> 6)) <<< 6) ||| (c &&& 63) = c := by bits

/-! ## Theorems -/

theorem encode_length : ∀ b : Bytes, (encode b).length = 4 * ((b.length + 2) / 3)
  | [] => by simp [encode]
  | [_] => by simp [encode]
  | [_, _] => by simp [encode]
  | _ :: _ :: _ :: rest => by
    have ih := encode_length rest
    simp only [encode, List.length_cons, ih]
    omega

theorem encode_alphabet : ∀ (b : Bytes) (c : UInt8), c ∈ encode b → isAlphabet c = true ∨ c = 61
  | [], c, h => by simp [encode] at h
  | [_], c, h => by
    simp only [encode, List.mem_cons, List.not_mem_nil, or_false] at h
    rcases h with rfl | rfl | rfl | rfl <;> simp [isAlphabet_enc6]
  | [_, _], c, h => by
    simp only [encode, List.mem_cons, List.not_mem_nil, or_false] at h
    rcases h with rfl | rfl | rfl | rfl <;> simp [isAlphabet_enc6]
  | _ :: _ :: _ :: rest, c, h => by
    simp only [encode, List.mem_cons] at h
    rcases h with rfl | rfl | rfl | rfl | h
    · simp [isAlphabet_enc6]
    · simp [isAlphabet_enc6]
    · simp [isAlphabet_enc6]
    · simp [isAlphabet_enc6]
    · exact encode_alphabet rest c h

theorem decode_encode : ∀ b : Bytes, decode (encode b) = some b
  | [] => rfl
  | [a] => by
    simp [encode, decode, decodePadded, dec6_enc6, sextet0_small, sextet1'_small, byte0']
  | [a, b] => by
    simp [encode, decode, decodePadded, enc6_ne_pad, dec6_enc6, sextet0_small, sextet1_small, sextet2'_small,
      byte0, byte1']
  | a :: b :: c :: rest => by
    have ih := decode_encode rest
    simp [encode, decode, decodeFull, enc6_ne_pad, dec6_enc6, sextet0_small, sextet1_small, sextet2_small, sextet3_small,
      byte0, byte1, byte2, ih]

end Abverif.Crypto7.Base64

import Abverif.Model.Basic
import Abverif.Generated.WampTransport
/-
C13 — WAMP-over-RawSocket: opening handshake (both roles, Twisted and asyncio variants), the
4-octet accumulator across reads, length-prefixed framing (asyncio `PrefixProtocol.data_received`
and the contract of Twisted's `Int32StringReceiver` as `twisted/rawsocket.py` uses it), the
send-side size guard, the exception ladders of `stringReceived`, and the transport-gone notification.

Every numeric constant of the *models* comes from `Abverif.Gen.WampTransport` (regenerated from the
source on every run); the *Specs* use the literals of the WAMP RawSocket specification (0x7F, 2^(9+n), …).

Environment assumption (stated once, used by every `feed` below): after the protocol called
`transport.abortConnection()/abort()/close()/loseConnection()` from inside `dataReceived`, or after an
exception left `dataReceived`/`data_received`, the framework delivers no further reads (Twisted and
asyncio both stop reading at once; an exception in `data_received` makes asyncio force-close the
transport, Twisted's reactor drops the connection). The models therefore have a dead state (`Phase.dead`; a framing state
of `none`) and ignore input once they are in it. The harness delivers reads the same way.
-/
namespace Abverif.RawSocket
open Abverif
open Abverif.Gen

inductive Variant | twisted | asyncio
deriving DecidableEq, Repr

inductive Role | server | client
deriving DecidableEq, Repr

/-- exception classes that matter to the property (class names, never texts) -/
inductive Exc
  | transportLost | notImplemented | payloadExceeded | valueError | serializationError
  | protocolError | invalidUri | cancelled | other
deriving DecidableEq, Repr

def Exc.name : Exc → String
  | .transportLost => "TransportLost"
  | .notImplemented => "NotImplementedError"
  | .payloadExceeded => "PayloadExceededError"
  | .valueError => "ValueError"
  | .serializationError => "SerializationError"
  | .protocolError => "ProtocolError"
  | .invalidUri => "InvalidUriError"
  | .cancelled => "CancelledError"
  | .other => "Exception"

/-- what the protocol did to its transport -/
inductive TClose | none | abort | close
deriving DecidableEq, Repr

def TClose.name : TClose → String
  | .none => "open" | .abort => "abort" | .close => "close"

/-! ## Spec: the WAMP RawSocket handshake

first octet 0x7F; second octet: high nibble = length exponent `n` (the sender of the octet is willing
to *receive* up to `2^(9+n)` octets), low nibble = serializer; octets 3 and 4 reserved (zero). -/

/-- `2^(9+n)`, the maximum message length announced by exponent `n` -/
def maxLenOfExp (n : Nat) : Nat := 2 ^ (9 + n)

def hiNibble (o : UInt8) : Nat := o.toNat / 16
def loNibble (o : UInt8) : Nat := o.toNat % 16

/-- A handshake is acceptable iff the magic octet is right and the serializer is one the receiving
side supports (server: any of its serializers; client: the one it asked for). The asyncio variant
additionally insists on zero reserved octets; the Twisted variant does not look at them. -/
def acceptSpec (v : Variant) (supported : List Nat) (o1 o2 o3 o4 : UInt8) : Prop :=
  o1 = 0x7F ∧ loNibble o2 ∈ supported ∧ (v = .asyncio → o3 = 0 ∧ o4 = 0)

instance (v : Variant) (supported : List Nat) (o1 o2 o3 o4 : UInt8) :
    Decidable (acceptSpec v supported o1 o2 o3 o4) := by
  unfold acceptSpec; exact inferInstance

/-! ## Model: the handshake as the code evaluates it once 4 octets are there -/

structure HsOut where
  accepted : Bool
  ser : Nat               -- serializer id read from octet 2 (meaningful when the magic octet was right)
  maxSend : Option Nat    -- `_max_len_send` (Twisted; `None` until set) / `max_length_send` (asyncio) afterwards
  written : Bytes         -- octets written in reply
  tclose : TClose         -- abortConnection / transport.close() / nothing
  exc : Option Exc        -- exception that left `dataReceived` / `data_received`
deriving DecidableEq, Repr

/-- `bytes(bytearray([(exp << 4) | ser]))`: `ValueError` unless the value fits one octet -/
def replyOctet (exp ser : Nat) : Option UInt8 :=
  let v := (exp <<< 4) ||| ser
  if v < 256 then some (UInt8.ofNat v) else none

/-- `WampRawSocketServerProtocol.dataReceived` (twisted/rawsocket.py), the part run when 4 octets are in -/
def twServerHs (supported : List Nat) (exp : Nat) (o1 o2 _o3 _o4 : UInt8) : HsOut :=
  if o1.toNat ≠ WampTransport.twServerMagic then
    { accepted := false, ser := 0, maxSend := none, written := [], tclose := .abort, exc := none }
  else
    let maxSend := WampTransport.twServerPowBase ^ (WampTransport.twServerExpAdd + (o2.toNat >>> WampTransport.twServerShift))
    let ser := o2.toNat &&& WampTransport.twServerSerMask
    if supported.contains ser then
      match replyOctet exp ser with
      | some r =>
        { accepted := true, ser := ser, maxSend := some maxSend, written := [0x7F, r, 0, 0], tclose := .none, exc := none }
      | none =>
        { accepted := false, ser := ser, maxSend := some maxSend, written := [], tclose := .none, exc := some .valueError }
    else
      { accepted := false, ser := ser, maxSend := some maxSend, written := [], tclose := .abort, exc := none }

/-- `WampRawSocketClientProtocol.dataReceived` (twisted/rawsocket.py) -/
def twClientHs (mySer : Nat) (o1 o2 _o3 _o4 : UInt8) : HsOut :=
  if o1.toNat ≠ WampTransport.twClientMagic then
    { accepted := false, ser := 0, maxSend := none, written := [], tclose := .abort, exc := none }
  else
    let maxSend := WampTransport.twClientPowBase ^ (WampTransport.twClientExpAdd + (o2.toNat >>> WampTransport.twClientShift))
    let ser := o2.toNat &&& WampTransport.twClientSerMask
    if ser ≠ mySer then
      { accepted := false, ser := ser, maxSend := some maxSend, written := [], tclose := .abort, exc := none }
    else
      { accepted := true, ser := ser, maxSend := some maxSend, written := [], tclose := .none, exc := none }

/-- `RawSocketProtocol.parse_handshake` (asyncio/rawsocket.py): `Except` = `HandshakeError`;
`max_length_send` is assigned *before* the reserved octets are looked at. -/
def aioParseHandshake (o1 o2 o3 o4 : UInt8) : Except Unit (Nat × Nat) × Option Nat :=
  if o1.toNat ≠ WampTransport.aioMagic then (.error (), none)
  else
    let ser := o2.toNat &&& WampTransport.aioSerMask
    let lexp := o2.toNat >>> WampTransport.aioShift
    let ms := WampTransport.aioPowBase ^ (lexp + WampTransport.aioExpAdd)
    if o3.toNat ≠ 0 ∨ o4.toNat ≠ 0 then (.error (), some ms)
    else (.ok (ser, lexp), some ms)

def aioMaxSend (m : Option Nat) : Option Nat :=
  match m with
  | some x => some x
  | none => some WampTransport.aioDefaultMaxLength    -- class attribute `max_length_send = max_length`

/-- asyncio `RawSocketServerProtocol.process_handshake` + `WampRawSocketServerProtocol.supports_serializer`
+ the `HandshakeError → protocol_error → transport.close()` handler of `RawSocketProtocol.data_received`.
For an unsupported serializer `process_handshake` writes the error reply `7F | ERR_SERIALIZER_UNSUPPORTED << 4 | 00 00`
and raises `HandshakeError` (→ `transport.close()`).
Legacy (F12, repaired in /repo 77273b88): `supports_serializer` used to call `self.abort()`, which raises
`TransportLost` because no session is attached yet — the exception left `data_received`, nothing was written,
nothing closed. The translator reads whether that call is present (`aioServerAbortsOnUnsupported`), so
re-introducing it makes the model exhibit it again and `rs_refuse_clean` stops checking. -/
def aioServerHs (supported : List Nat) (exp : Nat) (o1 o2 o3 o4 : UInt8) : HsOut :=
  match aioParseHandshake o1 o2 o3 o4 with
  | (.error _, ms) =>
    { accepted := false, ser := 0, maxSend := aioMaxSend ms, written := [], tclose := .close, exc := none }
  | (.ok (ser, _), ms) =>
    if supported.contains ser then
      match replyOctet exp (ser &&& 0x0F) with
      | some r =>
        { accepted := true, ser := ser, maxSend := aioMaxSend ms, written := [UInt8.ofNat WampTransport.aioMagic, r, 0, 0], tclose := .none, exc := none }
      | none =>
        { accepted := false, ser := ser, maxSend := aioMaxSend ms, written := [], tclose := .none, exc := some .valueError }
    else if WampTransport.aioServerAbortsOnUnsupported then
      { accepted := false, ser := ser, maxSend := aioMaxSend ms, written := [], tclose := .none, exc := some .transportLost }
    else
      match replyOctet WampTransport.aioErrSerUnsupported (0 &&& 0x0F) with
      | some r =>
        { accepted := false, ser := ser, maxSend := aioMaxSend ms, written := [UInt8.ofNat WampTransport.aioMagic, r, 0, 0], tclose := .close, exc := none }
      | none =>
        { accepted := false, ser := ser, maxSend := aioMaxSend ms, written := [], tclose := .none, exc := some .valueError }

/-- asyncio `RawSocketClientProtocol.process_handshake` -/
def aioClientHs (mySer : Nat) (o1 o2 o3 o4 : UInt8) : HsOut :=
  match aioParseHandshake o1 o2 o3 o4 with
  | (.error _, ms) =>
    { accepted := false, ser := 0, maxSend := aioMaxSend ms, written := [], tclose := .close, exc := none }
  | (.ok (ser, _), ms) =>
    if ser = 0 then   -- "Server returned handshake error"
      { accepted := false, ser := ser, maxSend := aioMaxSend ms, written := [], tclose := .close, exc := none }
    else if mySer ≠ ser then
      { accepted := false, ser := ser, maxSend := aioMaxSend ms, written := [], tclose := .close, exc := none }
    else
      { accepted := true, ser := ser, maxSend := aioMaxSend ms, written := [], tclose := .none, exc := none }

/-- connection configuration the handshake reads -/
structure Cfg where
  variant : Variant
  role : Role
  supported : List Nat    -- server: keys of `factory._serializers`; client: `[own RAWSOCKET_SERIALIZER_ID]`
  exp : Nat               -- exponent announced in our reply (server); asyncio: `_length_exp`
  maxRecv : Nat           -- `MAX_LENGTH` / `max_length` in force once the handshake is complete
deriving Repr

def Cfg.mySer (c : Cfg) : Nat := c.supported.headD 0

def hsEval (c : Cfg) (o1 o2 o3 o4 : UInt8) : HsOut :=
  match c.variant, c.role with
  | .twisted, .server => twServerHs c.supported c.exp o1 o2 o3 o4
  | .twisted, .client => twClientHs c.mySer o1 o2 o3 o4
  | .asyncio, .server => aioServerHs c.supported c.exp o1 o2 o3 o4
  | .asyncio, .client => aioClientHs c.mySer o1 o2 o3 o4

/-! ### what each side announces

Twisted: `exp = ceil(log2(_max_message_size))`, `MAX_LENGTH = 2**exp`, octet `((exp - 9) << 4) | ser`.
asyncio: `_length_exp = 15`, `max_length = 2**24` (the `max_size` branch is dead code). -/

/-- `int(math.ceil(math.log(n, 2)))` for `n ≥ 1` (the harness checks the float formula against this
for every `512 ≤ n ≤ 2^24` in the thorough tier) -/
def clog2 (n : Nat) : Nat := if n ≤ 1 then 0 else Nat.log2 (n - 1) + 1

/-- the exponent nibble a Twisted endpoint with `_max_message_size = size` announces -/
def twAnnounceExp (size : Nat) : Nat := clog2 size - 9

/-- `MAX_LENGTH` of a Twisted endpoint after (client: before) the handshake -/
def twMaxRecv (size : Nat) : Nat := 2 ^ clog2 size

/-- the request the client writes in `connectionMade`/`connection_made` -/
def clientRequest (v : Variant) (exp ser : Nat) : Option Bytes :=
  match v with
  | .twisted => (replyOctet exp ser).map fun r => [0x7F, r, 0, 0]
  | .asyncio => (replyOctet exp ser).map fun r => [UInt8.ofNat WampTransport.aioMagic, r, 0, 0]

/-! ## Length-prefixed framing -/

inductive Ev
  | written (b : Bytes)                 -- octets written by the handshake
  | attach (ser : Nat) (maxSend : Nat)  -- session created, `onOpen(transport)`
  | string (p : Bytes)                  -- `stringReceived(p)`
  | tclose (k : TClose)                 -- transport closed / aborted by the protocol
  | raised (e : Exc)                    -- exception left `dataReceived`
deriving DecidableEq, Repr

/-- judgement of a 4-octet frame header -/
inductive Verdict
  | frame (kind len : Nat)
  | reject (evs : List Ev)
deriving DecidableEq, Repr

/-- the two framings share the receive loop and differ in how a header is judged and how a complete
frame is dispatched (`Bool` = the dispatch raised, i.e. control left `data_received`) -/
structure Framing where
  judge : UInt8 → UInt8 → UInt8 → UInt8 → Verdict
  dispatch : Nat → Bytes → List Ev × Bool

def be24 (b1 b2 b3 : UInt8) : Nat := b1.toNat * 65536 + b2.toNat * 256 + b3.toNat
def be32 (b0 b1 b2 b3 : UInt8) : Nat := b0.toNat * 16777216 + be24 b1 b2 b3

def be32enc (n : Nat) : Bytes :=
  [UInt8.ofNat (n / 16777216 % 256), UInt8.ofNat (n / 65536 % 256), UInt8.ofNat (n / 256 % 256), UInt8.ofNat (n % 256)]

/-- asyncio `PrefixProtocol.ping(data)`: `header = struct.pack("!L", len(data))`;
`transport.write(bytes(bytearray([FRAME_TYPE_PONG])) + header[1:]); transport.write(data)` — one frame of the type the
source names (read into `aioPingReplyType`), 24-bit length, the same payload. -/
def aioPingReply (p : Bytes) : Bytes :=
  UInt8.ofNat WampTransport.aioPingReplyType :: (be32enc p.length).drop 1 ++ p

/-- what `PrefixProtocol.data_received` does with a complete frame (`Bool` = an exception left `data_received`):
a data frame goes to `stringReceived`; a PING is answered with one PONG carrying the same payload; a PONG is consumed.
Legacy (F13, repaired in /repo 4c355c2c): `ping()`/`pong()` were `raise NotImplementedError()`;
the translator reads which it is (`aioPingRaises`, `aioPongRaises`), so re-introducing the `raise` makes the model raise
again and `prefix_never_raises` / `aio_serves` stop checking. -/
def aioDispatch (kind : Nat) (p : Bytes) : List Ev × Bool :=
  if kind = WampTransport.aioTypeData then ([.string p], false)
  else if kind = WampTransport.aioTypePing then
    (if WampTransport.aioPingRaises then ([.raised .notImplemented], true) else ([.written (aioPingReply p)], false))
  else
    (if WampTransport.aioPongRaises then ([.raised .notImplemented], true) else ([], false))

/-- asyncio `PrefixProtocol.data_received`: `frame_type = header[0] & 0b111`; `> FRAME_TYPE_PONG` →
`protocol_error("Invalid frame type")` (= `transport.close()`); 24-bit length `> max_length` →
`protocol_error("Frame too big")`. -/
def aioFraming (maxLength : Nat) : Framing where
  judge b0 b1 b2 b3 :=
    let ty := b0.toNat &&& WampTransport.aioTypeMask
    if ty > WampTransport.aioTypePong then .reject [.tclose .close]
    else
      let len := be24 b1 b2 b3
      if len > maxLength then .reject [.tclose .close] else .frame ty len
  dispatch := aioDispatch

/-- what the `lengthLimitExceeded(length)` override of twisted/rawsocket.py does (`twLengthLimitAction`, read from the
source): 0 — logs and calls `self.abort()` (`transport.abortConnection()`); 1 — legacy (N1, repaired in /repo
3817d6f2): `raise PayloadExceededError`, which left `dataReceived`;
otherwise — the base class behaviour `transport.loseConnection()`. -/
def twLimitEvents : List Ev :=
  if WampTransport.twLengthLimitAction = 0 then [.tclose .abort]
  else if WampTransport.twLengthLimitAction = 1 then [.raised .payloadExceeded]
  else [.tclose .close]

/-- Twisted `Int32StringReceiver.dataReceived` as used by `WampRawSocketProtocol`: 32-bit big-endian
length; `length > MAX_LENGTH` → `lengthLimitExceeded(length)` *before* the string is waited for, then `return`. -/
def twFraming (maxLength : Nat) : Framing where
  judge b0 b1 b2 b3 :=
    let len := be32 b0 b1 b2 b3
    if len > maxLength then .reject twLimitEvents else .frame 0 len
  dispatch _ p := ([.string p], false)

/-- the first four octets of a buffer and what follows them (`none`: fewer than four) -/
def split4 : Bytes → Option (UInt8 × UInt8 × UInt8 × UInt8 × Bytes)
  | b0 :: b1 :: b2 :: b3 :: rest => some (b0, b1, b2, b3, rest)
  | _ => none

/-- receive state of a live connection: `_buffer` / `_unprocessed` and the saved `_header`.
A connection that was closed / whose `data_received` raised is `none` (no further reads, see the
environment assumption at the top). -/
structure PSt where
  buf : Bytes
  hdr : Option (Nat × Nat)
deriving DecidableEq, Repr

def PSt.init : PSt := ⟨[], none⟩

/-- "do not recalculate header if available from previous call" -/
def verdict (F : Framing) (h : Option (Nat × Nat)) (b0 b1 b2 b3 : UInt8) : Verdict :=
  match h with
  | some (k, l) => .frame k l
  | none => F.judge b0 b1 b2 b3

/-- the `while remaining >= prefix_length` loop. `fuel` bounds the iterations (each consumes ≥ 4 octets). -/
def loop (F : Framing) : Nat → Option (Nat × Nat) → Bytes → Option PSt × List Ev
  | 0, h, buf => (some ⟨buf, h⟩, [])
  | fuel + 1, h, buf =>
    match split4 buf with
    | some (b0, b1, b2, b3, rest) =>
      match verdict F h b0 b1 b2 b3 with
      | .reject evs => (none, evs)                -- `protocol_error(..); return` / `lengthLimitExceeded`
      | .frame k l =>
        if l ≤ rest.length then
          let r := F.dispatch k (rest.take l)
          if r.2 then (none, r.1)                 -- the callback raised
          else
            let t := loop F fuel none (rest.drop l)
            (t.1, r.1 ++ t.2)
        else (some ⟨buf, some (k, l)⟩, [])        -- "save header"
    | none => (some ⟨buf, h⟩, [])

/-- `data_received(data)` once the handshake is done -/
def feed (F : Framing) (s : PSt) (d : Bytes) : Option PSt × List Ev :=
  loop F ((s.buf ++ d).length + 1) s.hdr (s.buf ++ d)

def feedAll (F : Framing) : Option PSt → List Bytes → Option PSt × List Ev
  | none, _ => (none, [])
  | some s, [] => (some s, [])
  | some s, c :: cs =>
    let t := feed F s c
    let u := feedAll F t.1 cs
    (u.1, t.2 ++ u.2)

/-! ### Spec: whole-stream length-prefix parser (no state, no saved header) -/

/-- parse complete frames off the front of `s`; returns the events and the unconsumed rest
(`none`: the stream was refused — header rejected or the callback raised) -/
def parse (F : Framing) : Nat → Bytes → List Ev × Option Bytes
  | 0, s => ([], some s)
  | fuel + 1, s =>
    match split4 s with
    | some (b0, b1, b2, b3, rest) =>
      match F.judge b0 b1 b2 b3 with
      | .reject evs => (evs, none)
      | .frame k l =>
        if l ≤ rest.length then
          let r := F.dispatch k (rest.take l)
          if r.2 then (r.1, none)
          else
            let t := parse F fuel (rest.drop l)
            (r.1 ++ t.1, t.2)
        else ([], some s)
    | none => ([], some s)

def parseStream (F : Framing) (s : Bytes) : List Ev × Option Bytes := parse F (s.length + 1) s

/-- wire form of one RawSocket frame of type `ty` (0 data, 1 ping, 2 pong) with a payload shorter than 2^24 -/
def frameHeader (ty len : Nat) : Bytes :=
  [UInt8.ofNat ty, UInt8.ofNat (len / 65536 % 256), UInt8.ofNat (len / 256 % 256), UInt8.ofNat (len % 256)]

def encodeFrame (ty : Nat) (p : Bytes) : Bytes := frameHeader ty p.length ++ p

/-! ## The connection: 4-octet accumulator, then framing -/

inductive Phase
  | handshake (acc : Bytes)     -- `_handshake_bytes` / `_buffer`, fewer than 4 octets
  | established (p : PSt)
  | dead                        -- closed, aborted, or an exception left `dataReceived`
deriving DecidableEq, Repr

def framingOf (c : Cfg) : Framing :=
  match c.variant with
  | .twisted => twFraming c.maxRecv
  | .asyncio => aioFraming c.maxRecv

def hsEvents (o : HsOut) : List Ev :=
  (if o.written.isEmpty then [] else [Ev.written o.written])
  ++ (if o.accepted then [Ev.attach o.ser (o.maxSend.getD 0)] else [])
  ++ (match o.tclose with | .none => [] | k => [Ev.tclose k])
  ++ (match o.exc with | none => [] | some e => [Ev.raised e])

def phaseOf : Option PSt → Phase
  | some p => .established p
  | none => .dead

/-- evaluate the handshake on the 4 accumulated octets and hand the rest of the read to the framing
(`if data: self.dataReceived(data)` / `if data: PrefixProtocol.data_received(self, data)`) -/
def finishHs (c : Cfg) (o1 o2 o3 o4 : UInt8) (rest : Bytes) : Phase × List Ev :=
  let o := hsEval c o1 o2 o3 o4
  if o.accepted then
    if rest.isEmpty then (.established PSt.init, hsEvents o)
    else
      let t := feed (framingOf c) PSt.init rest
      (phaseOf t.1, hsEvents o ++ t.2)
  else (.dead, hsEvents o)

/-- Twisted: `remaining = 4 - len(_handshake_bytes); _handshake_bytes += data[:remaining]; … data = data[remaining:]` -/
def twAccumulate (acc data : Bytes) : Bytes × Bytes :=
  let remaining := 4 - acc.length
  (acc ++ data.take remaining, data.drop remaining)

/-- asyncio: `_buffer += data; if len(_buffer) >= 4: … buf = _buffer[:4]; data = _buffer[4:]` -/
def aioAccumulate (acc data : Bytes) : Bytes × Bytes :=
  let b := acc ++ data
  if b.length ≥ 4 then (b.take 4, b.drop 4) else (b, [])

def accumulate (v : Variant) (acc data : Bytes) : Bytes × Bytes :=
  match v with
  | .twisted => twAccumulate acc data
  | .asyncio => aioAccumulate acc data

/-- one `dataReceived(data)` / `data_received(data)` call on a connection -/
def connFeed (c : Cfg) (ph : Phase) (data : Bytes) : Phase × List Ev :=
  match ph with
  | .dead => (.dead, [])
  | .established p =>
    let t := feed (framingOf c) p data
    (phaseOf t.1, t.2)
  | .handshake acc =>
    let a := accumulate c.variant acc data
    match split4 a.1 with                       -- `len(self._handshake_bytes) == 4` / `len(self._buffer) >= 4`
    | some (o1, o2, o3, o4, _) => finishHs c o1 o2 o3 o4 a.2
    | none => (.handshake a.1, [])

def connFeedAll (c : Cfg) : Phase → List Bytes → Phase × List Ev
  | ph, [] => (ph, [])
  | ph, d :: ds =>
    let t := connFeed c ph d
    let u := connFeedAll c t.1 ds
    (u.1, t.2 ++ u.2)

def Phase.init : Phase := .handshake []

/-! ## Send side -/

inductive SendOut
  | sent (wire : Bytes)     -- octets written: prefix + payload
  | error (e : Exc)         -- exception from `ITransport.send()`, nothing written
deriving DecidableEq, Repr

/-- exception class named by the generated code (0 `PayloadExceededError`, 1 `ValueError`, else other) -/
def excOfCode : Nat → Exc
  | 0 => .payloadExceeded
  | 1 => .valueError
  | _ => .other

/-- `min(limit, C)` as the send guards write it; `cap = 0` stands for "no `min` in the source" (legacy N2) -/
def capped (limit cap : Nat) : Nat := if cap = 0 then limit else min limit cap

/-- Twisted `send()`: `max_len_send = min(self._max_len_send, 2**24 - 1); if 0 < max_len_send < payload_len: raise
PayloadExceededError` else `sendString` (`struct.pack("!I", len) + data`).
asyncio `WampRawSocketMixinGeneral.send()`: `max_length_send = min(self.max_length_send, 2**24 - 1);
if payload_len > max_length_send: raise PayloadExceededError`
(legacy F14, repaired in /repo 11645fb6: only `sendString` checked and raised `ValueError("Data too big")`; the
translator reads the class raised on this path into `aioSendOverLimitExc`). `none` = the payload goes out.
Legacy (N2, repaired in /repo 8cc5721d): the guards compared with the announced limit alone, so
with exponent 15 a payload of exactly 2^24 octets went out with prefix `01 00 00 00`. The caps are read from the source
(`twSendFrameCap`, `aioSendFrameCap`, `aioSendStringFrameCap`; 0 = no cap). -/
def sendGuard (v : Variant) (maxLenSend len : Nat) : Option Exc :=
  match v with
  | .twisted =>
    let m := capped maxLenSend WampTransport.twSendFrameCap
    if 0 < m ∧ m < len then some .payloadExceeded else none
  | .asyncio =>
    if len > capped maxLenSend WampTransport.aioSendFrameCap then some (excOfCode WampTransport.aioSendOverLimitExc) else none

/-- asyncio `PrefixProtocol.sendString(data)` called directly (the second line of defence below `send()`):
`if l > min(self.max_length_send, 2**24 - 1): raise ValueError("Data too big")`, else prefix + data are written -/
def aioSendStringGuard (maxLenSend len : Nat) : Option Exc :=
  if len > capped maxLenSend WampTransport.aioSendStringFrameCap then some .valueError else none

def send (v : Variant) (maxLenSend : Nat) (payload : Bytes) : SendOut :=
  match sendGuard v maxLenSend payload.length with
  | some e => .error e
  | none => .sent (be32enc payload.length ++ payload)

/-- the longest payload a RawSocket frame can carry: its length field has 24 bits -/
def frameMax : Nat := 16777215

/-- Spec of the send side: a payload within the peer's announced maximum *that fits the 24-bit length field* goes out as
one data frame (type octet 0, 24-bit length, payload); any other is refused with `PayloadExceededError` and nothing is
written. (Exponent 15 announces 2^24, one more than a frame can carry.) -/
def sendGuardSpec (peerMax len : Nat) : Option Exc :=
  if len ≤ peerMax ∧ len ≤ frameMax then none else some .payloadExceeded

def sendSpec (peerMax : Nat) (payload : Bytes) : SendOut :=
  match sendGuardSpec peerMax payload.length with
  | some e => .error e
  | none => .sent (encodeFrame 0 payload)

/-! ## `stringReceived` exception ladders, and the transport-gone notification -/

inductive Action | carryOn | abort
deriving DecidableEq, Repr

/-- what `stringReceived` does when `unserialize` / `session.onMessage` raises `e`
(twisted: `CancelledError` is logged and the connection continues; everything else aborts;
asyncio: `ProtocolError` and `Exception` both abort) -/
def ladder (v : Variant) (e : Exc) : Action :=
  match v, e with
  | .twisted, .cancelled => .carryOn
  | _, _ => .abort

/-- lifecycle events of one transport object -/
inductive LEv | attach | lost
deriving DecidableEq, Repr

structure LSt where
  session : Bool     -- `_session is not None`
  told : Nat         -- how often `session.onClose` was called
deriving DecidableEq, Repr

/-- `connectionLost` / `_on_connection_lost` / `onClose`: `if self._session: self._session.onClose(..)`;
`self._session = None` -/
def lstep (s : LSt) : LEv → LSt
  | .attach => { s with session := true }
  | .lost => if s.session then { session := false, told := s.told + 1 } else s

def lrun (s : LSt) (h : List LEv) : LSt := h.foldl lstep s

end Abverif.RawSocket

import Abverif.Proofs.C05
/-
# C02: failing by closing handshake announces the status code, failing by drop does not write at all

`violation s code` is what every detected protocol violation (code 1002: header checks, continuation errors, close
code rules) and every invalid payload (code 1007: invalid UTF-8 in a text message or a close reason) goes through.
On an OPEN connection:
* `failByDrop = false`: exactly one close frame is recorded, with that status code and no reason, the connection is
  CLOSING and marked as failed by us (`fail_by_close_announces`);
* `failByDrop = true`: nothing is sent, the connection is CLOSED, dropped with abort, reported unclean
  (`fail_by_drop_drops`).
A second violation while CLOSING drops the connection (`second_violation_drops`).
-/
namespace Abverif.Ws

theorem sendCloseFrame_opened_closing (s : S) (c : Option Nat) (r : Option Bytes) (i : Bool) (ho : s.st = .opened) :
    (sendCloseFrame s c r i).st = .closing ∧ (sendCloseFrame s c r i).failedByMe = s.failedByMe := by
  obtain ⟨t, q, e, _⟩ := sendCloseFrame_opened_eq s c r i ho
  rw [e]
  exact ⟨rfl, (sendFrame_SendEq s 8 (closePayload c r) true 0 false 0).failedByMe⟩

theorem fail_by_close_announces (s : S) (code : Nat) (ho : s.st = .opened) (hf : s.cfg.failByDrop = false) :
    (violation s code).1.closeSent = s.closeSent ++ [(some code, none)] ∧
    (violation s code).1.st = .closing ∧ (violation s code).1.failedByMe = true ∧
    (violation s code).2 = false := by
  have hv : (violation s code).1 = sendCloseFrame { s with failedByMe := true } (some code) none false := by
    unfold violation
    rw [failConnection_fbc s code hf (by rw [ho]; decide), if_pos (by rw [ho]; decide)]
  have hv2 : (violation s code).2 = false := by
    unfold violation; simp [hf]
  obtain ⟨_, _, _, hcs⟩ := close_frame_on_wire { s with failedByMe := true } (some code) none false ho
  have hf2 := sendCloseFrame_opened_closing { s with failedByMe := true } (some code) none false ho
  rw [hv]
  exact ⟨hcs, hf2.1, hf2.2, hv2⟩

theorem fail_by_drop_drops (s : S) (code : Nat) (ho : s.st = .opened) (hf : s.cfg.failByDrop = true) :
    (violation s code).1.closeSent = s.closeSent ∧ (violation s code).1.sentOps = s.sentOps ∧
    (violation s code).1.st = .closed ∧ (violation s code).1.wasClean = false ∧
    (violation s code).1.log = s.log ++ [.closedResolved, .closeConn true] ∧ (violation s code).2 = true := by
  unfold violation
  rw [failConnection_fbd s code hf (by rw [ho]; decide)]
  exact ⟨rfl, rfl, rfl, rfl, rfl, hf⟩

theorem second_violation_drops (s : S) (code : Nat) (hc : s.st = .closing) (hf : s.cfg.failByDrop = false) :
    (violation s code).1.st = .closed ∧ (violation s code).1.closeSent = s.closeSent := by
  have h1 : s.st ≠ .closed := by rw [hc]; decide
  unfold violation
  rw [failConnection_fbc s code hf h1, if_neg (by simp [hc]), dropConnection_eq { s with failedByMe := true } false h1]
  exact ⟨rfl, rfl⟩

end Abverif.Ws

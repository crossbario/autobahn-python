import Abverif.Proofs.WsRefinement
/-
# What the RFC 6455 judge guarantees about everything it lets through — and, by `recv_refines_judge`, what the
engine guarantees about everything it delivers (C02, C16)

`judge_events_ok`: for EVERY octet stream, every event the judge emits is legal: a message respects the message size
limit, a text message (not compressed) is valid UTF-8 when validation is on, ping/pong payloads are at most 125
octets, a close event carries a legal code and a valid UTF-8 reason of at most 123 octets.
-/
namespace Abverif.Ws
open Abverif.WsSpec

/-- what may be delivered -/
def EvOk (c : Ctx) : Ev → Prop
  | .message p b cmp =>
      (0 < c.maxMsg → p.length ≤ c.maxMsg) ∧
      (b = false → cmp = false → c.utf8validate = true → utf8Valid p = true)
  | .ping p => p.length ≤ 125
  | .pong p => p.length ≤ 125
  | .close code reason =>
      (∀ cd, code = some cd → closeCodeOk cd = true) ∧
      (∀ r, reason = some r → utf8Valid r = true ∧ r.length ≤ 123)

/-- between frames: the octets accumulated of an open message are within the declared total, and that within the limit;
the validator has run over them; text is validated when the context says so; the events so far are legal -/
structure JInv (c : Ctx) (j : J) : Prop where
  accTotal : j.inside = true → j.acc.length ≤ j.total ∧ (0 < c.maxMsg → j.total ≤ c.maxMsg)
  utf8 : j.inside = true → (j.validate && !j.compressed) = true → j.utf8 = u8run .s0 j.acc
  text : j.inside = true → j.binary = false → j.validate = c.utf8validate
  evs : ∀ e ∈ j.evs, EvOk c e

theorem JInv.init (c : Ctx) : JInv c {} :=
  ⟨fun h => (by cases h), fun h => (by cases h), fun h => (by cases h), fun e he => (by cases he)⟩

theorem JInv.addEv {c : Ctx} {j : J} (h : JInv c j) (e : Ev) (he : EvOk c e) : JInv c { j with evs := j.evs ++ [e] } :=
  ⟨h.accTotal, h.utf8, h.text, fun x hx => by
    rcases List.mem_append.mp hx with h1 | h1
    · exact h.evs x h1
    · simp at h1; subst h1; exact he⟩

def StepOk (c : Ctx) : JStep → Prop
  | .next j' _ => JInv c j'
  | .done evs _ _ => ∀ e ∈ evs, EvOk c e

/-- a complete control frame adds a ping or pong of at most 125 octets, or ends the run with a legal close event -/
theorem judgeControl_inv (c : Ctx) (j : J) (len opcode : Nat) (un after : Bytes) (h : JInv c j)
    (hlen : un.length ≤ 125) : StepOk c (judgeControl j len opcode un after) := by
  by_cases h9 : opcode = 9
  · subst h9; exact h.addEv (.ping un) hlen
  by_cases h10 : opcode = 10
  · subst h10; exact h.addEv (.pong un) hlen
  rw [judgeControl_close j len opcode un after h9 h10]
  cases hcode : (closeCodeOf un).all closeCodeOk with
  | false => exact h.evs
  | true =>
    cases hreason : (closeReasonOf un).all utf8Valid with
    | false => exact h.evs
    | true =>
      refine (h.addEv (.close _ _) ⟨(Option.all_eq_true _ _).mp hcode, fun r hr =>
        ⟨(Option.all_eq_true _ _).mp hreason r hr, ?_⟩⟩).evs
      -- the reason is what is behind the two octets of the code, in a payload of at most 125
      unfold closeReasonOf at hr
      split at hr
      · cases hr; simp only [List.length_drop]; omega
      · cases hr

/-- the bookkeeping after a data frame header -/
structure EnterFacts (c : Ctx) (j j1 : J) (plen : Nat) : Prop where
  inside : j1.inside = true
  evs : j1.evs = j.evs
  accTotal : j1.acc.length + plen ≤ j1.total
  utf8 : (j1.validate && !j1.compressed) = true → j1.utf8 = u8run .s0 j1.acc
  text : j1.binary = false → j1.validate = c.utf8validate

theorem JInv.enter {c : Ctx} {j : J} (hi : JInv c j) (h : Hd) (plen : Nat)
    (hop : j.inside = false → h.opcode = 1 ∨ h.opcode = 2) : EnterFacts c j (j.enter c h plen) plen := by
  cases hin : j.inside with
  | false =>
    -- a new message: nothing accumulated, the validator at the start; its first frame is text or binary
    rw [enter_first c j h plen hin]
    refine ⟨rfl, rfl, Nat.le_of_eq (by simp), fun _ => rfl, fun hb => ?_⟩
    have h1 : h.opcode = 1 := (hop hin).resolve_right (by simpa using hb)
    simp [h1]
  | true =>
    rw [enter_cont c j h plen hin]
    exact ⟨hin, rfl, Nat.add_le_add_right (hi.accTotal hin).1 plen, hi.utf8 hin, hi.text hin⟩

/-- the payload of a complete frame joins the message -/
theorem EnterFacts.after {c : Ctx} {j j1 : J} {plen : Nat} {un : Bytes} (ef : EnterFacts c j j1 plen) (hi : JInv c j)
    (hl : un.length = plen) (hmax : 0 < c.maxMsg → j1.total ≤ c.maxMsg) : JInv c (j1.after un) := by
  refine ⟨fun _ => ⟨?_, hmax⟩, fun _ hv => ?_, fun _ hb => ef.text hb, ?_⟩
  · show (j1.acc ++ un).length ≤ j1.total
    have := ef.accTotal
    rw [List.length_append]; omega
  · show uAfter j1 un = u8run .s0 (j1.acc ++ un)
    have hv : (j1.validate && !j1.compressed) = true := hv
    unfold uAfter
    rw [if_pos hv, ef.utf8 hv, ← u8run_append]
  · show ∀ e ∈ j1.evs, EvOk c e
    rw [ef.evs]; exact hi.evs

/-- a message that does not end inside a code point is delivered: it is within the limit and, if text, valid -/
theorem JInv.deliver {c : Ctx} {j : J} (hi : JInv c j) (hin : j.inside = true)
    (hend : (j.validate && !j.compressed && decide (j.utf8 ≠ .s0)) = false) : JInv c j.deliver := by
  refine ⟨fun hx => (by cases hx), fun hx => (by cases hx), fun hx => (by cases hx),
    (hi.addEv (.message j.acc j.binary j.compressed) ⟨fun hpos => ?_, fun hb hcmp hval => ?_⟩).evs⟩
  · have := hi.accTotal hin
    exact Nat.le_trans this.1 (this.2 hpos)
  · have hv : j.validate = true := by rw [hi.text hin hb]; exact hval
    have hus : j.utf8 = .s0 := by simpa [hv, hcmp] using hend
    unfold utf8Valid
    rw [← hi.utf8 hin (by simp [hv, hcmp]), hus]
    rfl

/-- a data frame keeps the bookkeeping consistent; a message it completes is within the limit and, if text, valid -/
theorem judgeData_inv (c : Ctx) (j : J) (len : Nat) (h : Hd) (plen : Nat) (un : Bytes) (complete : Bool)
    (after : Bytes) (hi : JInv c j) (hun : complete = true → un.length = plen)
    (hop : j.inside = false → h.opcode = 1 ∨ h.opcode = 2) :
    StepOk c (judgeData c j len h plen un complete after) := by
  have ef := hi.enter h plen hop
  have hdone : ∀ v, StepOk c (.done (j.enter c h plen).evs v len) := by
    intro v; show ∀ e ∈ (j.enter c h plen).evs, EvOk c e; rw [ef.evs]; exact hi.evs
  cases hlim : ((0 < c.maxMsg && c.maxMsg < (j.enter c h plen).total) || (0 < c.maxFrame && c.maxFrame < plen)) with
  | true => rw [judgeData_over c j len h plen un complete after hlim]; exact hdone _
  | false =>
    have hl := Bool.or_eq_false_iff.mp hlim
    rw [judgeData_within c j len h plen un complete after hl.1 hl.2]
    generalize j.enter c h plen = j1 at *
    by_cases hrej : uAfter j1 un = .rej
    · rw [if_pos hrej]; exact hdone _
    rw [if_neg hrej]
    cases hc : complete with
    | false => exact hdone _
    | true =>
      have hafter : JInv c (j1.after un) := by
        refine ef.after hi (hun hc) fun hpos => ?_
        simpa [hpos] using hl.1
      cases hfin : h.fin with
      | false => exact hafter
      | true =>
        cases hend : ((j1.after un).validate && !(j1.after un).compressed && decide (uAfter j1 un ≠ .s0)) with
        | true => exact hdone _
        | false => exact hafter.deliver ef.inside hend

theorem judgeStep_inv (c : Ctx) (j : J) (buf : Bytes) (hi : JInv c j) : StepOk c (judgeStep c j buf) := by
  match buf with
  | [] => exact hi.evs
  | [_] => exact hi.evs
  | o0 :: o1 :: rest2 =>
    rw [judgeStep_cons c j o0 o1 rest2 _ rfl]
    generalize Hd.ofOctets o0 o1 = h
    cases hok : headerOk c j.inside h.fin h.rsv h.opcode h.masked h.len7 with
    | false => exact hi.evs
    | true =>
      simp only [Bool.not_true, Bool.false_eq_true, if_false]
      split
      · exact hi.evs
      · split
        · exact hi.evs
        · unfold judgeBody
          split
          · rename_i hop
            split
            · exact hi.evs
            · -- a control frame carries no extended length: its payload is at most 125 octets
              have hc := (headerOk_opcode c j.inside h hok).1 hop
              have hp : h.plen rest2 = h.len7 := if_pos (by omega)
              apply judgeControl_inv c j _ _ _ _ hi
              rw [unmaskAvail_length, List.length_take, hp]
              omega
          · rename_i hop
            apply judgeData_inv c j _ h _ _ _ _ hi
            · intro hcomp
              rw [unmaskAvail_length, List.length_take]
              simp only [ge_iff_le, decide_eq_true_eq] at hcomp
              omega
            · exact (headerOk_opcode c j.inside h hok).2 hop

theorem judgeFrom_events_ok (c : Ctx) : ∀ (n : Nat) (j : J) (buf : Bytes), JInv c j →
    ∀ e ∈ (judgeFrom c n j buf).1, EvOk c e := by
  intro n
  induction n with
  | zero => intro j buf hi; exact hi.evs
  | succ n ih =>
    intro j buf hi
    have hs := judgeStep_inv c j buf hi
    rw [WsSpec.judgeFrom]
    cases hjs : judgeStep c j buf with
    | next j' rest => rw [hjs] at hs; exact ih j' rest hs
    | done evs v r => rw [hjs] at hs; exact hs

/-- whatever the octet stream, every event the judge emits is legal -/
theorem judge_events_ok (c : Ctx) (stream : Bytes) : ∀ e ∈ (judge c stream).1, EvOk c e :=
  judgeFrom_events_ok c _ {} stream (JInv.init c)

/-! ### transfer to the engine -/

/-- **everything the engine delivers is legal** — any stream, any segmentation, both roles -/
theorem delivered_events_ok (cfg : Cfg) (hf : cfg.failByDrop = true) (chunks : List Bytes)
    (hne : ∀ ch ∈ chunks, ch ≠ []) (hnil : chunks ≠ []) :
    ∀ e ∈ evsOf (feed (start cfg) chunks).log, EvOk (Ctx.ofCfg cfg) e := by
  obtain ⟨s', hsim, hag⟩ := recv_refines_judge_fresh cfg hf chunks hne hnil
  rw [hsim.log]
  exact fun e he => judge_events_ok (Ctx.ofCfg cfg) chunks.flatten e (hag.evs_sub e he)

/-- **C16**: no message longer than `maxMessagePayloadSize` is ever delivered -/
theorem delivered_message_within_limit (cfg : Cfg) (hf : cfg.failByDrop = true) (chunks : List Bytes)
    (hne : ∀ ch ∈ chunks, ch ≠ []) (hnil : chunks ≠ [])
    (p : Bytes) (b cmp : Bool) (hm : Out.onMessage p b cmp ∈ (feed (start cfg) chunks).log)
    (hpos : 0 < cfg.maxMsg) : p.length ≤ cfg.maxMsg :=
  (delivered_events_ok cfg hf chunks hne hnil _ (mem_evsOf hm rfl)).1 hpos

/-- **C02**: every uncompressed text message delivered is valid UTF-8 (when validation is on) -/
theorem delivered_text_valid (cfg : Cfg) (hf : cfg.failByDrop = true) (chunks : List Bytes)
    (hne : ∀ ch ∈ chunks, ch ≠ []) (hnil : chunks ≠ [])
    (p : Bytes) (hm : Out.onMessage p false false ∈ (feed (start cfg) chunks).log)
    (hv : cfg.utf8validate = true) : utf8Valid p = true :=
  (delivered_events_ok cfg hf chunks hne hnil _ (mem_evsOf hm rfl)).2 rfl rfl hv

/-- **C02**: ping payloads delivered (and echoed) are at most 125 octets -/
theorem delivered_ping_short (cfg : Cfg) (hf : cfg.failByDrop = true) (chunks : List Bytes)
    (hne : ∀ ch ∈ chunks, ch ≠ []) (hnil : chunks ≠ [])
    (p : Bytes) (hm : Out.onPing p ∈ (feed (start cfg) chunks).log) : p.length ≤ 125 :=
  delivered_events_ok cfg hf chunks hne hnil _ (mem_evsOf hm rfl)

end Abverif.Ws

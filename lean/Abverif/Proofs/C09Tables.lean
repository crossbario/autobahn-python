import Abverif.Model.Utf8
/-
C09 — the shipped tables are the RFC automaton: all 9 × 256 cells of the Python tuple, of the C table and of the
C macro, each REGENERATED from /repo on every run, against the hand-written `rfcStep`. Kernel-evaluated
(`decide +kernel` on a Bool-valued sweep; no axioms beyond propext/Quot.sound).
-/
namespace Abverif.Utf8

def agree (f g : Nat → Nat → Nat) : Bool :=
  (List.range 9).all fun s => (List.range 256).all fun o => f s o == g s o

theorem agree_spec (f g : Nat → Nat → Nat) (h : agree f g = true) :
    ∀ s, s < 9 → ∀ o, o < 256 → f s o = g s o := by
  intro s hs o ho
  simp only [agree, List.all_eq_true, List.mem_range, beq_iff_eq] at h
  exact h s hs o ho

/-- the same sweep for a table `T` in two stages: octet to class, then row `s` of 16 classes from cell 256 on. The class
`T o` is matched against a numeral `c` first, so that the second index `256 + s * 16 + c` is a closed term per cell:
with `T o` inside it every pair `(s, o)` unfolds the 400-leaf table anew -/
def agreeTable (T : Nat → Nat) : Bool :=
  (List.range 256).all fun o => (List.range 16).any fun c =>
    T o == c && (List.range 9).all fun s => T (256 + s * 16 + c) == rfcStep s o

theorem agreeTable_spec (T : Nat → Nat) (h : agreeTable T = true) :
    ∀ s, s < 9 → ∀ o, o < 256 → T (256 + s * 16 + T o) = rfcStep s o := by
  intro s hs o ho
  simp only [agreeTable, List.all_eq_true, List.any_eq_true, List.mem_range, Bool.and_eq_true, beq_iff_eq] at h
  obtain ⟨c, _, hc, hrow⟩ := h o ho
  rw [hc]; exact hrow s hs

/-- `UTF8VALIDATOR_DFA` of utf8validator.py, indexed as `validate` indexes it -/
theorem tablePy_eq_rfc : ∀ s, s < 9 → ∀ o, o < 256 → pyStep s o = rfcStep s o := by
  simp only [pyStep, Nat.shiftLeft_eq]
  exact agreeTable_spec _ (by decide +kernel)

/-- `UTF8VALIDATOR_DFA[]` of _utf8validator.c, indexed as `_nvx_utf8vld_validate_table` indexes it -/
theorem tableC_eq_rfc : ∀ s, s < 9 → ∀ o, o < 256 → cTableStep s o = rfcStep s o :=
  agreeTable_spec _ (by decide +kernel)

/-- the `DFA_TRANSITION` macro of _utf8validator.c -/
theorem unrolledC_eq_rfc : ∀ s, s < 9 → ∀ o, o < 256 → cUnrolledStep s o = rfcStep s o :=
  agree_spec _ _ (by decide +kernel)

/-- the constants read from both sources. `validatePy` compares with `UTF8_ACCEPT` / `UTF8_REJECT` of utf8validator.py;
the C functions compare with the literals 0 and 1, so the C macros and the two table
lengths enter no model and are only held to their values here -/
theorem consts_eq_rfc : Gen.pyAccept = 0 ∧ Gen.pyReject = 1 ∧ Gen.cAccept = 0 ∧ Gen.cReject = 1 ∧
    Gen.tablePyLen = 400 ∧ Gen.tableCLen = 400 := by decide

/-- the C loops run their body also when entered in the reject state (`while (i < length)`, no `&& state != 1`):
the repair of finding F1 (/repo c2c187d5). Re-introducing the guard flips a generated constant and breaks `nvx_eq_py`. -/
theorem loops_run_in_reject : Gen.tableLoopGuardsReject = false ∧ Gen.unrolledLoopGuardsReject = false := by decide

end Abverif.Utf8

import Abverif.Proofs.C12
/-
C12 — negotiation soundness at the level of the two WHOLE handshakes (multi-offer selection included).

`Proofs/C12.lean` proves compatibility for the pipeline `negotiate` (one offer, rendered and re-parsed). The real
server walks a list of offers (`collectOffers`, `applyPolicy`: several permessage-deflate offers with different
parameters, other compression kinds, unknown extensions in between) and the real client walks the whole parsed response
header (`clientLoop`). The theorems here close that gap: whatever request header the server read and whichever offer its
policy picked, a client that completes its handshake on the server's rendered response holds parameters compatible with
the server's in both directions, and the response is permitted by an offer that really was in the request header.
-/
namespace Abverif.Pmce
open Abverif.DeflateConsts

/-- `PerMessageDeflateOffer.parse` only returns offers the constructor lets through -/
theorem Offer.parse_guard (ps : Params) (o : Offer) (h : Offer.parse ps = some o) : o.guard = true := by
  simp only [Offer.parse, Option.bind_eq_some_iff] at h
  obtain ⟨o', _, h⟩ := h
  split at h
  · rename_i hg; cases h; exact hg
  · cases h

theorem parseAnyOffer_deflate (n : List Char) (ps : Params) (o : Offer)
    (h : parseAnyOffer n ps = some (some (.deflate o))) : n = extensionName ∧ Offer.parse ps = some o := by
  unfold parseAnyOffer at h
  split at h
  · rename_i hn
    simpa [hn] using h
  · split at h
    · simp at h
    · split at h <;> simp at h

/-- every offer the server collected was parsed from an entry of the request header carrying that extension's name -/
theorem collectOffers_deflate_mem (exts : List (List Char × Params)) (offers : List AnyOffer) (o : Offer)
    (h : collectOffers exts = some offers) (hm : AnyOffer.deflate o ∈ offers) :
    ∃ ps, (extensionName, ps) ∈ exts ∧ Offer.parse ps = some o := by
  induction exts generalizing offers with
  | nil => simp [collectOffers] at h; subst h; simp at hm
  | cons e rest ih =>
    obtain ⟨n, ps⟩ := e
    simp only [collectOffers] at h
    split at h
    · obtain ⟨ps', hps', hp⟩ := ih offers h hm
      exact ⟨ps', List.mem_cons_of_mem _ hps', hp⟩
    · cases h
    · rename_i o1 ho1
      simp only [Option.map_eq_some_iff] at h
      obtain ⟨offs, hr, rfl⟩ := h
      rcases List.mem_cons.mp hm with rfl | hin
      · obtain ⟨rfl, hp⟩ := parseAnyOffer_deflate n ps o ho1
        exact ⟨ps, List.mem_cons_self, hp⟩
      · obtain ⟨ps', hps', hp⟩ := ih offs hr hin
        exact ⟨ps', List.mem_cons_of_mem _ hps', hp⟩

/-- **the policy's pick is one of the offers.** Whatever the list of offers, a permessage-deflate result of
`applyPolicy` is the accept of an offer that is in the list, built with the policy's arguments, and its constructor
guard passed. -/
theorem applyPolicy_deflate (pol : ServerPolicy) (offers : List AnyOffer) (s : List Char) (p : Pmce)
    (h : applyPolicy pol offers = some (s, .deflate p)) :
    ∃ o x, AnyOffer.deflate o ∈ offers ∧ pol.deflate = some x ∧ (x.on o).guard = true
      ∧ s = (x.on o).render ∧ p = Pmce.fromOfferAccept true (x.on o) := by
  induction offers with
  | nil => simp [applyPolicy] at h
  | cons a rest ih =>
    simp only [applyPolicy] at h
    split at h
    · obtain ⟨o, x, hm, hx, hg, hs, hp⟩ := ih h
      exact ⟨o, x, List.mem_cons_of_mem _ hm, hx, hg, hs, hp⟩
    · rename_i r hr
      subst h
      cases a with
      | deflate o =>
        simp only [acceptOne, Option.map_eq_some_iff] at hr
        obtain ⟨x, hx, hr⟩ := hr
        split at hr
        · rename_i hg
          simp only [Option.some.injEq, Prod.mk.injEq, AnyPmce.deflate.injEq] at hr
          exact ⟨o, x, List.mem_cons_self, hx, hg, hr.1.symm, hr.2.symm⟩
        · cases hr
      | bzip2 o | brotli o =>
        simp only [acceptOne, Option.map_eq_some_iff] at hr
        obtain ⟨x, _, hr⟩ := hr
        split at hr <;> simp at hr

theorem response_header_single (a : OfferAccept) (ho : a.offer.guard = true) (ha : a.guard = true) :
    ∃ rps, parseExtensionsHeader a.render = [(extensionName, rps)] ∧ Response.parse rps = some a.response :=
  a.parse_header ho ha

/-- a permessage-deflate answer of the server was built, with some accept arguments `x`, for an offer the request header
carried, and passed the constructor guard (that `x` is the policy's is `applyPolicy_deflate`'s to say; nothing below
needs it) -/
theorem serverHandshake_deflate (spol : ServerPolicy) (hdr s : List Char) (p : Pmce)
    (hs : serverHandshake spol hdr = .ok (some s) (some (.deflate p))) :
    ∃ (o : Offer) (x : AcceptArgs) (ps : Params), (extensionName, ps) ∈ parseExtensionsHeader hdr
      ∧ Offer.parse ps = some o ∧ (x.on o).guard = true
      ∧ s = (x.on o).render ∧ p = Pmce.fromOfferAccept true (x.on o) := by
  unfold serverHandshake at hs
  split at hs
  · cases hs
  · rename_i offers hco
    split at hs
    · cases hs
    · rename_i s' p' hap
      simp only [HsResult.ok.injEq, Option.some.injEq] at hs
      obtain ⟨rfl, rfl⟩ := hs
      obtain ⟨o, x, hm, _, hg, hs, hp⟩ := applyPolicy_deflate spol offers _ _ hap
      obtain ⟨ps, hps, hpo⟩ := collectOffers_deflate_mem _ offers o hco hm
      exact ⟨o, x, ps, hps, hpo, hg, hs, hp⟩

/-- a client that completes on a rendered response holds the object its policy built from the parameters written -/
theorem clientHandshake_deflate (cpol : ClientPolicy) (a : OfferAccept) (ho : a.offer.guard = true)
    (ha : a.guard = true) (cp : Option AnyPmce) (hc : clientHandshake cpol a.render = .ok none cp) :
    ∃ y : RAcceptArgs, (y.on a.response).guard = true
      ∧ cp = some (.deflate (Pmce.fromResponseAccept false (y.on a.response))) := by
  obtain ⟨rps, hl, hrp⟩ := response_header_single a ho ha
  rw [clientHandshake_eq, hl] at hc
  dsimp only at hc
  split at hc
  · rename_i p hacc
    simp only [acceptResponse, if_true, hrp, Option.bind_some, Option.some.injEq, Option.bind_eq_some_iff] at hacc
    obtain ⟨y, _, hacc⟩ := hacc
    split at hacc
    · rename_i hyg
      exact ⟨y, hyg, hacc ▸ (HsResult.ok.inj hc).2.symm⟩
    · cases hacc
  · cases hc

/-- **whole-handshake soundness (permessage-deflate).** For EVERY request header value (any number of offers of any
kind, unknown extensions in between), every server policy and every client policy: if the server completes with a
permessage-deflate response `s` and the client completes its handshake on `s`, then
* `s` was built for an offer `o` that the request header really carried, and what the client parses from `s` is
  permitted by that offer (RFC 7692 §7.1: server parameters only as requested, client window only if the offer
  allowed it);
* the client ends up with a permessage-deflate object, and the two ends are compatible in both directions
  (inflater window ≥ deflater window; an inflater that forgets its context only faces a deflater that does) —
  exactly the hypothesis `lossless` needs. -/
theorem handshake_compatible (spol : ServerPolicy) (cpol : ClientPolicy) (hdr s : List Char)
    (sp : AnyPmce) (cp : Option AnyPmce)
    (hs : serverHandshake spol hdr = .ok (some s) (some sp))
    (hd : ∃ p, sp = .deflate p)
    (hc : clientHandshake cpol s = .ok none cp) :
    ∃ (o : Offer) (a : OfferAccept) (p q : Pmce) (ps : Params),
      (extensionName, ps) ∈ parseExtensionsHeader hdr ∧ Offer.parse ps = some o
      ∧ a.offer = o ∧ s = a.render ∧ permittedBy o a.response
      ∧ sp = .deflate p ∧ cp = some (.deflate q)
      ∧ dirCompatible p q ∧ dirCompatible q p := by
  obtain ⟨p, rfl⟩ := hd
  obtain ⟨o, x, ps, hps, hpo, hg, rfl, rfl⟩ := serverHandshake_deflate spol hdr s p hs
  obtain ⟨y, hyg, rfl⟩ := clientHandshake_deflate cpol (x.on o) (Offer.parse_guard ps o hpo) hg cp hc
  have hcc := compat_core (x.on o) y hg hyg
  exact ⟨o, x.on o, _, _, ps, hps, hpo, rfl, rfl, (x.on o).response_permitted hg, rfl, rfl, hcc.1, hcc.2⟩

/-- the hypotheses of `handshake_compatible` are met by a request carrying an unknown extension, a permessage-bzip2
offer the server does not enable, and TWO permessage-deflate offers: the first one the policy can serve is picked
(here with the server's own `window_bits = 10` override), and a client with an override of its own completes on the
rendered response. -/
example :
    let spol : ServerPolicy := ⟨some ⟨false, 0, none, some 10, none⟩, none, none⟩
    let cpol : ClientPolicy := ⟨some ⟨some true, none, some 1⟩, none, none⟩
    let hdr := "x-foo; a=1, permessage-bzip2, permessage-deflate; server_max_window_bits=10, permessage-deflate; client_max_window_bits".toList
    (match serverHandshake spol hdr with
     | .ok (some s) (some (.deflate p)) =>
        p.sMwb == 10 && (match clientHandshake cpol s with
                         | .ok none (some (.deflate q)) => q.sMwb == 10 && q.cNct
                         | _ => false)
     | _ => false) = true := by
  decide +kernel

end Abverif.Pmce

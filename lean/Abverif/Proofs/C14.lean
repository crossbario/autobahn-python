import Abverif.Proofs.Lemmas.C14Checks
import Abverif.Proofs.Lemmas.C14Fire
import Abverif.Proofs.Lemmas.C14Pol
import Abverif.Proofs.Lemmas.C14Stop
/-!
C14 — components reconnect within their retry budget and finish exactly once.

The Spec clauses are theorems about `Abverif.Comp.run (init cfg trs zs) h` for an ARBITRARY event history `h` (no
length bound), arbitrary transport lists / retry parameters / jitter samples `zs`, both framework flavours
(`cfg.aio`), with or without main, classifier and listeners.  `Fresh trs` says the transports start with zeroed
counters (what `_Transport.__init__` does).  The property clauses are the Spec monitors of
`Abverif/Model/Component.lean` (budgets count from the transport's last successful join).  The theorems on what
stop() does in a given phase (`stop_ends_loop`, `stop_while_waiting`, `stop_completes_*`) are about an arbitrary
state `s`.

One clause is not met by the code (hence by the faithful model): a raising main does not fail start().  Completion
polarity is therefore proved for histories without a raising main (`_partial`) and its negation on a concrete
witness (`main_raises_not_error`), which replays on the real code (known_findings.d/C14.jsonl).
-/
namespace Abverif.Comp
open Spec

/-- transports as `_Transport.__init__` leaves them -/
def Fresh (trs : List Tr) : Prop := ∀ t ∈ trs, t.attempts = 0 ∧ t.permFail = false

theorem fresh_new (mr : Int) (a b g j : Q) : Fresh [Tr.new mr a b g j] := by
  intro t ht; simp at ht; subst ht; simp [Tr.new]

theorem rel_init (cfg : Cfg) (trs : List Tr) (zs : List Q) (hf : Fresh trs) :
    Rel (confOf trs cfg.listeners) (init cfg trs zs) {} := by
  refine ⟨⟨rfl, ?_, rfl⟩, ?_⟩
  · intro i t hg
    have hg : trs[i]? = some t := hg
    have hm := hf t (List.mem_of_getElem? hg)
    refine ⟨by simp [confOf, hg], by simp [confOf, hg], by simp [hm.1], by simp [hm.1], by simp [hm.2]⟩
  · simp [PhaseOK, init, startOf]

theorem run_cfg (s : State) (es : List Event) : (run s es).1.cfg = s.cfg := by
  induction es generalizing s with
  | nil => rfl
  | cons e es ih => simp only [run]; rw [ih, step_cfg]

theorem run_ok {c : Conf} {s : State} {k : Core} (h : Rel c s k) (es : List Event) : StepOK c k (run s es) :=
  run_accepted (ChecksOK.monitor c) es (fun e _ _ _ h => step_ok h e) h

/-- At most `max_retries + 1` connection attempts per transport since that transport's last successful
join (`max_retries = −1`: unbounded, `< −1`: none at all), for every history and every configuration. -/
theorem budget (cfg : Cfg) (trs : List Tr) (zs : List Q) (hf : Fresh trs) (h : List Event) :
    budgetSpec (confOf trs cfg.listeners) (run (init cfg trs zs) h).2 = true :=
  (run_ok (rel_init cfg trs zs hf) h).chk.budget

example : Fresh [Tr.new 1 ⟨8, 1⟩ ⟨1, 1⟩ ⟨2, 1⟩ ⟨0, 1⟩] := fresh_new _ _ _ _ _

/-- with `max_retries = −1` the number of attempts is indeed unbounded: five refusals, five attempts on transport 0
(and the spec accepts them) -/
example :
    let r := run (init ⟨false, false, false, []⟩ [Tr.new (-1) ⟨8, 1⟩ ⟨1, 1⟩ ⟨2, 1⟩ ⟨0, 1⟩] [])
      [.start, .outcome .refused false, .delayElapsed, .outcome .refused false, .delayElapsed,
       .outcome .refused false, .delayElapsed, .outcome .refused false, .delayElapsed]
    (r.1.trs.map (·.attempts)) = [5] := by decide

/-- Once an error on a transport was classified fatal, that transport is never
attempted again. -/
theorem no_attempt_after_fatal (cfg : Cfg) (trs : List Tr) (zs : List Q) (hf : Fresh trs) (h : List Event) :
    fatalSpec (confOf trs cfg.listeners) (run (init cfg trs zs) h).2 = true :=
  (run_ok (rel_init cfg trs zs hf) h).chk.fatal

/-- A transport that was never attempted is attempted without delay. -/
theorem first_attempt_immediate (cfg : Cfg) (trs : List Tr) (zs : List Q) (hf : Fresh trs) (h : List Event) :
    firstSpec (confOf trs cfg.listeners) (run (init cfg trs zs) h).2 = true :=
  (run_ok (rel_init cfg trs zs hf) h).chk.first

/-- No attempt waits longer than its transport's `max_retry_delay` (for non-negative maxima),
whatever the jitter samples are. -/
theorem delay_le_max (cfg : Cfg) (trs : List Tr) (zs : List Q) (hf : Fresh trs)
    (hmax : ∀ t ∈ trs, 0 ≤ t.maxDelay.num) (h : List Event) :
    delaySpec (confOf trs cfg.listeners) (run (init cfg trs zs) h).2 = true := by
  refine (run_ok (rel_init cfg trs zs hf) h).chk.delay ?_
  intro i
  simp only [confOf]
  cases hg : trs[i]? with
  | none => simp [Q.zero]
  | some t => exact hmax t (List.mem_of_getElem? hg)

example : ∀ t ∈ [Tr.new 1 ⟨8, 1⟩ ⟨1, 1⟩ ⟨2, 1⟩ ⟨1, 2⟩], 0 ≤ t.maxDelay.num := by
  intro t ht; simp at ht; subst ht; simp [Tr.new]

/-- The future returned by start() completes at most once. -/
theorem done_at_most_once (cfg : Cfg) (trs : List Tr) (zs : List Q) (hf : Fresh trs) (h : List Event) :
    doneOnceSpec (confOf trs cfg.listeners) (run (init cfg trs zs) h).2 = true :=
  (run_ok (rel_init cfg trs zs hf) h).chk.doneOnce

/-- Every attempted transport is the first one with
attempts left — since its last successful join — after the previously attempted one, in cyclic order. -/
theorem round_robin (cfg : Cfg) (trs : List Tr) (zs : List Q) (hf : Fresh trs) (h : List Event) :
    roundRobinSpec (confOf trs cfg.listeners) (run (init cfg trs zs) h).2 = true :=
  (run_ok (rel_init cfg trs zs hf) h).chk.rr

/-- In no reachable state is the reconnect loop idle (nothing scheduled, nothing in
flight) while start()'s future is still open.  (`idle` covers `crashed`, an exception escaping `transport_check`,
e.g. `RuntimeError("max reconnects reached")`; the invariant behind this theorem, `PhaseOK`, excludes that phase
altogether.) -/
theorem progress_never_idle (cfg : Cfg) (trs : List Tr) (zs : List Q) (hf : Fresh trs) (h : List Event) :
    (run (init cfg trs zs) h).1.idle = true → (run (init cfg trs zs) h).1.done.isSome = true := by
  have hr := (run_ok (rel_init cfg trs zs hf) h).inv
  intro hi
  unfold State.idle at hi
  split at hi
  · next hph => exact hr.dead hph
  · next hph => exact absurd hph hr.not_crashed
  · cases hi

/-- start() fails with "exhausted" only when no
transport has attempts left since its last successful join; and the loop is never idle with the future open. -/
theorem progress (cfg : Cfg) (trs : List Tr) (zs : List Q) (hf : Fresh trs) (h : List Event) :
    progressSpec (confOf trs cfg.listeners) (run (init cfg trs zs) h).2 (run (init cfg trs zs) h).1.idle
      = true := by
  have r := run_ok (rel_init cfg trs zs hf) h
  unfold progressSpec
  rw [specAll_fin, r.chk.giveUp, Bool.true_and]
  simp only [finProgress]
  cases hi : (run (init cfg trs zs) h).1.idle with
  | false => simp
  | true =>
    have := progress_never_idle cfg trs zs hf h hi
    rw [← r.inv.t.done_eq] at this
    simp [this]

def t1 (mr : Int) : Tr := Tr.new mr ⟨8, 1⟩ ⟨1, 1⟩ ⟨2, 1⟩ ⟨0, 1⟩

/-! ## regression instances (the same inputs are replayed on the real code) -/

/-- Without `main=` a successful join resets the retry budget as well (`on_join` is registered on every session): one
transport, `max_retries = 1`; refused, then (2 s later) joined and lost ⇒ the component reconnects at once instead of
failing "exhausted". -/
example :
    let r := run (init ⟨false, false, false, []⟩ [t1 1] [])
      [.start, .outcome .refused false, .delayElapsed, .outcome .joinedLost false]
    progressSpec (confOf [t1 1] []) r.2 r.1.idle = true ∧ r.1.done = none ∧ r.1.phase = .connecting 0 := by decide

/-- transports `max_retries = [0, −1]`, no main: transport 0 joins and is lost; after transport 1 was refused,
transport 0 is attempted again. -/
example :
    let r := run (init ⟨false, false, false, []⟩ [t1 0, t1 (-1)] [])
      [.start, .outcome .joinedLost false, .outcome .refused false, .delayElapsed]
    roundRobinSpec (confOf [t1 0, t1 (-1)] []) r.2 = true ∧ r.1.phase = .connecting 0 := by decide

/-- stop() while a connect is in flight completes start(); when that connect is refused the loop ends. -/
example :
    let r := run (init ⟨false, false, false, []⟩ [t1 1] [])
      [.start, .stop, .outcome .refused false, .delayElapsed]
    stopSpec (confOf [t1 1] []) r.2 = true ∧ r.1.done = some true ∧ r.1.phase = .dead := by decide

/-- stop() on a joined session followed by transport loss before the router's GOODBYE: start() completes
successfully, nothing is attempted. -/
example :
    let r := run (init ⟨false, false, false, []⟩ [t1 1] [])
      [.start, .outcome .joined false, .stop, .sess .lost false, .delayElapsed]
    stopSpec (confOf [t1 1] []) r.2 = true ∧ r.1.done = some true ∧ r.1.phase = .dead := by decide

/-! ## where the code departs from the property: negation on a concrete witness

The witness is a configuration + history on which the (faithful) model produces a log the property's monitor
rejects; the same input replays on the real code (harness, known_findings.d/C14.jsonl). -/

/-- A raising main does not fail start(): the error is handed to the reconnect logic, the component reconnects (at
once: `on_join` has just reset the transport) and will run main again. -/
theorem main_raises_not_error :
    let r := run (init ⟨true, false, false, []⟩ [t1 1, t1 1] []) [.start, .outcome .mainRaises false]
    polaritySpec (confOf [t1 1, t1 1] []) r.2 = false ∧ r.1.done = none
      ∧ r.1.phase = .connecting 1 := by decide

/-- For histories in which no main raises:
start() succeeds only after a normal leave / main returned / stop(), fails only on exhaustion, and a normal end
completes the future before anything else is attempted.
Missing for the full statement: "main raises ⇒ error" — refuted by `main_raises_not_error`. -/
theorem done_polarity_partial (cfg : Cfg) (trs : List Tr) (zs : List Q) (hf : Fresh trs) (h : List Event)
    (hno : ∀ e ∈ h, e.noRaise = true) :
    polaritySpec (confOf trs cfg.listeners) (run (init cfg trs zs) h).2 = true := by
  have r := run_pol (c := confOf trs cfg.listeners)
    (⟨rfl, rfl, fun hc => by simp at hc, fun hs => by simp [init] at hs⟩ :
      PolInv (init cfg trs zs).done (init cfg trs zs).stopping {}) h hno
  have hp := r.inv
  unfold polaritySpec
  rw [specAll_fin, r.chk (run_ok (rel_init cfg trs zs hf) h).chk.giveUp, Bool.true_and]
  simp only [finPolarity, hp.raise, Bool.or_false]
  cases hc : (feedAll (confOf trs cfg.listeners) {} (run (init cfg trs zs) h).2).pendingClean with
  | false => simp
  | true =>
    have := hp.clean hc
    rw [← hp.done_eq] at this
    simp [this]

example : ∀ e ∈ [Event.start, .outcome .refused false, .delayElapsed, .outcome .joinedLeave false],
    e.noRaise = true := by decide

/-- Whatever the component is doing when stop() is called — waiting for a retry delay,
connecting, joined, already done — no connection is attempted afterwards, for every history. -/
theorem no_attempt_after_stop (cfg : Cfg) (trs : List Tr) (zs : List Q) (h : List Event) :
    stopSpec (confOf trs cfg.listeners) (run (init cfg trs zs) h).2 = true :=
  stop_run _ _ {} (fun hs => by simp at hs) h

/-- After a stop() called anywhere after start, whatever the rest of the history is, the
component ends `Halted` (`_stopping` set, no retry delay pending) and that rest attempts nothing. -/
theorem stop_ends_loop (s : State) (hp : s.phase ≠ .idle) (es : List Event) :
    Halted (run s (.stop :: es)).1 ∧ ∀ o ∈ (run (step s .stop).1 es).2, o.isAtt = false := by
  have h1 := stop_halts s hp
  have h2 := halted_run _ h1.1 es
  simp only [run]
  exact ⟨h2.1, h2.2⟩

example : (init ⟨false, false, false, []⟩ [t1 1] []).phase = .idle := rfl
example : (run (init ⟨false, false, false, []⟩ [t1 1] []) [.start]).1.phase ≠ .idle := by decide

/-- stop() during a retry delay completes start() successfully (if still open) and ends the
loop for good: whatever happens afterwards, nothing is attempted and start()'s future is not touched. -/
theorem stop_while_waiting (s : State) (i : Nat) (d : Q) (hp : s.phase = .waiting i d) (hd : s.done = none)
    (es : List Event) :
    (run s (.stop :: es)).1.phase = .dead ∧ (run s (.stop :: es)).1.done = some true
      ∧ ∀ o ∈ (run (step s .stop).1 es).2, o.isAtt = false := by
  have e1 : (step s .stop).1.phase = .dead := by simp [step, onStop, hp]
  have e2 : (step s .stop).1.done = some true := by simp [step, onStop, hp, setDone, hd]
  have h2 := dead_run _ e1 es
  simp only [run, h2.1.1, h2.1.2, e2, true_and]
  exact h2.2

/-- stop() while a connect is in flight completes start() successfully at once -/
theorem stop_completes_connecting (s : State) (i : Nat) (hp : s.phase = .connecting i) (hd : s.done = none) :
    (step s .stop).1.done = some true := by simp [step, onStop, hp, hd]

/-- stop() on a joined session completes start() when the router's GOODBYE arrives -/
theorem stop_completes_joined (s : State) (i : Nat) (hp : s.phase = .up i) (hd : s.done = none) (f : Bool) :
    (run s [.stop, .sess .goodbye f]).1.done = some true ∧ (run s [.stop, .sess .goodbye f]).1.phase = .dead := by
  simp [run, step, onStop, hp, onSess, sessionDone, hd]

/-- … and also when the transport is lost before the router's GOODBYE arrives (whatever the error classifier says
about the loss) -/
theorem stop_completes_joined_lost (s : State) (i : Nat) (hp : s.phase = .up i) (hd : s.done = none) (f : Bool) :
    (run s [.stop, .sess .lost f]).1.done = some true ∧ (run s [.stop, .sess .lost f]).1.phase = .dead := by
  by_cases hc : (s.cfg.classifier && f) = true <;>
    simp [run, step, onStop, hp, onSess, failRetry, hc, transportCheck, stopCheck, hd]

example : (run (init ⟨false, false, false, []⟩ [t1 1] []) [.start, .outcome .joined false]).1.phase = .up 0 := by
  decide

/-- Along every run, each session firing of connect / join / ready / leave / disconnect is
followed — before that session fires again — by exactly one call of the component's listener for that event (if one
is registered, at most one per event), and the component's listeners are called for nothing else. -/
theorem listeners_bubble (cfg : Cfg) (hnd : cfg.listeners.Nodup) (trs : List Tr) (zs : List Q) (h : List Event) :
    bubbleSpec (confOf trs cfg.listeners) (run (init cfg trs zs) h).2 = true :=
  blocks_ok cfg hnd _ (blocks_run (init cfg trs zs) h) {} rfl

example : ([Ev.connect, .join, .ready, .leave, .disconnect] : List Ev).Nodup := by decide

/-- bubbling at the source: a listener registered on the component for `ev` is among the handlers run when a
session created by `_connect_once` fires `ev` (such a session always has own listeners, so `fire` does consult the
parent).  (The caveat, an object without own listeners does not bubble, is the second `example` below.) -/
theorem listeners_bubble_source (ls : List Ev) (ev : Ev) (h : ev ∈ ls) :
    Handler.user ev ∈ fireChain [sessionOwn, compNode ls] ev := by
  rw [fireChain_session, List.mem_append]
  exact .inr (List.mem_map.mpr
    ⟨(ev, Handler.user ev), List.mem_filter.mpr ⟨List.mem_map.mpr ⟨ev, h, rfl⟩, by simp⟩, rfl⟩)

example : Ev.ready ∈ [Ev.join, Ev.ready] := by decide
example : fireChain [none, compNode [Ev.join]] Ev.join = [] := fire_without_own_listeners _ _

/-! ## further concrete instances (non-vacuity of the clauses above) -/

/-- a fatal classification happens, the transport is failed, the other one is tried, and when that one is fatal as
well start() fails -/
example :
    let r := run (init ⟨false, true, false, []⟩ [t1 (-1), t1 (-1)] [])
      [.start, .outcome .refused true, .outcome .abort true]
    r.1.done = some false ∧ Obs.fatal 0 ∈ r.2 ∧ Obs.fatal 1 ∈ r.2 ∧ r.1.phase = .dead := by decide

/-- the budget is reached exactly: `max_retries = 1` gives two attempts, then "exhausted" -/
example :
    let r := run (init ⟨false, false, false, []⟩ [t1 1] [])
      [.start, .outcome .refused false, .delayElapsed, .outcome .hsFail false]
    (r.1.trs.map (·.attempts)) = [2] ∧ r.1.done = some false := by decide

/-- the delay is clamped: initial 1, growth 2, maximum 8 — the fifth attempt would wait 16 and waits 8 -/
example :
    let r := run (init ⟨false, false, false, []⟩ [t1 (-1)] [])
      [.start, .outcome .refused false, .delayElapsed, .outcome .refused false, .delayElapsed,
       .outcome .refused false, .delayElapsed, .outcome .refused false]
    r.1.phase = .waiting 0 ⟨8, 1⟩ := by decide

/-- a join resets the budget, with or without main: `max_retries = 0`, joined-and-lost three times, still going -/
example :
    let r := run (init ⟨true, false, false, []⟩ [t1 0] [])
      [.start, .outcome .joinedLost false, .outcome .joinedLost false, .outcome .joinedLost false]
    r.1.phase = .connecting 0 ∧ r.1.done = none := by decide

example :
    let r := run (init ⟨false, false, false, []⟩ [t1 0] [])
      [.start, .outcome .joinedLost false, .outcome .joinedLost false, .outcome .joinedLost false]
    r.1.phase = .connecting 0 ∧ r.1.done = none := by decide

end Abverif.Comp

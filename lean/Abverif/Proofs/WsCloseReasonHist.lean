import Abverif.Proofs.Lemmas.WsReasonInv
import Abverif.Proofs.Lemmas.WsStep
/-
# C05: every close frame we send carries a valid-UTF-8 reason of at most 123 octets — whole histories

`close_reasons_valid`: take any history in which the application passes valid UTF-8 text to `sendClose` (what the
Python API guarantees: the argument is a `str`, encoded by the library).  Then in every reachable state every reason
recorded with a close frame we sent is valid UTF-8 — whether it is the application's (truncated by `encode_truncate`),
or the peer's reason echoed back (stored only after it passed the check, truncated the same way), or absent (failures).
The length bound is `one_close_frame` (`LegalClose`).
-/
namespace Abverif.Ws

/-- the application hands `sendClose` text, i.e. valid UTF-8 once encoded -/
def Op.textOk : Op → Prop
  | .close _ (some r) => utf8Valid r = true
  | _ => True

theorem Keep.rcr_of_SendEq {a b : S} (h : SendEq a b) : b.remoteCloseReason = a.remoteCloseReason := h.remoteCloseReason

theorem run_V (ops : List Op) (ht : ∀ op ∈ ops, op.textOk) (s : S) (h : V s) : V (run s ops) :=
  VP.walk.history id (fun s op hd => VP.of_ApiEq (stepCore_ApiEq s op hd)) (fun s _ => connectionLost_VP s)
    (fun s c r ht => sendClose_VP s c r (by intro x hx; subst hx; exact ht)) ops ht s h

theorem start_V (cfg : Cfg) : V (start cfg) := by
  obtain ⟨t, q, e, _⟩ := start_eq cfg
  rw [e]
  exact ⟨fun c r h => (by cases h), fun r h => (by cases h)⟩

/-- every close frame we send carries a valid-UTF-8 reason of at most 123 octets: every configuration, every history in
which the application passes text to `sendClose` -/
theorem close_reasons_valid (cfg : Cfg) (ops : List Op) (ht : ∀ op ∈ ops, op.textOk) (c : Option Nat) (r : Bytes)
    (h : (c, some r) ∈ (run (start cfg) ops).closeSent) : utf8Valid r = true ∧ r.length ≤ 123 := by
  refine ⟨(run_V ops ht _ (start_V cfg)).1 c r h, ?_⟩
  have := (one_close_frame cfg ops).2.2 (c, some r) h
  exact this.2 r rfl

/-- a history the theorem speaks about: the application closes with 42 "€" (126 octets of text): the frame carries the
first 41 of them (123 octets), valid UTF-8 -/
example : (run (start {}) [.close (some 1000) (some (List.replicate 42 [0xE2, 0x82, 0xAC]).flatten)]).closeSent
    = [(some 1000, some (List.replicate 41 [0xE2, 0x82, 0xAC]).flatten)] := by
  decide +kernel

end Abverif.Ws

import Abverif.Proofs.C03
import Abverif.Proofs.Lemmas.SchemaStrict
import Abverif.Proofs.Lemmas.SchemaCtor
import Abverif.Proofs.Lemmas.SchemaSpecClean
import Abverif.Proofs.Lemmas.SchemaRolesSpec
import Abverif.Proofs.Lemmas.UriGrammar
/-
C08 — untrusted WAMP input is either a valid message or a protocol error.  Property theorems.

The Model is the schema engine (`unserializeOne` = envelope checks + `MESSAGE_TYPE_MAP` dispatch + `Klass.parse`,
with every exception class the real code raises, including the constructor `assert`s); the Spec is
"only ProtocolError / InvalidUriError, and what is accepted is strictly well-formed".  Totality is proved in full.
The two statements that today's code violates (`ParseStrictSpec`, `ReparseEquiv`) are kept as `def … : Prop` at full
strength, proved in `_partial` form, and the violation is witnessed.
-/
namespace Abverif.Wamp
open Generated.WampCodes

theorem schemaOfCode_mem {code : Int} {σ : Schema} (h : schemaOfCode code = some σ) : σ ∈ all25 := by
  unfold schemaOfCode at h
  split at h
  · cases h
  · exact List.mem_of_find?_eq_some h

theorem unserializeOne_ok {O : Oracles} {v : WVal} {σ : Schema} {m : Msg} (h : unserializeOne O v = .ok (σ, m)) :
    ∃ code rest, v = .list (.int code :: rest) ∧ schemaOfCode code = some σ ∧ σ.parse O (.int code :: rest) = .ok m := by
  unfold unserializeOne at h
  split at h
  · cases h
  · rename_i code rest
    split at h
    · cases h
    · rename_i σ' hσ'
      obtain ⟨m', hp, h⟩ := bind_eq_ok h
      cases h
      exact ⟨code, rest, rfl, hσ', hp⟩
  · cases h
  · cases h

def errClass? (r : Except Err α) : Option ErrClass :=
  match r with
  | .ok _ => none
  | .error e => some e.cls

/-- **full statement** (C08): parsing any deserialized structure yields a message or one of the library's own
protocol-level errors. -/
def ParseTotalTyped (O : Oracles) : Prop := ∀ v : WVal, ErrIn Allowed (unserializeOne O v)

/-- in all 25 classes every constructor assertion is covered by a check of `parse`: an asserted option has the
parse-time type that implies the assertion, a cross-field assertion concerns the tail of a class that has one
(payload is bytes, `enc_*` valid, `enc_key`/`enc_serializer` only with `enc_algo`) or is checked by `parse` itself
(UNSUBSCRIBED / UNREGISTERED).  Decided on the concrete schemas. -/
theorem schemas_ctorCovered : ∀ σ ∈ all25, σ.ctorCovered = true :=
  List.all_eq_true.mp (by decide +kernel)

theorem schemas_wf_all : ∀ σ ∈ all25, σ.wf = true := fun σ hσ => (schemas_wf σ hσ).1

/-- **the constructor assertions are unreachable from `parse`** (all 25 classes, all inputs): once the part of
`parse` in front of the constructor call has succeeded, the constructor's `assert`s all hold and it does nothing but
`_validate_kwargs` (`ProtocolError`). -/
theorem ctor_assertions_unreachable (σ : Schema) (hσ : σ ∈ all25) (O : Oracles) (w : List WVal) (m : Msg)
    (h : σ.parseStage O w = .ok m) :
    σ.ctorStage O m = (if σ.tail.isSome then Schema.kwargsCheck m else pure ()) :=
  ctor_unreachable σ O w m (schemas_wf_all σ hσ) (schemas_ctorCovered σ hσ) h

/-- every class, every input: `Klass.parse` raises only `ProtocolError` / `InvalidUriError` -/
theorem parse_classes (σ : Schema) (hσ : σ ∈ all25) (O : Oracles) (w : List WVal) : ErrIn Allowed (σ.parse O w) :=
  parse_allowed_of_covered σ O w (schemas_wf_all σ hσ) (schemas_ctorCovered σ hσ)

/-- **totality at full strength, all 25 classes, all inputs**: whatever deserialized structure reaches
`Serializer.unserialize`'s dispatch, the outcome is a message or `ProtocolError` / `InvalidUriError` — no
`AssertionError` (the constructor assertions are unreachable, `ctor_assertions_unreachable`), no `TypeError` (a role
feature named `self` is an unknown feature like any other), and nothing else (no IndexError, KeyError, …). -/
theorem parse_total_typed (O : Oracles) : ParseTotalTyped O := by
  intro v
  unfold unserializeOne
  split
  · exact ErrIn.fail _ allowed_protocol
  · split
    · exact ErrIn.fail _ allowed_protocol
    · rename_i σ hσ
      exact (parse_classes σ (schemaOfCode_mem hσ) O _).map _
  · exact ErrIn.fail _ allowed_protocol
  · exact ErrIn.fail _ allowed_protocol

/-! ### inputs that reach a constructor assertion unless `parse` checks first: `ProtocolError`

(should such a check be removed from `parse`, the model no longer matches the code and the harness reports the
`AssertionError` as a violation) -/

theorem f3_inputs_now_protocol_errors :
    -- `[8,48,1,{"enc_key":"k"},"a.b",b"xx"]`: `enc_key` without `enc_algo`
    errClass? (unserializeOne oracles (.list [.int 8, .int 48, .int 1,
      .dict [(cs!"enc_key", .str cs!"k")], .str cs!"a.b", .bytes [120, 120]])) = some .protocol ∧
    -- `[48,1,{"enc_algo":"","enc_serializer":"x_ser"},"a.b",b"zz"]`: a falsy `enc_algo` that is not None
    errClass? (unserializeOne oracles (.list [.int 48, .int 1,
      .dict [(cs!"enc_algo", .str []), (cs!"enc_serializer", .str cs!"x_ser")], .str cs!"a.b", .bytes [122, 122]])) = some .protocol ∧
    -- `[2,1,{"roles":{"broker":{}},"authid":1}]`: WELCOME `authid` of the wrong type
    errClass? (unserializeOne oracles (.list [.int 2, .int 1,
      .dict [(cs!"roles", .dict [(cs!"broker", .dict [])]), (cs!"authid", .int 1)]])) = some .protocol ∧
    -- `[35,5,{"subscription":7}]`: UNSUBSCRIBED with a subscription detail but request ≠ 0
    errClass? (unserializeOne oracles (.list [.int 35, .int 5, .dict [(cs!"subscription", .int 7)]])) = some .protocol ∧
    -- `[48,1,{},"a.b","x"]`: CALL with a `str` where the payload / args go
    errClass? (unserializeOne oracles (.list [.int 48, .int 1, .dict [], .str cs!"a.b", .str cs!"x"])) = some .protocol := by
  decide +kernel

/-- `[1,"realm1",{"roles":{"caller":{"features":{"self":true}}}}]` is accepted: `self` is an unknown feature name
(ignored), not a collision with the bound argument of `RoleCallerFeatures(**features)` -/
theorem hello_self_feature_ignored :
    errClass? (unserializeOne oracles (.list [.int 1, .str cs!"realm1",
      .dict [(cs!"roles", .dict [(cs!"caller", .dict [(cs!"features", .dict [(cs!"self", .bool true)])])])]])) = none := by
  decide +kernel

/-- the regenerated bound of `check_or_raise_id` is the protocol's 2^53 -/
theorem id_bound_is_2_53 : idBound = 2 ^ 53 := by decide

theorem idOk_range {i : Int} (h : idOk i = true) : 0 ≤ i ∧ i ≤ 2 ^ 53 := by
  rw [idOk_eq_spec] at h
  simp only [specIdOk, Bool.and_eq_true, decide_eq_true_eq] at h
  exact ⟨h.1, by simpa using h.2⟩

/-- **full statement** (C08, in terms of the Spec): nothing is accepted that has an id outside [0, 2^53], a URI outside
the *intended* grammar, a wrongly typed option, or a type code that is not the protocol's.  Still FALSE of today's
code, for one reason only: PUBLISH admits `args` of type `str`/`bytes` (on purpose: the constructor does too; open
finding) — witness `strict_witness_publish_args_str`. -/
def ParseStrictSpec : Prop :=
  ∀ (v : WVal) (σ : Schema) (m : Msg), unserializeOne oracles v = .ok (σ, m) → σ.specViolations Uri.Spec.ok m = []

/-- **partial form, proved for all inputs** of the 23 classes without a `roles` entry (`roundTrip23`: all but HELLO and
WELCOME): a message accepted by `parse` is `strict` — every positional id lies in
[0, 2^53] (regenerated bound = 2^53, `id_bound_is_2_53`), every URI is accepted by the regenerated recogniser
selected by its flags (REGISTER: by the `match` option), every positional `str`/`dict`/enum has its type, every
option holds its default or a value that passes its type check (`OTy.valid`), args/kwargs/payload and the `enc_*`
triple have the shapes the constructor asserts, and the attribute names are exactly the class's.
What is missing w.r.t. `ParseStrictSpec`: the recogniser is the regenerated regex (equal to the intended grammar by
`uri_equiv`), `forwardFor false` would admit any list (all 13 flags are `true`, `forward_for_loops_repaired`), and
PUBLISH's `args` may be `str`/`bytes`. -/
theorem parse_strict (σ : Schema) (hσ : σ ∈ roundTrip23) (O : Oracles) (w : List WVal) (m : Msg)
    (h : σ.parse O w = .ok m) : σ.strict O m = true := by
  have hall : σ ∈ all25 := (List.mem_filter.mp hσ).1
  have hnr : σ.noRoles = true := (List.mem_filter.mp hσ).2
  exact parse_strict_core σ O w m (schemas_wf_all σ hall) hnr h

/-- every schema has the protocol's type code, every `forward_for` loop is repaired and the types that admit `None`
default to `None` — what `specViolations_of_parse` needs of a schema; decided on the 25 concrete schemas -/
theorem schemas_specReady : ∀ σ ∈ all25, σ.specReady = true :=
  List.all_eq_true.mp (by decide +kernel)

/-- PUBLISH is the only class whose tail admits `str` / `bytes` arguments -/
theorem publish_only_variant :
    all25.all (fun σ => match σ.tail with
      | some t => (t.variant != .publish) || σ.name == cs!"Publish"
      | none => true) = true := by decide +kernel

/-- **`ParseStrictSpec` up to the one open finding, all 25 classes, all inputs**: in a message that `unserialize`
accepts the Spec (protocol id range, *intended* URI grammar, intended option types, protocol type codes — none of it
read off the code) objects to nothing except the `args` of a PUBLISH (which may be `str`/`bytes`). -/
theorem parse_strict_spec_partial (v : WVal) (σ : Schema) (m : Msg) (h : unserializeOne oracles v = .ok (σ, m)) :
    ∀ fr ∈ σ.specViolations Uri.Spec.ok m, fr = (cs!"args", cs!"type") ∧ σ.name = cs!"Publish" := by
  obtain ⟨code, rest, _, hσ, hp⟩ := unserializeOne_ok h
  have hmem := schemaOfCode_mem hσ
  intro fr hfr
  obtain ⟨hfr', t, ht, hv⟩ :=
    specViolations_of_parse σ (schemas_wf_all σ hmem) (schemas_specReady σ hmem) _ m hp fr hfr
  refine ⟨hfr', ?_⟩
  have := List.all_eq_true.mp publish_only_variant σ hmem
  rw [ht] at this
  simp only [hv, bne_self_eq_false, Bool.false_or, beq_iff_eq] at this
  exact this

/-- hence the full statement holds for the 24 other classes -/
theorem parse_strict_spec_but_publish (v : WVal) (σ : Schema) (m : Msg) (h : unserializeOne oracles v = .ok (σ, m))
    (hn : σ.name ≠ cs!"Publish") : σ.specViolations Uri.Spec.ok m = [] := by
  apply List.eq_nil_iff_forall_not_mem.mpr
  intro fr hfr
  exact hn (parse_strict_spec_partial v σ m h fr hfr).2

/-- ids: a positional id of an accepted message is in the protocol's range -/
theorem parse_strict_ids (σ : Schema) (hσ : σ ∈ roundTrip23) (O : Oracles) (w : List WVal) (m : Msg)
    (h : σ.parse O w = .ok m) (f : Str) (hf : PosStep.id f ∈ σ.pos) :
    ∃ i, m.get f = .int i ∧ 0 ≤ i ∧ i ≤ 2 ^ 53 := by
  have hs := (strict_parts (parse_strict σ hσ O w m h)).pos _ hf
  simp only [PosStep.strict] at hs
  split at hs
  · rename_i i hi
    exact ⟨i, hi, idOk_range hs⟩
  · simp at hs

/-- URIs: a positional URI of an accepted message passed the regenerated pattern for its flags -/
theorem parse_strict_uris (σ : Schema) (hσ : σ ∈ roundTrip23) (O : Oracles) (w : List WVal) (m : Msg)
    (h : σ.parse O w = .ok m) (f : Str) (fl : UriFlags) (hf : PosStep.uri f fl ∈ σ.pos) :
    uriOk O fl (m.get f) = true :=
  (strict_parts (parse_strict σ hσ O w m h)).pos _ hf

/-- options: an option of an accepted message that defaults to `None` is `None` or of its checked type -/
theorem parse_strict_option (σ : Schema) (hσ : σ ∈ roundTrip23) (O : Oracles) (w : List WVal) (m : Msg)
    (h : σ.parse O w = .ok m) (s : OptStep) (hs : s ∈ σ.opts) (hd : s.dflt = .null) :
    m.get s.field = .null ∨ s.ty.valid O (m.get s.field) = true := by
  have hst := (strict_parts (parse_strict σ hσ O w m h)).opts s hs
  simp only [OptStep.strict, Bool.or_eq_true, hd] at hst
  exact hst.imp isDflt_eq (fun hv => hv)

/-- the regenerated flags: every one of the 13 `forward_for` loops of `parse` is a `for/else`, and its entry check
admits `authid: None` like the constructors and `marshal()`.  A `for … break … valid = True` loop in any class makes
this theorem fail to build. -/
theorem forward_for_loops_repaired :
    [ffFixed_Error, ffFixed_Publish, ffFixed_Subscribe, ffFixed_Unsubscribe, ffFixed_Event, ffFixed_Call, ffFixed_Cancel,
     ffFixed_Result, ffFixed_Register, ffFixed_Unregister, ffFixed_Invocation, ffFixed_Interrupt, ffFixed_Yield].all id = true ∧
    ffAuthidNoneOk = true := by decide +kernel

/-- hence an accepted `forward_for` is absent or a list of well-formed entries (dict with `session: int`,
`authid: str | None`, `authrole: str`) — in every class that has the option -/
theorem parse_strict_forward_for (σ : Schema) (hσ : σ ∈ roundTrip23) (O : Oracles) (w : List WVal) (m : Msg)
    (h : σ.parse O w = .ok m) (s : OptStep) (hs : s ∈ σ.opts) (hty : s.ty = .forwardFor true) (hd : s.dflt = .null) :
    m.get s.field = .null ∨ ∃ xs, m.get s.field = .list xs ∧ xs.all ffItemParseOk = true := by
  refine (parse_strict_option σ hσ O w m h s hs hd).imp_right (fun h1 => ?_)
  rw [hty] at h1
  cases hv : m.get s.field <;> simp_all [OTy.valid]

example : (Schemas.call.opts.filter (fun s => s.field == cs!"forward_for")).map (fun s => (s.ty matches .forwardFor true)) = [true] := by
  decide

/-- ids inside the options of an accepted message are in the protocol's range too (`caller`, `callee`, `publisher`,
`subscription`, `registration`: they go through `check_or_raise_id`) -/
theorem parse_strict_option_ids (σ : Schema) (hσ : σ ∈ roundTrip23) (O : Oracles) (w : List WVal) (m : Msg)
    (h : σ.parse O w = .ok m) (s : OptStep) (hs : s ∈ σ.opts) (hty : s.ty = .id) (hd : s.dflt = .null) :
    m.get s.field = .null ∨ ∃ i, m.get s.field = .int i ∧ 0 ≤ i ∧ i ≤ 2 ^ 53 := by
  refine (parse_strict_option σ hσ O w m h s hs hd).imp_right (fun h1 => ?_)
  rw [hty] at h1
  cases hv : m.get s.field <;> rw [hv] at h1 <;> simp [OTy.valid] at h1
  exact ⟨_, rfl, idOk_range h1⟩

/-- … and so is every element of PUBLISH's `exclude` / `eligible` lists -/
theorem parse_strict_option_id_lists (σ : Schema) (hσ : σ ∈ roundTrip23) (O : Oracles) (w : List WVal) (m : Msg)
    (h : σ.parse O w = .ok m) (s : OptStep) (hs : s ∈ σ.opts) (hty : s.ty = .listId) (hd : s.dflt = .null) :
    m.get s.field = .null ∨ ∃ xs, m.get s.field = .list xs ∧ allId xs = true := by
  refine (parse_strict_option σ hσ O w m h s hs hd).imp_right (fun h1 => ?_)
  rw [hty] at h1
  cases hv : m.get s.field <;> rw [hv] at h1 <;> simp [OTy.valid] at h1
  exact ⟨_, rfl, h1⟩

example : (Schemas.publish.opts.filter (fun s => s.ty matches .listId)).map (·.field) = [cs!"exclude", cs!"eligible"] := by
  decide

/-- which options are WAMP ids (checked with `check_or_raise_id`), per class -/
theorem id_options :
    (all25.map (fun σ => (σ.name, (σ.opts.filter (fun s => s.ty matches .id)).map (·.field)))).filter (fun e => !e.2.isEmpty) =
      [(cs!"Hello", [cs!"resume_session"]), (cs!"Error", [cs!"callee"]), (cs!"Unsubscribed", [cs!"subscription"]),
       (cs!"Event", [cs!"publisher"]), (cs!"Call", [cs!"caller"]), (cs!"Result", [cs!"callee"]),
       (cs!"Unregistered", [cs!"registration"]), (cs!"Invocation", [cs!"caller"]), (cs!"Yield", [cs!"callee"])] := by
  decide +kernel

/-- the Spec's own field table (written from the WAMP spec by class and attribute name, not read from the schemas) is
honoured by the parser model: every entry is an option the model checks as that kind — part of `schemas_specReady`,
hence of `parse_strict_spec_partial`.  Classifying one of these fields as a plain `str`/`int` in Messages.lean makes
this fail to build. -/
theorem spec_table_covered : ∀ σ ∈ all25, σ.tableCovered = true := fun σ hσ =>
  (Bool.and_eq_true_iff.mp (schemas_specReady σ hσ)).2

/-- every class named in the table exists, and the table has 17 entries -/
theorem spec_table_classes :
    specDetailTable.all (fun e => all25.any (fun σ => σ.name == e.1 && σ.fieldNames.contains e.2.1)) = true ∧
    specDetailTable.length = 17 := by decide +kernel

/-- the witness that `ParseStrictSpec` fails: `[16,1,{},"a.b","s",{}]` — PUBLISH accepts a `str` for `args` -/
theorem strict_witness_publish_args_str :
    (match unserializeOne oracles (.list [.int 16, .int 1, .dict [], .str cs!"a.b", .str cs!"s", .dict []]) with
     | .ok (σ, m) => !(σ.specViolations Uri.Spec.ok m).isEmpty
     | .error _ => false) = true := by decide +kernel

theorem not_parseStrictSpec : ¬ ParseStrictSpec := by
  intro h
  have hw := strict_witness_publish_args_str
  split at hw
  · rename_i σ m he
    have := h _ σ m he
    simp [this] at hw
  · simp at hw

example : (match unserializeOne oracles (.list [.int 48, .int 1, .dict [(cs!"caller", .int 7)], .str cs!"a.b", .list [.int 1]]) with
    | .ok (σ, m) => σ.name == cs!"Call" && (σ.specViolations Uri.Spec.ok m).isEmpty
    | .error _ => false) = true := by decide +kernel

/-- rejected with `ProtocolError`: `force_reregister: 1`, a negative session id in `exclude`, a `callee` above 2^53 -/
theorem former_strict_witnesses_rejected :
    errClass? (unserializeOne oracles (.list [.int 64, .int 1, .dict [(cs!"force_reregister", .int 1)], .str cs!"a.b"])) = some .protocol ∧
    errClass? (unserializeOne oracles (.list [.int 16, .int 1, .dict [(cs!"exclude", .list [.int (-1)])], .str cs!"a.b"])) = some .protocol ∧
    errClass? (unserializeOne oracles (.list [.int 8, .int 48, .int 1, .dict [(cs!"callee", .int 9007199254740993)], .str cs!"a.b"])) = some .protocol := by
  decide +kernel

/-- details that the WAMP spec makes URIs are checked as URIs: WELCOME `realm` "not a uri!!", EVENT `topic` "a..b#",
INVOCATION `procedure` ".." are rejected with `InvalidUriError` -/
theorem uri_details_rejected :
    errClass? (unserializeOne oracles (.list [.int 2, .int 1,
      .dict [(cs!"roles", .dict [(cs!"broker", .dict [])]), (cs!"realm", .str cs!"not a uri!!")]])) = some .invalidUri ∧
    errClass? (unserializeOne oracles (.list [.int 36, .int 1, .int 2, .dict [(cs!"topic", .str cs!"a..b#")]])) = some .invalidUri ∧
    errClass? (unserializeOne oracles (.list [.int 68, .int 1, .int 2, .dict [(cs!"procedure", .str cs!"..")]])) = some .invalidUri := by
  decide +kernel

/-! ### guarded witnesses (their hypotheses are false of the regenerated tables today) -/

/-- with `$` as end anchor of the loose pattern, CALL would accept the procedure `"a.b\n"`, which the Spec rejects -/
theorem strict_witness_trailing_newline :
    (Rx._URI_PAT_LOOSE_NON_EMPTY).anchor = .dollar →
    (match unserializeOne oracles (.list [.int 48, .int 1, .dict [], .str cs!"a.b\n"]) with
     | .ok (σ, m) => !(σ.specViolations Uri.Spec.ok m).isEmpty
     | .error _ => false) = true := by decide +kernel

/-- were UNREGISTER's `forward_for` loop unrepaired, `[66,1,2,{"forward_for":[1]}]` would be accepted against the Spec
(the flag is `true` today: `forward_for_loops_repaired`) -/
theorem strict_witness_unregister_forward_for :
    ffFixed_Unregister = false →
    (match unserializeOne oracles (.list [.int 66, .int 1, .int 2, .dict [(cs!"forward_for", .list [.int 1])]]) with
     | .ok (σ, m) => !(σ.specViolations Uri.Spec.ok m).isEmpty
     | .error _ => false) = true := by decide +kernel

/-- **roles: accepted iff the Spec accepts.**  For any role-name list and feature table, the parse model's check of a
`roles` value succeeds exactly on the values `rolesAccept` describes: non-empty str-keyed dict, allowed role names,
dict-valued roles, `features` (if present) a str-keyed dict in which every *known* feature of that role is absent,
null or a JSON bool; unknown feature names ignored (one spelled `self` too). -/
theorem roles_accept_iff (site : Str) (allowed : List Str) (feats : List (Str × List Str)) (v : WVal) :
    isOkB (rolesCheck site allowed feats v) = rolesAccept allowed feats v :=
  rolesCheck_isOk_iff site allowed feats v

/-- HELLO: whatever `Hello.parse` accepts carries details whose `roles` satisfy the Spec for the client roles
(`subscriber`, `publisher`, `caller`, `callee`; names and features regenerated from message.py / role.py) -/
theorem hello_roles_spec (O : Oracles) (w : List WVal) (m : Msg) (h : Schemas.hello.parse O w = .ok m) :
    ∃ rv, Dict.get? (Schemas.hello.optsOf w) cs!"roles" = some rv ∧ rolesAccept helloRoles roleFeatures rv = true :=
  parse_roles_spec Schemas.hello (schemas_wf_all _ (by simp [all25])) O w m h
    { field := cs!"roles", key := cs!"roles", ty := .roles helloRoles roleFeatures, required := true, mm := .always }
    (by simp [Schemas.hello]) helloRoles roleFeatures rfl rfl

/-- WELCOME: the same for the router roles (`broker`, `dealer`) -/
theorem welcome_roles_spec (O : Oracles) (w : List WVal) (m : Msg) (h : Schemas.welcome.parse O w = .ok m) :
    ∃ rv, Dict.get? (Schemas.welcome.optsOf w) cs!"roles" = some rv ∧ rolesAccept welcomeRoles roleFeatures rv = true :=
  parse_roles_spec Schemas.welcome (schemas_wf_all _ (by simp [all25])) O w m h
    { field := cs!"roles", key := cs!"roles", ty := .roles welcomeRoles roleFeatures, required := true, mm := .always }
    (by simp [Schemas.welcome]) welcomeRoles roleFeatures rfl rfl

/-- every role that HELLO / WELCOME admit has its feature list in the regenerated table, and each list is non-empty -/
theorem role_tables_cover :
    (helloRoles ++ welcomeRoles).all (fun r => !(roleKnown roleFeatures r).isEmpty) = true := by decide +kernel

/-- instances: a falsy non-bool value of a known feature is rejected (ProtocolError), in HELLO and in WELCOME -/
theorem falsy_feature_rejected :
    errClass? (unserializeOne oracles (.list [.int 1, .str cs!"realm1",
      .dict [(cs!"roles", .dict [(cs!"caller", .dict [(cs!"features", .dict [(cs!"call_timeout", .int 0)])])])]])) = some .protocol ∧
    errClass? (unserializeOne oracles (.list [.int 2, .int 1,
      .dict [(cs!"roles", .dict [(cs!"dealer", .dict [(cs!"features", .dict [(cs!"call_timeout", .str [])])])])]])) = some .protocol := by
  decide +kernel

/-- **full statement**: whatever is accepted re-marshals to a form that parses back to the same message
("equivalent to the input": equal up to omitted defaults, dropped unknown keys and key order).  FALSE today. -/
def ReparseEquiv (σ : Schema) : Prop :=
  ∀ (w : List WVal) (m : Msg), σ.parse oracles w = .ok m → σ.parse oracles (σ.marshal m) = .ok m

/-- **partial form**: it holds whenever the accepted message satisfies the residual conditions, i.e. carries none of
the values `marshal` does not write (a falsy value under an `if self.x:` option, empty args/kwargs/payload, a
non-list `args` of PUBLISH, …) -/
theorem reparse_equiv_partial (σ : Schema) (hσ : σ ∈ roundTrip23) (w : List WVal) (m : Msg)
    (h : σ.parse oracles w = .ok m) (hres : σ.residual oracles m = true) :
    σ.parse oracles (σ.marshal m) = .ok m := by
  exact parse_marshal σ oracles (schemas_wf σ (List.mem_filter.mp hσ).1) m
    (Schema.Valid_iff.mpr ⟨parse_strict σ hσ oracles w m h, hres⟩)

example : Schemas.call.parse oracles (Schemas.call.marshal exCall) = .ok exCall :=
  reparse_equiv_partial _ (mem_roundTrip23 (by simp [all25]) (by decide)) (Schemas.call.marshal exCall) exCall
    (parse_marshal _ _ (schemas_wf _ (by simp [all25])) _ exCall_valid)
    (Schema.Valid_iff.mp exCall_valid).2

/-- witness: `[16,1,{},"a.b",b"\x00\xff",{}]` is accepted by PUBLISH (args may be `bytes` there) with `payload = None`,
re-marshals to `[16,1,{},"a.b",b"\x00\xff"]` (empty kwargs are not written), which is read as a transparent payload -/
theorem reparse_witness_publish :
    (match Schemas.publish.parse oracles [.int 16, .int 1, .dict [], .str cs!"a.b", .bytes [0, 255], .dict []] with
     | .ok m => (m.get cs!"payload").isNull &&
         (match Schemas.publish.parse oracles (Schemas.publish.marshal m) with
          | .ok m' => !(m'.get cs!"payload").isNull
          | .error _ => false)
     | .error _ => false) = true := by decide +kernel

theorem not_reparseEquiv_publish : ¬ ReparseEquiv Schemas.publish := by
  intro h
  have hw := reparse_witness_publish
  split at hw
  · rename_i m he
    rw [h _ m he] at hw
    cases hp : (m.get cs!"payload").isNull <;> simp [hp] at hw
  · simp at hw

/-- an accepted object is a list whose first element is an `int` type code that `MESSAGE_TYPE_MAP` knows, dispatched
to the class with that code, with an element count in that class's set -/
theorem accepted_envelope (O : Oracles) (v : WVal) (σ : Schema) (m : Msg) (h : unserializeOne O v = .ok (σ, m)) :
    ∃ code rest, v = .list (.int code :: rest) ∧ schemaOfCode code = some σ ∧
      σ.lengths.contains (rest.length + 1) = true := by
  obtain ⟨code, rest, hv, hσ, hp⟩ := unserializeOne_ok h
  -- the length check is the first thing `parse` does
  exact ⟨code, rest, hv, hσ, (parse_inv (schemas_wf_all σ (schemaOfCode_mem hσ)) hp).len⟩

/-- every code in the regenerated `MESSAGE_TYPE_MAP` is the `MESSAGE_TYPE` of the class it maps to, entry by entry: the map
has an entry for each of the classes and no other -/
theorem typeMap_consistent : typeMap.map (fun e => (e.2, e.1)) = messageTypes := by decide +kernel

/-! ## URI recognisers (regenerated from `_URI_PAT_*`): regex ⇔ intended grammar

These hold because the patterns end in `\Z` and their classes use `0-9`; with `$` or `\d` they fail (no trailing
newline / no non-ASCII digit would be needed as hypotheses). -/

/-- **`check_or_raise_uri` accepts exactly the intended grammar**, for all six patterns (every flag triple) and every
string: components split on '.', characters `[0-9a-z_]` (strict) or anything but whitespace, '.', '#' (loose), emptiness
of components as the flags say -/
theorem uri_equiv (strict ae ale : Bool) (s : List Char) :
    Uri.check strict ae ale s = Uri.Spec.ok strict ae ale s :=
  Uri.uri_equiv strict ae ale s

example : Uri.check true false false cs!"com.example.topic1" = true := by
  rw [uri_equiv]; decide

/-- `_CUSTOM_ATTRIBUTE` (used by `is_valid_enc_algo` / `is_valid_enc_serializer` and WELCOME's custom attributes) -/
theorem custom_attr_equiv (s : List Char) : Uri.customAttr s = Uri.CustomAttr.Spec.ok s := Uri.custom_attr_equiv s

theorem realm_name_equiv (s : List Char) : Uri.realmName s = Uri.Realm.Spec.name s := Uri.realm_name_equiv s
theorem realm_eth_equiv (s : List Char) : Uri.realmEth s = Uri.Realm.Spec.eth s := Uri.realm_eth_equiv s
theorem realm_ens_equiv (s : List Char) : Uri.realmEns s = Uri.Realm.Spec.ens s := Uri.realm_ens_equiv s
theorem realm_ens_reverse_equiv (s : List Char) : Uri.realmEnsReverse s = Uri.Realm.Spec.ensReverse s :=
  Uri.realm_ens_reverse_equiv s

/-- consequently an accepted positional URI lies in the **intended grammar** for its flags (not merely "passed the regex") -/
theorem parse_strict_uris_grammar (σ : Schema) (hσ : σ ∈ roundTrip23) (w : List WVal) (m : Msg)
    (h : σ.parse oracles w = .ok m) (f : Str) (fl : UriFlags) (hf : PosStep.uri f fl ∈ σ.pos) :
    specUriOk Uri.Spec.ok fl (m.get f) = true :=
  specUriOk_of_uriOk (parse_strict_uris σ hσ oracles w m h f fl hf)

/-- witnesses guarded by the regenerated end anchor / character class: vacuous today, they become live (and
`uri_equiv` stops building) if `$` or `\d` return -/
theorem f2_trailing_newline_witness (strict ae ale : Bool) :
    (Uri.pat strict ae ale).anchor = .dollar →
      Uri.check strict ae ale cs!"a.b\n" = true ∧ Uri.Spec.ok strict ae ale cs!"a.b\n" = false :=
  Uri.f2_trailing_newline_witness strict ae ale

theorem f2_unicode_digit_witness (ae ale : Bool) :
    (Uri.uriClass true ae ale).usesDigit = true →
      Uri.check true ae ale ['a', '.', '٣'] = true ∧ Uri.Spec.ok true ae ale ['a', '.', '٣'] = false :=
  Uri.f2_unicode_digit_witness ae ale

end Abverif.Wamp

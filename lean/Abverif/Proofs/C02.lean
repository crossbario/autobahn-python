import Abverif.Model.WsSpec
import Abverif.Proofs.Lemmas.HeaderTable
/-
C02, the checks of the receive path one by one against RFC 6455: the cascade on the first two header octets
(`header_table`), the extended payload length (`extlen*`), the close code (`close_code_rule`).  That the engine as a
whole follows the RFC judge is `recv_refines_judge` (Proofs/WsRefinement.lean), for any segmentation by
Proofs/WsSegmentation.lean.
-/
namespace Abverif.Ws
open Abverif.WsSpec

/-- for every receiver context (role, masking options, PMCE negotiated or not, inside or outside a
fragmented message) and every value of the first two header octets, the cascade of `processData` reports no violation
exactly when RFC 6455 §5.2–5.5 / RFC 7692 §6 allow that header (65 536 octet pairs × 32 contexts, via the
kernel-checked tables behind `flags_table`). -/
theorem header_table (cfg : Cfg) (inside fin masked : Bool) (rsv opcode len7 : Nat) (hr : rsv < 8) (ho : opcode < 16) :
    headerViolations cfg inside fin rsv opcode masked len7 = []
      ↔ headerOk (Ctx.ofCfg cfg) inside fin rsv opcode masked len7 = true := by
  have := flags_table cfg.isServer cfg.requireMasked cfg.acceptMasked cfg.pmce inside fin masked
    (decide (len7 > 125)) (decide (len7 = 1)) ⟨rsv, hr⟩ ⟨opcode, ho⟩
  simp only at this
  unfold headerViolations headerOk Ctx.ofCfg
  rw [← this, List.isEmpty_iff]

/-- the header fields `processData` extracts from the two octets are always in range, so `header_table` covers all
65 536 octet pairs -/
theorem header_fields_in_range (o0 o1 : UInt8) :
    o0.toNat / 16 % 8 < 8 ∧ o0.toNat % 16 < 16 ∧ o1.toNat % 128 < 128 := by omega

/-- "no violation" leaves the state untouched, whether the endpoint fails by dropping or not -/
theorem applyViolations_nil (s : S) : applyViolations s [] = (s, false) := rfl

/-- 16-bit form: accepted iff minimal (≥ 126) -/
theorem extlen16 (plen : Nat) : extLenOk 126 plen = true ↔ 126 ≤ plen := by simp [extLenOk]

/-- 64-bit form: accepted iff minimal (≥ 65536) and the most significant bit is clear -/
theorem extlen64 (plen : Nat) : extLenOk 127 plen = true ↔ 65536 ≤ plen ∧ plen ≤ 2 ^ 63 - 1 := by
  simp [extLenOk]

theorem extlen7 (len7 plen : Nat) (h : len7 < 126) : extLenOk len7 plen = true := by
  have h1 : len7 ≠ 126 := by omega
  have h2 : len7 ≠ 127 := by omega
  simp [extLenOk, h1, h2]

theorem mem_closeCodesAllowed (code : Nat) :
    closeCodesAllowed.contains code = true ↔ (1000 ≤ code ∧ code ≤ 1003) ∨ (1007 ≤ code ∧ code ≤ 1013) := by
  simp only [closeCodesAllowed, List.contains_iff_mem, List.mem_cons, List.not_mem_nil, or_false]
  omega

/-- the code check of `onCloseFrame` rejects exactly the codes RFC 6455 §7.4 does not allow on the wire -/
theorem close_code_rule (code : Nat) : closeCodeInvalid code = false ↔ closeCodeOk code = true := by
  have hm := mem_closeCodesAllowed code
  unfold closeCodeInvalid closeCodeOk
  generalize closeCodesAllowed.contains code = c at hm
  cases c <;> simp at hm ⊢ <;> omega

end Abverif.Ws

import Abverif.Proofs.Lemmas.WsGhost
import Abverif.Proofs.WsCloseLast
import Abverif.Proofs.WsCleanClose
/-
# C05: the two history variables of the close theorems agree

`close_ghosts_agree`: in every reachable state `closeSent` (the subject of `one_close_frame`, `clean_close_needs_both`)
has exactly one entry per close frame recorded in `sentOps` (the subject of `no_data_frame_after_close`, which every C05
run compares with the opcodes of the frames the real objects wrote).  So "our close frame was sent" in the first
vocabulary is "an 8 is in the frame history" in the second.
-/
namespace Abverif.Ws

/-- a data-API call: frames 0/1/2 only (`DataRel`), the close record untouched (`ApiEq`) -/
theorem G.of_data {a b : S} (g : G a) (ho : OpOk a) (hd : DataRel a b) (hk : ApiEq a b) : G b := by
  obtain ⟨_, _, d, e, _, h8⟩ := hd
  unfold G at *
  rw [hk.closeSent, e, List.count_append, g]
  have : d.count 8 = 0 := List.count_eq_zero.mpr (h8 ho)
  omega

def QG (s : S) : Prop := Q s ∧ G s

theorem step_QG (s : S) (op : Op) (h : QG s) : QG (step s op) :=
  ⟨step_Q s op h.1, GP.walk.inv_step id s op
    (fun hd g => g.of_data h.1.op (stepCore_DataRel s op hd) (stepCore_ApiEq s op hd))
    (fun _ => connectionLost_GP s) (fun c r _ => sendClose_GP s c r) h.2⟩

theorem run_QG (ops : List Op) (s : S) (h : QG s) : QG (run s ops) :=
  run_induction (ok := fun _ => True) (fun s op _ => step_QG s op) ops (fun _ _ => trivial) s h

theorem start_G (cfg : Cfg) : G (start cfg) := by
  obtain ⟨t, q, e, _⟩ := start_eq cfg
  rw [e]; rfl

theorem startConnecting_G (cfg : Cfg) : G (startConnecting cfg) := by
  obtain ⟨t, q, e⟩ := startConnecting_eq cfg
  rw [e]; rfl

/-- the close record has one entry per close frame in the frame history: every configuration, every history -/
theorem close_ghosts_agree (cfg : Cfg) (ops : List Op) :
    (run (start cfg) ops).closeSent.length = (run (start cfg) ops).sentOps.count 8 :=
  (run_QG ops _ ⟨start_Q cfg, start_G cfg⟩).2

theorem close_ghosts_agree_connecting (cfg : Cfg) (ops : List Op) :
    (run (startConnecting cfg) ops).closeSent.length = (run (startConnecting cfg) ops).sentOps.count 8 :=
  (run_QG ops _ ⟨startConnecting_Q cfg, startConnecting_G cfg⟩).2

/-- corollary in the frame vocabulary: a clean report means a close frame is in the frame history -/
theorem clean_close_has_close_frame (cfg : Cfg) (ops : List Op) (c : Option Nat) (r : Option Bytes) (w : Option NCR)
    (h : Out.onClose true c r w ∈ (run (start cfg) ops).log) : 8 ∈ (run (start cfg) ops).sentOps := by
  have h1 := clean_close_needs_both cfg ops c r w h
  have h2 := close_ghosts_agree cfg ops
  have : 0 < (run (start cfg) ops).closeSent.length := List.length_pos_iff.mpr h1
  rw [h2] at this
  exact List.count_pos_iff.mp this

end Abverif.Ws

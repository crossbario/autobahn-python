import Abverif.Proofs.Lemmas.WsFrame
/-
C17 — timer theorems on the model's virtual clock (time unit 2^-20 s; `sec` units per second): the batched timer is never
late and less than a second early; what each deadline handler does, and that no timer does anything to a CLOSED
connection; an armed deadline that has passed means CLOSED (`deadline_drops` and its four instances, each with the event
that cancels the deadline); an automatic ping or its pong re-arms a ping timer.
-/
namespace Abverif.Ws

/-! ### the batched timer: `deadline = ⌊now + delay⌋` seconds -/

theorem batched_gt (now delay : Nat) : now + delay < batched now delay + sec := by
  unfold batched sec; omega

/-- hence a reaction that arrives at least one second before the nominal deadline arrives before the real one -/
theorem responsive_before_deadline (now delay t : Nat) (h : t + sec ≤ now + delay) : t < batched now delay := by
  have := batched_gt now delay; omega

theorem batched_exact (a b : Nat) : batched (a * sec) (b * sec) = (a + b) * sec := by
  unfold batched sec; omega

/-! ### what each deadline handler does -/

/-- the closing-handshake timer drops the TCP connection (abort) and marks the close unclean with its own reason,
whenever the connection is not yet closed -/
theorem fire_closeHs_drops (s : S) (h : s.st ≠ .closed) :
    (fire s .closeHs).st = .closed ∧ (fire s .closeHs).notClean = some .closeTimeout ∧
    (fire s .closeHs).wasClean = false ∧
    (fire s .closeHs).log = s.log ++ [.closedResolved, .closeConn true] := by
  simp [fire, dropConnection_eq, h]

theorem fire_serverDrop_drops (s : S) (h : s.st ≠ .closed) :
    (fire s .serverDrop).st = .closed ∧ (fire s .serverDrop).notClean = some .serverDropTimeout ∧
    (fire s .serverDrop).wasClean = false ∧
    (fire s .serverDrop).log = s.log ++ [.closedResolved, .closeConn true] := by
  simp [fire, dropConnection_eq, h]

theorem fire_pingTimeout_drops (s : S) (h : s.st ≠ .closed) :
    (fire s .pingTimeout).st = .closed ∧ (fire s .pingTimeout).notClean = some .pingTimeout ∧
    (fire s .pingTimeout).wasClean = false ∧
    (fire s .pingTimeout).log = s.log ++ [.closedResolved, .closeConn true] := by
  simp [fire, dropConnection_eq, h]

theorem fire_openHs_drops (s : S) (h : s.st = .connecting) :
    (fire s .openHs).st = .closed ∧ (fire s .openHs).notClean = some .openTimeout ∧
    (fire s .openHs).log = s.log ++ [.closedResolved, .closeConn true] := by
  simp [fire, dropConnection_eq, h]

/-- the opening-handshake timer is inert once the handshake is done -/
theorem fire_openHs_inert (s : S) (h : s.st ≠ .connecting) :
    (fire s .openHs).log = s.log ∧ (fire s .openHs).st = s.st := by
  simp [fire, h]

/-! ### no timer has any effect after the connection is closed -/

/-- every timer callback leaves the log, the state and the close bookkeeping of a CLOSED connection untouched -/
theorem timers_inert_after_close (s : S) (k : TK) (h : s.st = .closed) :
    (fire s k).log = s.log ∧ (fire s k).st = .closed ∧ (fire s k).wasClean = s.wasClean ∧
    (fire s k).notClean = s.notClean ∧ (fire s k).remoteCloseCode = s.remoteCloseCode := by
  have e := fire_closed_eq s k h
  unfold IdleEq at e
  rw [e]
  exact ⟨rfl, h, rfl, rfl, rfl⟩

theorem fire_closed (s : S) (k : TK) (h : s.st = .closed) : (fire s k).st = .closed :=
  (timers_inert_after_close s k h).2.1

/-! ### deadlines: an armed timer whose deadline the clock has passed has fired

`Quiescent target s`: no timer of `s` is due at `target` — what `advanceTo target` guarantees when it returns
through one of its regular exits. It is a hypothesis of the deadline theorems below, discharged by `decide` in their
examples only: `advance` provides `dt/8 + 64` steps, enough when the ping interval is 0 or at least one second; a
sub-second interval can exhaust the fuel, and then the clock is not moved (visible in every compared run).

The four deadline theorems are one argument (`deadline_drops`): a fact that says the timer is armed survives the firing
of every other timer unless the connection gets closed (`fire_frame`), so it holds when `advanceTo` returns
(`advanceTo_inv`); the timer's own firing closes the connection; and an armed timer that is due contradicts
`Quiescent`. -/

/-- no timer of `s` is due at `target`: what `advanceTo target` leaves when its fuel did not run out -/
def Quiescent (target : Nat) (s : S) : Prop := ∀ t ∈ s.timers, target < t.2.1

/-- the three deadlines that, unlike `openHs`, do not ask for CONNECTING close the connection when they fire (or find
it closed) -/
theorem fire_deadline_closed (s : S) :
    (fire s .closeHs).st = .closed ∧ (fire s .serverDrop).st = .closed ∧ (fire s .pingTimeout).st = .closed := by
  by_cases hc : s.st = .closed
  · exact ⟨fire_closed _ _ hc, fire_closed _ _ hc, fire_closed _ _ hc⟩
  · exact ⟨(fire_closeHs_drops _ hc).1, (fire_serverDrop_drops _ hc).1, (fire_pingTimeout_drops _ hc).1⟩

theorem Quiescent.not_due {target : Nat} {s : S} (hq : Quiescent target s) (k : TK) (D q : Nat)
    (h : k.get s = some (D, q)) (hD : D ≤ target) : False := by
  have hm : (k, (D, q)) ∈ s.timers := by
    cases k <;> simp only [TK.get] at h <;> simp [S.timers, h]
  have := hq _ hm
  simp at this
  omega

/-- firing timer `w` closes the connection, or leaves the connection state and the handle of any other timer `k` as
they were; except that the automatic ping arms a ping timer and may start the send tick -/
theorem fire_frame (s : S) (w k : TK) (hne : k ≠ w)
    (hp : w = .pingNext → k = .openHs ∨ k = .closeHs ∨ k = .serverDrop) :
    (fire s w).st = .closed ∨ ((fire s w).st = s.st ∧ k.get (fire s w) = k.get s) := by
  -- a deadline handler: its own handle forgotten, then the drop or nothing
  have drop : ∀ (s1 s2 : S) (c : Prop) [Decidable c], s1.st = s.st → k.get s1 = k.get s →
      (if c then dropConnection s2 true else s1).st = .closed ∨
        ((if c then dropConnection s2 true else s1).st = s.st ∧ k.get (if c then dropConnection s2 true else s1) = k.get s) :=
    fun s1 s2 c _ h1 h2 => by
      split
      · exact Or.inl (dropConnection_st _ _)
      · exact Or.inr ⟨h1, h2⟩
  cases w with
  | pingNext =>
    have f := sendAutoPing_frame s
    rcases hp rfl with rfl | rfl | rfl
    · exact Or.inr ⟨f.1, f.2.1⟩
    · exact Or.inr ⟨f.1, f.2.2.1⟩
    · exact Or.inr ⟨f.1, f.2.2.2⟩
  | sendTick =>
    have e := sendTick_SendEq { s with tSendTick := none }
    refine Or.inr ⟨e.st, ?_⟩
    cases k
    · exact e.tOpenHs
    · exact e.tCloseHs
    · exact e.tServerDrop
    · exact e.tPingTimeout
    · exact e.tPingNext
    · exact absurd rfl hne
  | openHs => exact drop _ _ _ rfl (by cases k <;> first | rfl | exact absurd rfl hne)
  | closeHs => exact drop _ _ _ rfl (by cases k <;> first | rfl | exact absurd rfl hne)
  | serverDrop => exact drop _ _ _ rfl (by cases k <;> first | rfl | exact absurd rfl hne)
  | pingTimeout => exact drop _ _ _ rfl (by cases k <;> first | rfl | exact absurd rfl hne)

theorem advanceTo_inv (I : S → Prop) (target : Nat) (hnow : ∀ s n, I s → I { s with now := n })
    (hfire : ∀ s k d q, nextTimer s = some (k, d, q) → I s → (fire s k).st = .closed ∨ I (fire s k)) (fuel : Nat) (s : S) :
    (s.st = .closed ∨ I s) → ((advanceTo target fuel s).st = .closed ∨ I (advanceTo target fuel s)) :=
  advanceTo_rel (R := fun a b => (a.st = .closed ∨ I a) → (b.st = .closed ∨ I b)) (fun _ => id) (fun h1 h2 h => h2 (h1 h))
    (fun s _ h => h.imp id (hnow s _))
    (fun s k d q hn h => h.elim (fun hc => Or.inl (fire_closed _ k hc)) (hfire s k d q hn)) target fuel s

theorem pingNext_not_picked (s : S) (d q : Nat) (hn : s.tPingNext = none) : nextTimer s ≠ some (TK.pingNext, d, q) := by
  intro h
  have := nextTimer_mem s _ h
  simp [S.timers, hn] at this
  rcases this with h | h | h | h | h
  all_goals (split at h <;> simp at h)

/-- what `deadline_drops` carries through `advanceTo`: the deadline `k` armed for `D`, with its side conditions -/
structure Awaited (k : TK) (D q : Nat) (s : S) : Prop where
  armed : k.get s = some (D, q)
  connecting : k = .openHs → s.st = .connecting
  noPing : k = .pingTimeout → s.tPingNext = none

/-- the deadline argument once.  Timer `k` enforces a deadline (it is neither the ping schedule nor the send tick) and is
armed for `D ≤ target`; the opening-handshake deadline acts on a connection still CONNECTING; while the pong deadline is
awaited no further ping is scheduled (the automatic ping would re-arm it).  All this survives the clock and every other
timer `advanceTo` can pick, unless the connection gets closed (`fire_frame`), and then the timer's own callback closes the
connection; so a quiescent return of `advanceTo` means CLOSED -/
theorem deadline_drops (k : TK) (hk : k ≠ .pingNext ∧ k ≠ .sendTick) (target fuel : Nat) (s : S) (D q : Nat)
    (harmed : k.get s = some (D, q)) (hopen : k = .openHs → s.st = .connecting)
    (hping : k = .pingTimeout → s.tPingNext = none) (hD : D ≤ target)
    (hq : Quiescent target (advanceTo target fuel s)) : (advanceTo target fuel s).st = .closed := by
  rcases advanceTo_inv
      (Awaited k D q) target (fun s n h => ⟨by cases k <;> exact h.armed, h.connecting, h.noPing⟩)
      (fun s w d q' hn h => by
        by_cases hw : w = k
        · subst hw
          cases w
          · exact Or.inl (fire_openHs_drops s (h.connecting rfl)).1
          · exact Or.inl (fire_deadline_closed s).1
          · exact Or.inl (fire_deadline_closed s).2.1
          · exact Or.inl (fire_deadline_closed s).2.2
          · exact absurd rfl hk.1
          · exact absurd rfl hk.2
        · -- with no next ping scheduled, the automatic ping is not among the timers that can be picked
          have hw2 : k = .pingTimeout → w ≠ .pingNext := fun e e' => pingNext_not_picked s d q' (h.noPing e) (e' ▸ hn)
          have hp : w = .pingNext → k = .openHs ∨ k = .closeHs ∨ k = .serverDrop := fun e => by
            cases k
            · exact Or.inl rfl
            · exact Or.inr (Or.inl rfl)
            · exact Or.inr (Or.inr rfl)
            · exact absurd e (hw2 rfl)
            · exact absurd e hw
            · exact absurd rfl hk.2
          rcases fire_frame s w k (Ne.symm hw) hp with f | f
          · exact Or.inl f
          · by_cases e : k = .pingTimeout
            -- the pong deadline: `w` also leaves the (empty) handle of the next ping as it was
            · rcases fire_frame s w .pingNext (Ne.symm (hw2 e)) (fun e' => absurd e' (hw2 e)) with g | g
              · exact Or.inl g
              · exact Or.inr ⟨f.2.trans h.armed, fun e' => f.1.trans (h.connecting e'), fun _ => g.2.trans (h.noPing e)⟩
            · exact Or.inr ⟨f.2.trans h.armed, fun e' => f.1.trans (h.connecting e'), fun e' => absurd e' e⟩)
      fuel s (Or.inr ⟨harmed, hopen, hping⟩) with h | h
  · exact h
  · exact (hq.not_due k D q h.armed hD).elim

/-! #### the closing-handshake deadline -/

/-- if the closing-handshake timer is armed for deadline `D`, the clock has been advanced to `target ≥ D` and every
due timer has run, the connection is CLOSED (the peer's reply would have cleared the timer:
`onCloseFrame_cancels_closeHs`). -/
theorem close_timeout_drops (target fuel : Nat) (s : S) (D q : Nat)
    (harmed : s.tCloseHs = some (D, q)) (hD : D ≤ target)
    (hq : Quiescent target (advanceTo target fuel s)) :
    (advanceTo target fuel s).st = .closed :=
  deadline_drops .closeHs (by decide) target fuel s D q harmed (fun e => nomatch e) (fun e => nomatch e) hD hq

theorem afterCloseHandshake_tCloseHs (s : S) (a : Bool) (h : s.tCloseHs = none) :
    (afterCloseHandshake s a).1.tCloseHs = none := by
  rcases afterCloseHandshake_cases s a with e | ⟨_, t, q, e, _⟩ <;> rw [e]
  · rcases dropConnection_cases s a with e | ⟨q, l, e⟩ <;> rw [e] <;> exact h
  · exact h

/-- the peer's (acceptable) close reply cancels the closing-handshake timer -/
theorem onCloseFrame_cancels_closeHs (s : S) (code : Option Nat) (reason : Option Bytes)
    (hst : s.st = .closing) (hc : ∀ c, code = some c → closeCodeInvalid c = false)
    (hr : ∀ r, reason = some r → utf8Valid r = true) :
    (onCloseFrame s code reason).1.tCloseHs = none := by
  rw [onCloseFrame_checked s code reason hc hr]
  unfold closeStateStep
  simp only [hst]
  exact afterCloseHandshake_tCloseHs _ _ rfl

/-! #### the server-connection-drop deadline (client) -/

/-- a client whose server-connection-drop timer is armed for `D` is CLOSED once the clock has passed `D` with every
due timer run (the server's TCP drop would have cancelled it: `connectionLost_cancels`) -/
theorem server_drop_timeout_drops (target fuel : Nat) (s : S) (D q : Nat)
    (harmed : s.tServerDrop = some (D, q)) (hD : D ≤ target)
    (hq : Quiescent target (advanceTo target fuel s)) :
    (advanceTo target fuel s).st = .closed :=
  deadline_drops .serverDrop (by decide) target fuel s D q harmed (fun e => nomatch e) (fun e => nomatch e) hD hq

/-- the framework's connection-lost notification cancels the server-drop, ping and open-handshake timers -/
theorem connectionLost_cancels (s : S) (h : s.lost = false) :
    (connectionLost s).tServerDrop = none ∧ (connectionLost s).tPingTimeout = none ∧
    (connectionLost s).tPingNext = none ∧ (connectionLost s).tOpenHs = none := by
  obtain ⟨n, pre, c, r, y, _, e⟩ := connectionLost_eq s h
  rw [e]
  exact ⟨rfl, rfl, rfl, rfl⟩

/-- `server_drop_timeout_drops` applies to a real history: a client sends close, the server replies, but never drops
the TCP connection; serverConnectionDropTimeout (1 s) later the client has dropped it -/
example : let s := run (start { isServer := false }) [.close (some 1000) none, .feed [0x88, 0x02, 0x03, 0xe8]]
    s.st = .closing ∧ s.tServerDrop.isSome = true ∧
    (∀ t ∈ (advanceTo (s.now + 2097152) 64 s).timers, s.now + 2097152 < t.2.1) ∧
    (advanceTo (s.now + 2097152) 64 s).st = .closed := by
  decide

/-! #### the opening-handshake deadline -/

/-- a connection still in its opening handshake whose handshake timer is armed for `D` is CLOSED once the clock has
passed `D` with every due timer run (completing the handshake would have cancelled it:
`handshakeDone_cancels_openHs`) -/
theorem open_timeout_drops (target fuel : Nat) (s : S) (D q : Nat)
    (harmed : s.tOpenHs = some (D, q)) (hc : s.st = .connecting) (hD : D ≤ target)
    (hq : Quiescent target (advanceTo target fuel s)) :
    (advanceTo target fuel s).st = .closed :=
  deadline_drops .openHs (by decide) target fuel s D q harmed (fun _ => hc) (fun e => nomatch e) hD hq

/-- the handshake completing cancels the opening-handshake deadline -/
theorem handshakeDone_cancels_openHs (s : S) (h : s.st = .connecting) : (handshakeDone s).tOpenHs = none := by
  rw [handshakeDone_opens s h]
  split <;> rfl

/-- the hypotheses are met by a real start state: handshake timeout 1 s, the peer never completes the handshake, two
seconds later every due timer has run and the connection is CLOSED -/
example : (startConnecting { openHsTimeout := 1048576 }).st = .connecting ∧
    (startConnecting { openHsTimeout := 1048576 }).tOpenHs = some (1048576, 0) ∧
    (∀ t ∈ (advanceTo 2097152 64 (startConnecting { openHsTimeout := 1048576 })).timers, 2097152 < t.2.1) ∧
    (advanceTo 2097152 64 (startConnecting { openHsTimeout := 1048576 })).st = .closed := by
  decide

/-! #### the pong deadline -/

/-- a ping is outstanding with its pong deadline armed for `D` (and, as always then, no further ping scheduled); the
peer stays silent: once the clock has passed `D` with every due timer run the connection is CLOSED (a matching pong
would have cancelled the deadline: `pong_cancels_pingTimeout`) -/
theorem ping_timeout_drops (target fuel : Nat) (s : S) (D q : Nat)
    (harmed : s.tPingTimeout = some (D, q)) (hn : s.tPingNext = none) (hD : D ≤ target)
    (hq : Quiescent target (advanceTo target fuel s)) :
    (advanceTo target fuel s).st = .closed :=
  deadline_drops .pingTimeout (by decide) target fuel s D q harmed (fun e => nomatch e) (fun _ => hn) hD hq

/-- a matching pong cancels the pong deadline -/
theorem pong_cancels_pingTimeout (s : S) (p : Bytes) (h : s.pingPending = some p) :
    (onPongFrame s p).tPingTimeout = none := by
  rw [onPongFrame_eq, if_pos h]
  split <;> rfl

/-- any data frame counts as traffic: with `autoPingRestartOnAnyTraffic` the end of EVERY data frame, final or not
(`endDataFrame` runs in `onFrameEnd` before the `fin` test), cancels a pending pong deadline and forgets the outstanding
ping: a peer that is busy streaming the fragments of one long message is not dropped for the missing pong (the
`data_instead = 3` scenario of the C17 harness). -/
theorem data_frame_cancels_pingTimeout (s : S) (hr : s.cfg.pingRestart = true) (ht : s.tPingTimeout.isSome = true) :
    (endDataFrame s).tPingTimeout = none ∧ (endDataFrame s).pingPending = none := by
  unfold endDataFrame
  dsimp only
  split <;>
  · simp only [ht, hr, Bool.and_self, if_true]
    rw [cancelAutoPingTimeout_eq]
    split <;> exact ⟨rfl, rfl⟩

/-- … and the non-final frame of `onFrameEnd` goes through it: the frame end of a data frame with `fin = false` -/
theorem nonfinal_frame_cancels_pingTimeout (s : S) (h : Hdr) (ho : ¬ h.opcode > 7) (hfin : h.fin = false)
    (hr : s.cfg.pingRestart = true) (ht : s.tPingTimeout.isSome = true) :
    (onFrameEnd s h).1.tPingTimeout = none := by
  have hc : (endDataFrame s).tPingTimeout = none := (data_frame_cancels_pingTimeout s hr ht).1
  unfold onFrameEnd
  simp only [ho, if_false, hfin]
  simpa using hc

/-- a real history: ping interval 1 s, pong deadline 1 s, the peer never answers: after the first ping the deadline is
armed and no further ping is scheduled; two seconds later the connection has been dropped -/
example : let s := run (start { pingInterval := 1048576, pingTimeout := 1048576 }) [.advance 1048576]
    s.st = .opened ∧ s.tPingTimeout.isSome = true ∧ s.tPingNext = none ∧
    (∀ t ∈ (advanceTo (s.now + 2097152) 64 s).timers, s.now + 2097152 < t.2.1) ∧
    (advanceTo (s.now + 2097152) 64 s).st = .closed := by
  decide

/-! ### every automatic ping and every matching pong re-arms a ping timer -/

/-- on an OPEN connection with automatic pings configured, every automatic ping arms either the pong deadline or —
when no deadline is configured — the next ping itself -/
theorem sendAutoPing_rearms (s : S) (hst : s.st = .opened) (hi : s.cfg.pingInterval > 0) :
    (sendAutoPing s).tPingTimeout.isSome ∨ (sendAutoPing s).tPingNext.isSome := by
  rw [sendAutoPing_eq]
  have p := pinged_of s
  split
  · exact Or.inl rfl
  · rw [p.cfg, p.st, if_pos (by simp [hi, hst])]
    exact Or.inr rfl

/-- a matching pong leaves the next ping armed -/
theorem pong_rearms (s : S) (p : Bytes) (h : s.pingPending = some p) (hi : s.cfg.pingInterval > 0) :
    (onPongFrame s p).tPingNext.isSome := by
  rw [onPongFrame_eq, if_pos h]
  cases hn : s.tPingNext with
  | none => rw [if_pos (by simp [hi])]; rfl
  | some t => rw [if_neg (by simp)]; rfl

end Abverif.Ws

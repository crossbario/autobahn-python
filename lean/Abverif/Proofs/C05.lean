import Abverif.Proofs.Lemmas.WsExt
import Abverif.Proofs.C01
/-
C05 — WebSocket connections close exactly once, in order.
Theorems over ARBITRARY operation sequences (`run (start cfg) ops`, any length), by induction with the relation `Ext`
(Proofs/Lemmas/WsExt.lean) that every operation except the framework's connection-lost notification satisfies:
the state only moves forward and `onClose` comes once, at the loss of the transport; nothing is delivered or written after
it; at most one close frame, a legal one; while CLOSING a drop timer is armed; a pending `onConnect()` result.
-/
namespace Abverif.Ws

def countOnClose (log : List Out) : Nat := (log.filter Out.isOnClose).length

theorem connectionLost_rank (s : S) : s.st.rank ≤ (connectionLost s).st.rank :=
  connectionLost_of (R := fun a b => a.st.rank ≤ b.st.rank) (fun _ => Nat.le_refl _) s fun _ _ => rank_le_closed _

theorem connectionLost_closed (s : S) (h : s.lost = false) :
    (connectionLost s).st = .closed ∧ (connectionLost s).lost = true := by
  obtain ⟨n, pre, c, r, y, _, e⟩ := connectionLost_eq s h
  rw [e]; exact ⟨rfl, rfl⟩

theorem connectionLost_emits_one (s : S) (h : s.lost = false) :
    countOnClose (connectionLost s).log = countOnClose s.log + 1 := by
  obtain ⟨n, pre, c, r, y, hp, e⟩ := connectionLost_eq s h
  have h0 : pre.filter Out.isOnClose = [] :=
    List.filter_eq_nil_iff.mpr fun o ho => by rw [hp o ho]; simp [Out.isOnClose]
  rw [e]
  simp only [countOnClose, List.filter_append, h0, List.append_nil, List.length_append]
  rfl

theorem Ext.count {a b : S} (h : Ext a b) : countOnClose b.log = countOnClose a.log := by
  obtain ⟨d, e, n⟩ := h.log
  unfold countOnClose
  rw [e, List.filter_append]
  have : d.filter Out.isOnClose = [] := by
    rw [List.filter_eq_nil_iff]
    intro o ho
    simp [n o ho]
  simp [this]

/-- the connection state only moves forward (CONNECTING < OPEN < CLOSING < CLOSED) under every
sequence of API calls, reads, clock advances and connection loss -/
theorem state_monotone (s : S) (ops : List Op) : s.st.rank ≤ (run s ops).st.rank :=
  Ext.history (Inv := fun t => s.st.rank ≤ t.st.rank) (fun e h => Nat.le_trans h e.rank)
    (fun t _ h => Nat.le_trans h (connectionLost_rank t)) ops s (Nat.le_refl _)

def CloseOnce (s : S) : Prop :=
  (s.lost = false ∧ countOnClose s.log = 0) ∨ (s.lost = true ∧ countOnClose s.log = 1)

theorem Ext.closeOnce {a b : S} (e : Ext a b) (h : CloseOnce a) : CloseOnce b := by
  unfold CloseOnce; rw [e.lost, e.count]; exact h

theorem run_closeOnce (s : S) (ops : List Op) (h : CloseOnce s) : CloseOnce (run s ops) :=
  Ext.history Ext.closeOnce
    (fun s hl h => Or.inr ⟨(connectionLost_closed s hl).2, by
      rcases h with ⟨_, hc⟩ | ⟨hl', _⟩
      · rw [connectionLost_emits_one s hl, hc]
      · rw [hl] at hl'; cases hl'⟩) ops s h

theorem start_closeOnce (cfg : Cfg) : CloseOnce (start cfg) := by
  obtain ⟨t, q, e, _⟩ := start_eq cfg
  rw [e]
  exact Or.inl ⟨rfl, rfl⟩

/-- `onClose` is delivered at most once (and exactly once after the transport is gone, never before): for every configuration
and every history -/
theorem onClose_at_most_once (cfg : Cfg) (ops : List Op) :
    countOnClose (run (start cfg) ops).log ≤ 1 ∧
    ((run (start cfg) ops).lost = true ↔ countOnClose (run (start cfg) ops).log = 1) := by
  rcases run_closeOnce _ ops (start_closeOnce cfg) with ⟨hl, hc⟩ | ⟨hl, hc⟩
  · simp [hl, hc]
  · simp [hl, hc]

/-- only the connection-lost event delivers `onClose` (so it comes after the transport is gone) -/
theorem onClose_only_at_lost (s : S) (op : Op) (h : op ≠ .lost) :
    countOnClose (step s op).log = countOnClose s.log := by
  unfold step
  rw [(pump_Ext _).count, (stepCore_Ext s op h).count]

theorem lost_closed (s : S) (h : s.lost = false) : (step s .lost).st = .closed := by
  unfold step
  have h1 := (connectionLost_closed s h).1
  have h2 := (pump_Ext (stepCore s .lost)).rank
  simp only [stepCore] at h2 ⊢
  rw [h1] at h2
  generalize (pump (connectionLost s)).st = st at h2
  cases st <;> simp [St.rank] at h2 ⊢

/-! ### nothing is delivered or written after the close notification -/

def Out.isRaised : Out → Bool
  | .raised _ => true
  | _ => false

def Dead (s : S) : Prop := s.lost = true ∧ s.st = .closed

/-- `b` is `a` plus exceptions raised to the caller: nothing written, delivered, dropped or notified -/
def OnlyRaised (a b : S) : Prop := Dead b ∧ ∃ d, b.log = a.log ++ d ∧ ∀ o ∈ d, o.isRaised = true

theorem OnlyRaised.refl {a : S} (h : Dead a) : OnlyRaised a a := ⟨h, LogGrows.of_eq rfl⟩

theorem OnlyRaised.trans {a b c : S} (h1 : OnlyRaised a b) (h2 : OnlyRaised b c) : OnlyRaised a c :=
  ⟨h2.1, LogGrows.trans h1.2 h2.2⟩

theorem OnlyRaised.raise {a : S} (h : Dead a) (e : Err) : OnlyRaised a (a.emit (.raised e)) :=
  ⟨h, LogGrows.emit a _ rfl⟩

theorem fire_dead (s : S) (k : TK) (h : Dead s) : OnlyRaised s (fire s k) := by
  have e := fire_closed_eq s k h.2
  rw [e]
  exact ⟨h, LogGrows.of_eq rfl⟩

theorem advanceTo_dead (target fuel : Nat) (s : S) : Dead s → OnlyRaised s (advanceTo target fuel s) :=
  advanceTo_rel (R := fun a b => Dead a → OnlyRaised a b) (fun _ h => OnlyRaised.refl h)
    (fun h1 h2 h => (h1 h).trans (h2 (h1 h).1)) (fun _ _ h => ⟨h, LogGrows.of_eq rfl⟩)
    (fun s k _ _ _ h => fire_dead s k h) target fuel s

/-- once the transport is gone (and the close notification delivered), no operation of any
kind — late data, timers, API calls — writes, delivers, drops or notifies anything; API calls at most raise -/
theorem silent_after_onClose (s : S) (op : Op) (h : Dead s) : OnlyRaised s (step s op) := by
  have core : OnlyRaised s (stepCore s op) := by
    have hst := h.2
    have hl := h.1
    by_cases hd : op.isData = true
    · -- the data-sending API is guarded by `state == OPEN`
      obtain ⟨l, hr, e⟩ := stepCore_notOpen s op hd (by rw [hst]; decide)
      rw [e]
      exact ⟨h, l, rfl, fun o ho => by obtain ⟨x, rfl⟩ := hr o ho; rfl⟩
    -- every other operation is guarded by `lost`, by the connection state, or raises
    cases op with
    | feed d => simp [stepCore, dataReceived, hl]; exact OnlyRaised.refl h
    | lost => show OnlyRaised s (connectionLost s); rw [connectionLost_idem s hl]; exact OnlyRaised.refl h
    | advance dt => exact advanceTo_dead _ _ _ h
    | ping pl => simp [stepCore, sendPing, hst]; exact OnlyRaised.refl h
    | pong pl => simp [stepCore, sendPong, hst]; exact OnlyRaised.refl h
    | close c r =>
      exact sendClose_of s c r (OnlyRaised.raise h _) fun _ => by simp [sendCloseFrame, hst]; exact OnlyRaised.refl h
    | hsDone =>
      show OnlyRaised s (handshakeDone s); rw [handshakeDone_idle s (by rw [hst]; decide)]; exact OnlyRaised.refl h
    | hsThenFeed d =>
      simp [stepCore, handshakeDone_idle s (by rw [hst]; decide), dataReceived, hl]; exact OnlyRaised.refl h
    | _ => exact absurd rfl hd
  exact OnlyRaised.trans core (advanceTo_dead _ _ _ core.1)

theorem dead_forever (s : S) (ops : List Op) (h : Dead s) : Dead (run s ops) :=
  run_induction (ok := fun _ => True) (fun s op _ h => (silent_after_onClose s op h).1) ops (fun _ _ => trivial) s h

/-! ### at most one close frame, and only a legal one -/

/-- invariant on the record of close frames sent (`closeSent` is a history variable appended to by `sendCloseFrame`
at the place where it hands the frame `8 ‖ closePayload code reason` to `sendFrame`) -/
def CloseInv (s : S) : Prop :=
  s.closeSent.length ≤ 1 ∧ (s.closeSent ≠ [] → 2 ≤ s.st.rank) ∧ ∀ x ∈ s.closeSent, LegalClose x

theorem Ext.closeInv {a b : S} (h : Ext a b) (ha : CloseInv a) : CloseInv b := by
  obtain ⟨h1, h2, h3⟩ := ha
  rcases h.cs with e | ⟨ra, rb, x, ex, lx⟩
  · rw [CloseInv, e]
    exact ⟨h1, fun hne => Nat.le_trans (h2 hne) h.rank, h3⟩
  · have hnil : a.closeSent = [] := by
      cases hcs : a.closeSent with
      | nil => rfl
      | cons y ys => have := h2 (by simp [hcs]); omega
    rw [CloseInv, ex, hnil]
    refine ⟨by simp, fun _ => rb, ?_⟩
    intro y hy
    simp at hy; subst hy; exact lx

theorem run_closeInv (s : S) (ops : List Op) (h : CloseInv s) : CloseInv (run s ops) :=
  Ext.history Ext.closeInv
    (fun s _ h => by
      rw [CloseInv, connectionLost_closeSent]
      exact ⟨h.1, fun hne => Nat.le_trans (h.2.1 hne) (connectionLost_rank s), h.2.2⟩) ops s h

theorem start_closeInv (cfg : Cfg) : CloseInv (start cfg) := by
  obtain ⟨t, q, e, _⟩ := start_eq cfg
  rw [e]
  exact ⟨Nat.zero_le _, fun h => absurd rfl h, fun x h => by cases h⟩

/-- for every configuration and every history, at most one close frame is
ever sent; when one has been sent the connection is CLOSING or CLOSED; and its status code is one RFC 6455 §7.4 allows
on the wire (whether it comes from `sendClose`, from a failure, or is the echoed peer code) and its reason is at most
123 octets long -/
theorem one_close_frame (cfg : Cfg) (ops : List Op) :
    (run (start cfg) ops).closeSent.length ≤ 1 ∧
    ((run (start cfg) ops).closeSent ≠ [] → 2 ≤ (run (start cfg) ops).st.rank) ∧
    ∀ x ∈ (run (start cfg) ops).closeSent, LegalClose x :=
  run_closeInv _ ops (start_closeInv cfg)

/-- the frame handed to `sendFrame` for a recorded close is exactly opcode 8 with payload `code ‖ reason` -/
theorem close_frame_on_wire (s : S) (code : Option Nat) (reason : Option Bytes) (r : Bool) (h : s.st = .opened) :
    ∃ s', s' = sendFrame s 8 (closePayload code reason) ∧
      (sendCloseFrame s code reason r).log = s'.log ∧
      (sendCloseFrame s code reason r).closeSent = s.closeSent ++ [(code, reason)] := by
  obtain ⟨t, q, e, _⟩ := sendCloseFrame_opened_eq s code reason r h
  rw [e]
  exact ⟨_, rfl, rfl, rfl⟩

/-- the payload of a close frame is never of length 1 (a status code takes two octets) -/
theorem closePayload_length (code : Option Nat) (reason : Option Bytes) (h : reason.isSome → code.isSome) :
    (closePayload code reason).length ≠ 1 := by
  unfold closePayload
  cases code with
  | none =>
    cases reason with
    | none => simp
    | some r => simp at h
  | some c => simp [beBytes_length]; omega

/-! ### once closing has begun a drop timer is armed; the result of a pending `onConnect()` -/

theorem start_cbInv (cfg : Cfg) : CBInv (start cfg) := by
  obtain ⟨t, q, e, _⟩ := start_eq cfg
  rw [e]
  exact fun h => by cases h

/-- the invariant behind "closing is bounded": in every reachable state, for every
configuration and history, a connection in CLOSING has the closing-handshake timer armed, or is a client with the
server-connection-drop timer armed — unless the respective timeout is configured to 0 (disabled).  What follows
from it, with the C17 deadline theorems, is `closing_bounded` (WsCloseBounded.lean). -/
theorem closing_has_timer (cfg : Cfg) (ops : List Op) : CBInv (run (start cfg) ops) :=
  Ext.history (fun e => e.cb) (fun s hl _ hc => by rw [(connectionLost_closed s hl).1] at hc; cases hc) ops _
    (start_cbInv cfg)

/-- non-vacuity: a client that answered the server's close frame is CLOSING with the server-drop timer armed -/
example : (run (start { isServer := false }) [.feed [0x88, 0x00]]).st = .closing ∧
    (run (start { isServer := false }) [.feed [0x88, 0x00]]).tServerDrop.isSome = true := by decide

/-- the application's `onConnect()` may return a pending Deferred/Future; its result
(script op `res`, model `hsDone` = `succeedHandshake` / client `on_connect_success`) arriving when the connection is no
longer CONNECTING changes nothing at all: no state change, nothing written, no callback.  (The guard in the code is /repo 940acade. The general statements
`state_monotone`, `silent_after_onClose`, `dead_forever` quantify over `hsDone` like over every other operation; this is
the pointwise form.) -/
theorem late_connect_result_inert (s : S) (h : s.st ≠ .connecting) : stepCore s .hsDone = s :=
  handshakeDone_idle s h

/-- … and while the connection is still CONNECTING the same result opens it, cancelling the opening-handshake timer -/
theorem connect_result_in_time_opens (s : S) (h : s.st = .connecting) :
    (stepCore s .hsDone).st = .opened ∧ (stepCore s .hsDone).tOpenHs = none := by
  rw [show stepCore s .hsDone = handshakeDone s from rfl, handshakeDone_opens s h]
  split <;> exact ⟨rfl, rfl⟩

/-- a pending `onConnect` leaves the opening-handshake timer in charge: a server still CONNECTING when the timer's deadline
passes is dropped, and the result arriving afterwards is ignored (corpus case `pending-onconnect-timeout-then-result-server`) -/
example : (run (startConnecting { isServer := true, openHsTimeout := 1048576 }) [.advance 1048584, .hsDone]).st = .closed := by
  decide

end Abverif.Ws

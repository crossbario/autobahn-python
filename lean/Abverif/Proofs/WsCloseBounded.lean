import Abverif.Proofs.Lemmas.WsDeadline
import Abverif.Proofs.Lemmas.WsStep
import Abverif.Proofs.C05
import Abverif.Proofs.C17
/-
# C05: once closing has begun the connection is CLOSED within the configured timeouts, even if the peer never responds

`closing_bounded`: take any state reachable from a fresh connection by any history in which the connection is CLOSING,
with the governing timeouts configured on.  Let time pass with no further input: as soon as the clock has moved
`max closeHsTimeout serverDropTimeout` ahead (and the due timers have run), the connection is CLOSED.
Ingredients: `closing_has_timer` (C05: a drop timer is armed while CLOSING), `deadline_bounded` (here: an armed timer's
deadline is at most now + its timeout, in every reachable state; invariant `DB`, kept by every engine function:
`DP.walk` in `Lemmas/WsDeadline.lean`), `close_timeout_drops` / `server_drop_timeout_drops` (C17: the deadline passes → CLOSED).
-/
namespace Abverif.Ws

theorem run_DB (ops : List Op) (s : S) (h : DB s) : DB (run s ops) :=
  DP.walk.history (ok := fun _ => True) id (fun s op hd => DP.of_ApiEq (stepCore_ApiEq s op hd))
    (fun s _ => connectionLost_DP s) (fun s c r _ => sendClose_DP s c r) ops (fun _ _ => trivial) s h

theorem start_DB (cfg : Cfg) : DB (start cfg) := by
  obtain ⟨t, q, e, _⟩ := start_eq cfg
  rw [e]
  exact ⟨fun D q h => (by cases h), fun D q h => (by cases h)⟩

/-- in every reachable state an armed closing-handshake / server-drop timer is due no later
than now + its configured timeout -/
theorem deadline_bounded (cfg : Cfg) (ops : List Op) : DB (run (start cfg) ops) := run_DB ops _ (start_DB cfg)

/-- from any CLOSING state with a drop timer armed (`CBInv`) whose deadline is within its timeout (`DB`): CLOSED once the
clock has moved `max closeHsTimeout serverDropTimeout` ahead and the timers due by then have run -/
theorem closing_bounded_of (s : S) (hc : s.st = .closing) (hcb : CBInv s) (hdb : DB s)
    (h1 : s.cfg.closeHsTimeout > 0) (h2 : s.cfg.isServer = false → s.cfg.serverDropTimeout > 0) (target fuel : Nat)
    (ht : s.now + max s.cfg.closeHsTimeout s.cfg.serverDropTimeout ≤ target)
    (hq : Quiescent target (advanceTo target fuel s)) : (advanceTo target fuel s).st = .closed := by
  rcases hcb hc with (h | h) | ⟨hsrv, h | h⟩
  · cases ht' : s.tCloseHs with
    | none => rw [ht'] at h; cases h
    | some t =>
      obtain ⟨D, q⟩ := t
      have := hdb.1 D q ht'
      exact close_timeout_drops target fuel s D q ht' (by omega) hq
  · omega
  · cases ht' : s.tServerDrop with
    | none => rw [ht'] at h; cases h
    | some t =>
      obtain ⟨D, q⟩ := t
      have := hdb.2 D q ht'
      exact server_drop_timeout_drops target fuel s D q ht' (by omega) hq
  · have := h2 hsrv; omega

/-- for every configuration with the governing timeouts on and every history that leaves the connection CLOSING: if from then on nothing arrives, the connection is CLOSED once the clock has moved
`max closeHsTimeout serverDropTimeout` ahead and the timers due by then have run (`Quiescent`: the run of
`advanceTo` was not cut short by its fuel). -/
theorem closing_bounded (cfg : Cfg) (ops : List Op)
    (hc : (run (start cfg) ops).st = .closing)
    (h1 : cfg.closeHsTimeout > 0) (h2 : cfg.isServer = false → cfg.serverDropTimeout > 0)
    (target fuel : Nat)
    (ht : (run (start cfg) ops).now + max cfg.closeHsTimeout cfg.serverDropTimeout ≤ target)
    (hq : Quiescent target (advanceTo target fuel (run (start cfg) ops))) :
    (advanceTo target fuel (run (start cfg) ops)).st = .closed := by
  have hcfg : (run (start cfg) ops).cfg = cfg := by rw [run_cfg, start_cfg]
  exact closing_bounded_of _ hc (closing_has_timer cfg ops) (deadline_bounded cfg ops) (by rw [hcfg]; exact h1)
    (by rw [hcfg]; exact h2) target fuel (by rw [hcfg]; exact ht) hq

/-- the hypotheses are met by a real history (server, default timeouts of 1 s = 2^20 units): we send a close frame, the
peer stays silent, the clock moves 2 s ahead — CLOSING before, every due timer run, CLOSED after -/
example : (run (start {}) [.close (some 1000) none]).st = .closing ∧
    (run (start {}) [.close (some 1000) none]).now + max ({} : Cfg).closeHsTimeout ({} : Cfg).serverDropTimeout ≤ 2097152 ∧
    (∀ t ∈ (advanceTo 2097152 64 (run (start {}) [.close (some 1000) none])).timers, 2097152 < t.2.1) ∧
    (advanceTo 2097152 64 (run (start {}) [.close (some 1000) none])).st = .closed := by
  decide

end Abverif.Ws

import Abverif.Proofs.C09Tables
import Abverif.Proofs.Lemmas.Utf8Loop
import Abverif.Proofs.Lemmas.Utf8Scalars
/-
C09 — UTF-8 validation equals RFC 3629, incrementally and in both implementations.

Property theorems. The three table theorems (`Proofs/C09Tables.lean`: tablePy_eq_rfc, tableC_eq_rfc,
unrolledC_eq_rfc) are about the tables REGENERATED from /repo on every run (`Abverif/Generated/Utf8*.lean`);
everything here is proved for all byte strings and all chunkings by induction and uses the tables only through them.
-/
namespace Abverif.Utf8

/-- the executable `wf` decides the RFC 3629 ABNF -/
theorem wf_iff_WF (b : Bytes) : wf b = true ↔ WF b := ⟨WF_of_wf b, wf_of_WF b⟩

/-- the automaton accepts exactly the well-formed strings -/
theorem dfa_accepts_iff_WF (b : Bytes) : run rfcStep 0 b = 0 ↔ WF b := by
  rw [run_accepts 0 b]; exact wf_iff_WF b

/-- the automaton is out of the reject state exactly while some extension is well-formed -/
theorem dfa_alive_iff_prefix (b : Bytes) : run rfcStep 0 b ≠ 1 ↔ Alive b := by
  constructor
  · exact fun h => ⟨_, (dfa_accepts_iff_WF _).mp (witness_completes b h)⟩
  · rintro ⟨t, ht⟩ h
    have := (dfa_accepts_iff_WF _).mpr ht
    rw [run_append, h, run_reject] at this
    exact absurd this (by decide)

/-- the executable `aliveB` (six candidate completions) decides `Alive` -/
theorem aliveB_iff_Alive (b : Bytes) : aliveB b = true ↔ Alive b := by
  simp only [aliveB, List.any_eq_true]
  constructor
  · rintro ⟨t, _, ht⟩
    exact ⟨t, (wf_iff_WF _).mp ht⟩
  · intro h
    exact ⟨_, witness_mem _ (run_lt 0 (by omega) b), (wf_iff_WF _).mpr
      ((dfa_accepts_iff_WF _).mp (witness_completes b ((dfa_alive_iff_prefix b).mpr h)))⟩

theorem Alive_prefix (a b : Bytes) (h : Alive (a ++ b)) : Alive a := by
  obtain ⟨t, ht⟩ := h
  exact ⟨b ++ t, by rwa [← List.append_assoc]⟩

theorem aliveB_iff_run (b : Bytes) : aliveB b = true ↔ run rfcStep 0 b ≠ 1 :=
  (aliveB_iff_Alive b).trans (dfa_alive_iff_prefix b).symm

theorem aliveB_prefix (a b : Bytes) (h : aliveB (a ++ b) = true) : aliveB a = true :=
  (aliveB_iff_Alive a).mpr (Alive_prefix a b ((aliveB_iff_Alive _).mp h))

theorem not_aliveB_of_run (b : Bytes) (h : run rfcStep 0 b = 1) : aliveB b = false :=
  Bool.eq_false_iff.mpr fun hb => (aliveB_iff_run b).mp hb h

theorem wf_append (a b : Bytes) (ha : wf a = true) : wf (a ++ b) = wf b := by
  show lang 0 (a ++ b) = lang 0 b
  rw [lang_run 0, (run_accepts 0 a).mpr ha]

/-- grammar ⇔ code points: the well-formed strings are exactly the concatenated shortest-form encodings of
Unicode scalar values (≤ U+10FFFF, no surrogates) — hence no overlong forms, no surrogates, nothing above U+10FFFF -/
theorem WF_iff_scalars (b : Bytes) :
    WF b ↔ ∃ cps : List Nat, (∀ cp ∈ cps, isScalar cp = true) ∧ b = encodeAll cps := by
  constructor
  · intro h
    induction h with
    | nil => exact ⟨[], by simp, rfl⟩
    | cons c r hc _ ih =>
      obtain ⟨cps, h1, h2⟩ := ih
      obtain ⟨cp, h3, h4⟩ := UChar_encode c hc
      exact ⟨cp :: cps, List.forall_mem_cons.mpr ⟨h3, h1⟩, by simp [encodeAll, h4, h2]⟩
  · rintro ⟨cps, h1, rfl⟩
    induction cps with
    | nil => exact WF.nil
    | cons cp cps ih =>
      obtain ⟨hcp, hcps⟩ := List.forall_mem_cons.mp h1
      rw [encodeAll, List.flatMap_cons]
      exact WF.cons _ _ (encode_UChar cp hcp) (ih hcps)

example : WF (encodeAll [0x41, 0x20AC, 0x10FFFF, 0xD7FF, 0xE000]) :=
  (WF_iff_scalars _).mpr ⟨_, by decide, rfl⟩

/-- reachable validator states -/
def St.ok (st : St) : Prop := st.state < 9

theorem St.ok_of_lt {st : St} (h : st.state < 9) : st.ok := h

theorem loop_congr (step : Nat → Nat → Nat) (hstep : ∀ s, s < 9 → ∀ o, o < 256 → step s o = rfcStep s o)
    (rej s i : Nat) (hs : s < 9) (b : Bytes) : loop step rej s i b = loop rfcStep rej s i b := by
  induction b generalizing s i with
  | nil => rfl
  | cons a r ih =>
    have e : step s a.toNat = rfcStep s a.toNat := hstep s hs _ (UInt8.toNat_lt a)
    simp only [loop, e]
    split
    · rfl
    · exact ih _ _ (rfcStep_lt _ _)

theorem validatePy_eq_rfc (st : St) (h : st.ok) (b : Bytes) : validatePy st b = validateRfc st b := by
  have hc := consts_eq_rfc
  simp only [validatePy, validateRfc, validateWith, hc.1, hc.2.1]
  rw [loop_congr pyStep tablePy_eq_rfc 1 st.state 0 h b]

/-- every NVX implementation id, from every reachable state (the reject state included): with the loop guards as
read from the C source (`loops_run_in_reject`) the C control flow is the pure-Python one -/
theorem validateNvx_eq_rfc (impl : Nat) (st : St) (h : st.ok) (b : Bytes) :
    validateNvx impl st b = validateRfc st b := by
  have hg := loops_run_in_reject
  unfold validateNvx
  split
  · simp only [validateNvxWith, hg.2, Bool.false_and, Bool.false_eq_true, ↓reduceIte, validateRfc, validateWith]
    rw [loop_congr cUnrolledStep unrolledC_eq_rfc 1 st.state 0 h b]
  · simp only [validateNvxWith, hg.1, Bool.false_and, Bool.false_eq_true, ↓reduceIte, validateRfc, validateWith]
    rw [loop_congr cTableStep tableC_eq_rfc 1 st.state 0 h b]

theorem validateRfc_ok (st : St) (h : st.ok) (b : Bytes) : (validateRfc st b).2.ok := by
  rw [validateRfc, validate_eq]
  exact loop_inv rfcStep 1 (· < 9) (fun s o _ => rfcStep_lt s o) _ _ _ h

theorem St.init_ok : St.init.ok := St.ok_of_lt (by decide)

theorem validatePy_init (b : Bytes) : validatePy .init b = validateRfc .init b := validatePy_eq_rfc _ St.init_ok b

theorem feed_congr (v w : St → Bytes → Res × St) (P : St → Prop)
    (hvw : ∀ st, P st → ∀ b, v st b = w st b) (hP : ∀ st, P st → ∀ b, P (w st b).2)
    (st : St) (h : P st) (cs : List Bytes) : feed v st cs = feed w st cs := by
  induction cs generalizing st with
  | nil => rfl
  | cons c cs ih =>
    simp only [feed, hvw st h c]
    rw [ih _ (hP st h c)]

theorem feedPy_eq_rfc (st : St) (h : st.ok) (cs : List Bytes) : feed validatePy st cs = feed validateRfc st cs :=
  feed_congr _ _ St.ok validatePy_eq_rfc validateRfc_ok st h cs

/-- the `validate` loop is the Spec's search for the first dead prefix, with the automaton deciding which prefixes
are alive: entered after the alive prefix `p` it runs through `r` if `p ++ r` is alive, and otherwise leaves by the
reject branch where `firstDeadFrom` stops -/
theorem loop_firstDead (p r : Bytes) (hp : aliveB p = true) :
    loop rfcStep 1 (run rfcStep 0 p) p.length r =
      if aliveB (p ++ r) then (run rfcStep 0 (p ++ r), (p ++ r).length, false)
      else (1, firstDeadFrom (p ++ r) p.length r.length, true) := by
  induction r generalizing p with
  | nil => simp [loop, hp]
  | cons a r ih =>
    have e : p ++ a :: r = (p ++ [a]) ++ r := by simp
    have hrun : run rfcStep 0 (p ++ [a]) = rfcStep (run rfcStep 0 p) a.toNat := by rw [run_append]; rfl
    have htake : (p ++ a :: r).take (p.length + 1) = p ++ [a] := by
      rw [e, List.take_left' (by simp)]
    rw [loop, List.length_cons, firstDeadFrom, htake, ← hrun]
    by_cases h : run rfcStep 0 (p ++ [a]) = 1
    · have hd : aliveB (p ++ a :: r) = false := not_aliveB_of_run _ (by rw [e, run_append, h, run_reject])
      simp [h, hd, not_aliveB_of_run _ h]
    · have ha := (aliveB_iff_run _).mpr h
      rw [if_neg h, if_pos ha, e]
      simpa using ih (p ++ [a]) ha

/-- one call on a fresh validator: the answer is the grammar-level Spec, the carried state is the automaton state
and the number of bytes accepted -/
theorem validate_init_full (b : Bytes) :
    validatePy .init b = (specOne b, if aliveB b then ⟨run rfcStep 0 b, b.length⟩ else ⟨1, firstDead b⟩) := by
  have h : loop rfcStep 1 0 0 b = _ := loop_firstDead [] b (by decide)
  rw [validatePy_init, validateRfc, validate_eq, St.init, h, specOne, firstDead]
  by_cases ha : aliveB b = true
  · simp [ha, show (run rfcStep 0 b == 0) = wf b from Bool.eq_iff_iff.mpr (beq_iff_eq.trans (run_accepts 0 b))]
  · simp [ha]

/-- one call on a fresh validator answers exactly what the grammar-level Spec prescribes -/
theorem validate_eq_specOne (b : Bytes) : (validatePy .init b).1 = specOne b := by
  rw [validate_init_full]

/-- the Spec's search stops at the first offending byte -/
theorem firstDeadFrom_offender (b : Bytes) (hb : aliveB b = false) :
    ∀ fuel i, i + fuel = b.length → aliveB (b.take i) = true → offenderAt b (firstDeadFrom b i fuel) = true := by
  intro fuel
  induction fuel with
  | zero =>
    intro i hi ha
    rw [List.take_of_length_le (by omega), hb] at ha; cases ha
  | succ f ih =>
    intro i hi ha
    rw [firstDeadFrom]
    split
    · next h => exact ih (i + 1) (by omega) h
    · next h => simp [offenderAt, ha, h, show i < b.length by omega]

/-- the Spec's offender position is the (unique) first offending byte -/
theorem specOne_offender (b : Bytes) (h : aliveB b = false) : offenderAt b (firstDead b) = true :=
  firstDeadFrom_offender b h b.length 0 (Nat.zero_add _) (by rw [List.take_zero]; decide)

theorem specOne_valid (b : Bytes) : (specOne b).valid = aliveB b := by
  rw [specOne]; split <;> simp [*]

/-- valid ⇔ some extension is well-formed -/
theorem valid_iff_alive (b : Bytes) : (validatePy .init b).1.valid = true ↔ Alive b := by
  rw [validate_eq_specOne, specOne_valid, aliveB_iff_Alive]

/-- valid and ends-on-code-point ⇔ well-formed -/
theorem ends_iff_WF (b : Bytes) :
    ((validatePy .init b).1.valid = true ∧ (validatePy .init b).1.ends = true) ↔ WF b := by
  rw [validate_eq_specOne, specOne, ← wf_iff_WF]
  split
  · simp
  · next h =>
    -- a well-formed string is alive (empty extension)
    have : wf b ≠ true := fun hw => h ((aliveB_iff_Alive b).mpr ⟨[], by rwa [List.append_nil, ← wf_iff_WF]⟩)
    simpa using this

/-- a rejecting call reports the position of the first offending byte: everything before it can be completed
to well-formed UTF-8, nothing from it on can; the chunk-relative and the total index coincide on a fresh validator -/
theorem first_offender (b : Bytes) (e : Bool) (c i : Nat) (h : (validatePy .init b).1 = ⟨false, e, c, i⟩) :
    Alive (b.take i) ∧ ¬ Alive (b.take (i + 1)) ∧ i < b.length ∧ c = i ∧ e = false := by
  rw [validate_eq_specOne, specOne] at h
  split at h
  · cases h
  · next hb =>
    obtain ⟨rfl, rfl, rfl⟩ : false = e ∧ firstDead b = c ∧ firstDead b = i := by simpa using h
    have ho := specOne_offender b (by simpa using hb)
    simp only [offenderAt, Bool.and_eq_true, decide_eq_true_eq, Bool.not_eq_true', aliveB_iff_Alive] at ho
    exact ⟨ho.1.2, fun ha => by rw [(aliveB_iff_Alive _).mpr ha] at ho; exact absurd ho.2 (by decide), ho.1.1, rfl, rfl⟩

example : (validatePy .init [0x41, 0xE2, 0x82, 0xAC, 0xC0, 0x41]).1 = ⟨false, false, 4, 4⟩ := by decide

def verdict (rs : List Res) : Bool := rs.all (·.valid)

theorem feed_flatten (st : St) (cs : List Bytes) :
    (feed validateRfc st cs).2 = (validateRfc st cs.flatten).2 ∧
    verdict (feed validateRfc st cs).1 = (validateRfc st cs.flatten).1.valid := by
  induction cs generalizing st with
  | nil =>
    cases st with
    | mk s i => simp [feed, validateRfc, validateWith, loop, verdict]
  | cons c cs ih =>
    obtain ⟨ha1, ha2⟩ := validate_append_state rfcStep 0 1 rfcStep_reject st c cs.flatten
    obtain ⟨ih1, ih2⟩ := ih (validateRfc st c).2
    simp only [verdict] at ih2
    simp only [feed, List.flatten_cons, verdict, List.all_cons, ih1, ih2]
    exact ⟨ha1, ha2.symm⟩

/-- the last reported tuple carries the final state: `total` is the carried index, `ends` says whether the carried
automaton state accepts -/
theorem feed_last (st : St) (cs : List Bytes) (r : Res) (h : (feed validateRfc st cs).1.getLast? = some r) :
    r.total = (feed validateRfc st cs).2.index ∧ r.ends = ((feed validateRfc st cs).2.state == 0) := by
  induction cs generalizing st with
  | nil => simp [feed] at h
  | cons c cs ih =>
    cases cs with
    | nil =>
      obtain rfl : (validateRfc st c).1 = r := by simpa [feed] using h
      exact validate_carried rfcStep 0 1 (by decide) st c
    | cons d ds =>
      have e : (feed validateRfc st (c :: d :: ds)).1.getLast? =
          (feed validateRfc (validateRfc st c).2 (d :: ds)).1.getLast? := by
        simp [feed, List.getLast?_cons_cons]
      exact ih (validateRfc st c).2 (e ▸ h)

/-- **chunk independence.** Feeding `b` in any split into chunks (empty chunks included) leaves the validator
in the same state (automaton state and total index) as one call on `b`, the conjunction of the per-call verdicts
is the one-call verdict, and the last call's `endsOnCodePoint` / `totalIndex` are the one-call values. -/
theorem chunk_independent (cs : List Bytes) :
    (feed validatePy .init cs).2 = (validatePy .init cs.flatten).2 ∧
    verdict (feed validatePy .init cs).1 = (validatePy .init cs.flatten).1.valid ∧
    (∀ r, (feed validatePy .init cs).1.getLast? = some r →
      r.ends = (validatePy .init cs.flatten).1.ends ∧ r.total = (validatePy .init cs.flatten).1.total) := by
  rw [feedPy_eq_rfc _ St.init_ok, validatePy_init]
  obtain ⟨f1, f2⟩ := feed_flatten .init cs
  refine ⟨f1, f2, fun r hr => ?_⟩
  -- both are read off the carried state, which is the same
  obtain ⟨k1, k2⟩ := feed_last .init cs r hr
  obtain ⟨w1, w2⟩ := validate_carried rfcStep 0 1 (by decide) .init cs.flatten
  rw [f1] at k1 k2
  exact ⟨k2.trans w2.symm, k1.trans w1.symm⟩

example : (feed validatePy .init [[0xE2], [], [0x82, 0xAC, 0xFF], [0x41]]).2 = (validatePy .init [0xE2, 0x82, 0xAC, 0xFF, 0x41]).2 ∧
    (feed validatePy .init [[0xE2], [], [0x82, 0xAC, 0xFF], [0x41]]).1 =
      [⟨true, false, 1, 1⟩, ⟨true, false, 0, 1⟩, ⟨false, false, 2, 3⟩, ⟨false, false, 0, 3⟩] := by decide

/-- in every call the reported indices satisfy `totalIndex = (total before the call) + currentIndex` -/
theorem chunk_relative_index (st : St) (h : st.ok) (b : Bytes) :
    (validatePy st b).1.total = st.index + (validatePy st b).1.cur ∧
    (validatePy st b).2.index = (validatePy st b).1.total := by
  rw [validatePy_eq_rfc _ h, validateRfc, validate_eq]
  exact ⟨rfl, rfl⟩

/-- as long as no call has rejected, the total index is the number of bytes fed -/
theorem total_counts_bytes (cs : List Bytes) (h : verdict (feed validatePy .init cs).1 = true) :
    (feed validatePy .init cs).2.index = cs.flatten.length := by
  obtain ⟨c1, c2, _⟩ := chunk_independent cs
  rw [c2, validate_eq_specOne, specOne_valid] at h
  rw [c1, validate_init_full, if_pos h]

example : verdict (feed validatePy .init [[0xE2], [0x82, 0xAC], [0xF0, 0x90]]).1 = true := by decide

/-- per-call form: a call made after the (not yet rejected) prefix `p` answers exactly what one call on `p ++ c`
answers, with the chunk-relative index shifted by `|p|` -/
theorem call_eq_whole (p c : Bytes) (hp : (validatePy .init p).1.valid = true) :
    let r := (validatePy (validatePy .init p).2 c).1
    let w := (validatePy .init (p ++ c)).1
    w = ⟨r.valid, r.ends, p.length + r.cur, r.total⟩ := by
  simp only [validatePy_init] at hp ⊢
  rw [validatePy_eq_rfc _ (validateRfc_ok _ St.init_ok p)]
  unfold validateRfc at hp ⊢
  rw [validate_append, if_pos hp]

example : (validatePy .init [0xF0, 0x90]).1.valid = true := by decide

/-- after a rejection the pure-Python validator keeps rejecting: a later non-empty chunk is answered
`(False, False, 0, same total)`, an empty one `(True, False, 0, same total)`; the state does not change -/
theorem py_after_reject (st : St) (h : st.state = 1) (b : Bytes) :
    validatePy st b = (⟨b.isEmpty, false, 0, st.index⟩, st) := by
  rw [validatePy_eq_rfc _ (St.ok_of_lt (by omega)), validateRfc, validate_rejected rfcStep 0 1 rfcStep_reject st h b]
  cases b <;> simp

/-- every answer of the pure-Python validator conforms to the Spec judge, whatever was fed before; the three cases are
the three of `judgeCall` -/
theorem call_conforms (pre c : Bytes) :
    judgeCall pre c (validatePy (validatePy .init pre).2 c).1 = .ok := by
  by_cases hnow : aliveB (pre ++ c) = true
  · -- still completable after this chunk
    have hpre := aliveB_prefix pre c hnow
    have hv : (validatePy .init pre).1.valid = true := by rw [validate_eq_specOne, specOne, if_pos hpre]
    have hw := call_eq_whole pre c hv
    simp only [validate_eq_specOne, specOne, if_pos hnow, Res.mk.injEq] at hw
    obtain ⟨w1, w2, w3, w4⟩ := hw
    have hcur : (validatePy (validatePy St.init pre).2 c).1.cur = c.length := by
      simp only [List.length_append] at w3; omega
    simp [judgeCall, hnow, ← w1, ← w2, ← w4, hcur]
  · have hnow' : aliveB (pre ++ c) = false := by simpa using hnow
    by_cases hpre : aliveB pre = true
    · -- this chunk contains the first offender
      have hv : (validatePy .init pre).1.valid = true := by rw [validate_eq_specOne, specOne, if_pos hpre]
      have hw := call_eq_whole pre c hv
      simp only [validate_eq_specOne, specOne, hnow', Bool.false_eq_true, ↓reduceIte, Res.mk.injEq] at hw
      obtain ⟨w1, w2, w3, w4⟩ := hw
      have ho := specOne_offender (pre ++ c) hnow'
      simp [judgeCall, hnow', hpre, ← w1, ← w2, ← w4, ho, ← w3]
    · -- rejected in an earlier call
      have hpre' : aliveB pre = false := by simpa using hpre
      have hst : (validatePy .init pre).2 = ⟨1, firstDead pre⟩ := by
        rw [validate_init_full]; simp [hpre']
      rw [hst, py_after_reject _ rfl]
      have ho := specOne_offender pre hpre'
      cases c <;> simp [judgeCall, hnow', hpre', ho]

theorem feed_cons (v : St → Bytes → Res × St) (st : St) (c : Bytes) (cs : List Bytes) :
    feed v st (c :: cs) = ((v st c).1 :: (feed v (v st c).2 cs).1, (feed v (v st c).2 cs).2) := rfl

/-- the calls that follow any prefix `pre` (fed in one call) conform -/
theorem py_conforms_after (pre : Bytes) (k : Nat) (cs : List Bytes) :
    judge pre k cs (feed validatePy (validatePy .init pre).2 cs).1 = none := by
  induction cs generalizing pre k with
  | nil => rfl
  | cons c cs ih =>
    have hnext : (validatePy (validatePy St.init pre).2 c).2 = (validatePy St.init (pre ++ c)).2 := by
      rw [validatePy_init, validatePy_init, validatePy_eq_rfc _ (validateRfc_ok _ St.init_ok pre)]
      exact (validate_append_state rfcStep 0 1 rfcStep_reject .init pre c).1
    rw [feed_cons]
    simp only [judge, call_conforms pre c]
    rw [hnext]
    exact ih (pre ++ c) (k + 1)

/-- **Model meets Spec on every call sequence**: the per-call answers of the pure-Python validator, for any
chunk list (empty chunks and calls after a reject included), pass the grammar-level conformance judge -/
theorem py_conforms (cs : List Bytes) : judge [] 0 cs (feed validatePy .init cs).1 = none := by
  have := py_conforms_after [] 0 cs
  rwa [show (validatePy St.init []).2 = St.init by decide] at this

/-- the judge is not vacuous: it rejects the pre-repair NVX answers on the F1 sequence -/
example : judge [] 0 [[0xFF], [0x41]] (feed (validateNvxLegacy 1) .init [[0xFF], [0x41]]).1 = some (1, .forgetsRejectOnNextCall) := by
  decide

/-- **NVX = pure Python, full strength**: every implementation id of the NVX validator and the pure-Python validator
answer every call sequence alike — all four tuple elements of every call, empty chunks and calls after a reject
included — and are left in the same state. Rests on `tableC_eq_rfc`, `unrolledC_eq_rfc`, `tablePy_eq_rfc`,
`consts_eq_rfc` and `loops_run_in_reject`, i.e. on the tables, the macro and the loop conditions as read from
/repo on this run. -/
theorem nvx_eq_py (impl : Nat) (cs : List Bytes) :
    feed (validateNvx impl) .init cs = feed validatePy .init cs := by
  rw [feedPy_eq_rfc _ St.init_ok]
  exact feed_congr _ _ St.ok (validateNvx_eq_rfc impl) validateRfc_ok .init St.init_ok cs

/-- hence the NVX validator too passes the grammar-level conformance judge on every call sequence -/
theorem nvx_conforms (impl : Nat) (cs : List Bytes) : judge [] 0 cs (feed (validateNvx impl) .init cs).1 = none := by
  rw [nvx_eq_py]; exact py_conforms cs

example : (feed (validateNvx 1) .init [[0xFF], [0x41], []]).1 =
    [⟨false, false, 0, 0⟩, ⟨false, false, 0, 0⟩, ⟨true, false, 0, 0⟩] := by decide

/-! ### historical: finding F1 (repaired in /repo c2c187d5)

Before the repair both C loops were guarded by `&& state != 1`; `validateNvxLegacy` is that behaviour. It is NOT the
model of today's code; it is kept so that the difference stays documented and machine-checked. -/

/-- F1: after `validate(b"\xff")` the pre-repair NVX validator answered `validate(b"A")` with `(True, False, 1, 1)`
where the pure-Python one answers `(False, False, 0, 0)`. -/
example : (feed (validateNvxLegacy 1) .init [[0xFF], [0x41]]).1 = [⟨false, false, 0, 0⟩, ⟨true, false, 1, 1⟩] ∧
    (feed validatePy .init [[0xFF], [0x41]]).1 = [⟨false, false, 0, 0⟩, ⟨false, false, 0, 0⟩] := by decide

/-- the pre-repair behaviour does not satisfy the full-strength statement -/
theorem not_NvxLegacyEqPy :
    ¬ (∀ (impl : Nat) (cs : List Bytes), feed (validateNvxLegacy impl) .init cs = feed validatePy .init cs) := by
  intro h
  have := h 1 [[0xFF], [0x41]]
  revert this
  decide

end Abverif.Utf8

import Abverif.Proofs.Lemmas.SessInvWalk
import Abverif.Model.SessSpec
/-
C04 — each WAMP request completes exactly once with its own reply.

All statements are about `Model/Session.lean` (`step`, `run`), for every history `h : List SEv` (no length bound),
every scheduling mode (`Sched.sync` = Twisted, `Sched.deferred` = asyncio) and every behaviour of user code.
The reference notions (`route`, `idBound`, `abs`) are those of `Model/SessSpec.lean`.
-/
namespace Abverif.Session
open Abverif.SessCodes Abverif.SessSpec

/-! ## constants read from the source (translate/sess.py): ids start at 1 and wrap after 2^53 -/

theorem id_constants : idInit = 0 ∧ idReset = 1 ∧ idMax = 2 ^ 53 ∧ idMax = idBound := by decide

theorem idMax_eq : idMax = 2 ^ 53 := id_constants.2.2.1

theorem idOf_eq (k : Nat) : idOf k = k % 2 ^ 53 + 1 := by
  unfold idOf; rw [idMax_eq]

/-- From any state satisfying the invariant, the requests of a history carry the ids `idOf issued`,
`idOf (issued + 1)`, … and `issued` counts them. -/
theorem ids_from {s : Sess} (hi : Inv s) (h : List SEv) :
    (runState s h).issued = s.issued + (reqIds (runOuts s h)).length ∧
    reqIds (runOuts s h) = idsFrom s.issued (reqIds (runOuts s h)).length := by
  obtain ⟨_, hle, r⟩ := (run_inv hi h).ids
  have hl : (reqIds (runOuts s h)).length = (runState s h).issued - s.issued := by rw [r]; simp [idsFrom]
  exact ⟨by omega, by rw [hl]; exact r⟩

theorem idsFrom_zero_eq (n : Nat) : idsFrom 0 n = (List.range n).map (fun k => k % 2 ^ 53 + 1) := by
  rw [idsFrom, List.range_eq_range']
  exact List.map_congr_left fun k _ => idOf_eq k

/-- Per session *object*: the k-th request message (k = 1, 2, …) a session object hands to its
transport — whatever API produced it, at top level or from inside an event handler — carries id
`((k − 1) mod 2^53) + 1`. -/
theorem ids_sequential (mode : Sched) (h : List SEv) :
    reqIds (runOuts (init mode) h) =
      (List.range (reqIds (runOuts (init mode) h)).length).map (fun k => k % 2 ^ 53 + 1) := by
  rw [← idsFrom_zero_eq]
  exact (ids_from (init_inv mode) h).2

theorem ids_in_range (mode : Sched) (h : List SEv) : ∀ id ∈ reqIds (runOuts (init mode) h), 1 ≤ id ∧ id ≤ 2 ^ 53 := by
  intro id hid
  rw [ids_sequential] at hid
  obtain ⟨k, _, rfl⟩ := List.mem_map.mp hid
  have : k % 2 ^ 53 < 2 ^ 53 := Nat.mod_lt _ (by decide)
  omega

theorem issued_eq_requests (mode : Sched) (h : List SEv) :
    (runState (init mode) h).issued = (reqIds (runOuts (init mode) h)).length :=
  (ids_from (init_inv mode) h).1.trans (Nat.zero_add _)

/-- `ids_sequential`, as the property words it ("sequential from 1 *within the session*"): the requests sent after a
WELCOME are numbered 1, 2, 3, … -/
def IdsSequentialPerSession : Prop :=
  ∀ (mode : Sched) (h1 : List SEv) (sid : Nat) (beh : List HAct) (h2 : List SEv),
    (∀ e ∈ h2, ∀ sid' beh', e ≠ .msg (.welcome sid') beh') →
    let s := runState (init mode) (h1 ++ [.msg (.welcome sid) beh])
    reqIds (runOuts s h2) = (List.range (reqIds (runOuts s h2)).length).map (fun k => k % 2 ^ 53 + 1)

/-- … which holds for the first session of an object (no request was sent before its WELCOME) — `_partial` — -/
theorem ids_sequential_per_session_partial (mode : Sched) (h1 : List SEv) (sid : Nat) (beh : List HAct) (h2 : List SEv)
    (hfirst : reqIds (runOuts (init mode) (h1 ++ [.msg (.welcome sid) beh])) = []) :
    let s := runState (init mode) (h1 ++ [.msg (.welcome sid) beh])
    reqIds (runOuts s h2) = (List.range (reqIds (runOuts s h2)).length).map (fun k => k % 2 ^ 53 + 1) := by
  intro s
  have h0 : s.issued = 0 := by
    have := issued_eq_requests mode (h1 ++ [.msg (.welcome sid) beh])
    rw [hfirst] at this; exact this
  rw [← idsFrom_zero_eq, ← h0]
  exact (ids_from (run_inv (init_inv mode) _).post h2).2

/-- … and fails for a second join on the same object (U5): join, one call, GOODBYE, WELCOME again, one call — the
second session's first request carries id 2. -/
theorem ids_sequential_per_session_fails : ¬ IdsSequentialPerSession := by
  intro h
  have := h .sync [.open_ [], .msg (.welcome 7) [], .api (.call 1 [] [] none .ok), .msg .goodbye []] 8 []
    [.api (.call 1 [] [] none .ok)] (by intro e he; simp at he; subst he; intro _ _ hne; cases hne)
  revert this
  decide

/-- As long as a session object has sent at most 2^53 requests, the ids of its outstanding requests are
pairwise distinct — within each table and across the six tables. (After 2^53 requests the generator wraps and an id
that is still outstanding is reused; the bound is the property's own range.) -/
theorem ids_fresh (mode : Sched) (h : List SEv) (hn : (reqIds (runOuts (init mode) h)).length ≤ 2 ^ 53) :
    let s := runState (init mode) h
    (∀ k, (akeys (s.tbl k)).Nodup) ∧ ∀ k1 k2 id, id ∈ akeys (s.tbl k1) → id ∈ akeys (s.tbl k2) → k1 = k2 := by
  have hi := (run_inv (init_inv mode) h).post
  have := hi.2.keys (by rw [issued_eq_requests, idMax_eq]; exact hn)
  exact this.2

/-- and they are exactly ids that were handed out: `1 ≤ id ≤ number of requests sent` -/
theorem ids_pending_were_issued (mode : Sched) (h : List SEv) (hn : (reqIds (runOuts (init mode) h)).length ≤ 2 ^ 53) :
    ∀ k, ∀ id ∈ akeys ((runState (init mode) h).tbl k), 1 ≤ id ∧ id ≤ (reqIds (runOuts (init mode) h)).length := by
  have hi := (run_inv (init_inv mode) h).post
  have := (hi.2.keys (by rw [issued_eq_requests, idMax_eq]; exact hn)).1
  intro k id hid
  rw [← issued_eq_requests]; exact this k id hid

example : (reqIds (runOuts (init .sync) [.open_ [], .msg (.welcome 1) [], .api (.call 1 [] [] none .ok),
    .api (.subscribe 1 2 none .ok), .api (.publish 1 [] [] (some { acknowledge := some true }) .ok)])) = [1, 2, 3] := by decide

/-- On an attached transport `call`, `publish`, `subscribe`, `register` and (for an active registration) `unregister`
hand exactly one message to `send()` — of the call's type, with the id just drawn, the given URI / args / kwargs and the
options' `message_attr()` — whether or not `send()` then raises. (`unsubscribe` sends only when the last handler goes:
`unsubscribe_sent_iff_last` in C11.) -/
theorem one_message_per_call (s : Sess) (ht : s.transport = true) :
    (∀ u a k o r, sends (apiStep s (.call u a k o r)).2 =
      [{ typ := .call, req := s.drawId.2, opts := optAttrs CallOpts.attrs o, uri := u, args := a, kwargs := k }]) ∧
    (∀ u a k o r, sends (apiStep s (.publish u a k o r)).2 =
      [{ typ := .publish, req := s.drawId.2, opts := optAttrs PubOpts.attrs o, uri := u, args := a, kwargs := k }]) ∧
    (∀ h t o r, sends (apiStep s (.subscribe h t o r)).2 =
      [{ typ := .subscribe, req := s.drawId.2, opts := optAttrs SubOpts.attrs o, uri := t }]) ∧
    (∀ h p o r, sends (apiStep s (.register h p o r)).2 =
      [{ typ := .register, req := s.drawId.2, opts := optAttrs RegOpts.attrs o, uri := p }]) ∧
    (∀ obj rid r, findReg obj s.regs = some rid → sends (apiStep s (.unregister obj r)).2 =
      [{ typ := .unregister, req := s.drawId.2, uri := rid }]) := by
  have hreq : ∀ k mkReq mkMsg keep snd, sends (request s k mkReq mkMsg keep snd).2 = [mkMsg s.drawId.2] := by
    intro k mkReq mkMsg keep snd
    rw [request_out]; cases snd <;> rfl
  refine ⟨?_, ?_, ?_, ?_, ?_⟩
  · intro u a k o r; simp only [apiStep, apiCall, ht, Bool.not_true, Bool.false_eq_true, ↓reduceIte, hreq]
  · intro u a k o r
    simp only [apiStep, apiPublish, ht, Bool.not_true, Bool.false_eq_true, ↓reduceIte]
    split
    · exact hreq ..
    · cases r <;> rfl
  · intro h t o r; simp only [apiStep, apiSubscribe, ht, Bool.not_true, Bool.false_eq_true, ↓reduceIte, hreq]
  · intro h p o r; simp only [apiStep, apiRegister, ht, Bool.not_true, Bool.false_eq_true, ↓reduceIte, hreq]
  · intro obj rid r hf; simp only [apiStep, apiUnregister, hf, ht, Bool.not_true, Bool.false_eq_true, ↓reduceIte, hreq]

/-- without a transport nothing is sent and no id is consumed: the call raises `TransportLost` -/
theorem no_transport_no_message (s : Sess) (ht : s.transport = false) (a : Api)
    (ha : ∀ f, a ≠ .cancel f) (hj : a ≠ .join) (hl : a ≠ .leave) (hd : a ≠ .disconnect) (hu : ∀ o r, a = .unsubscribe o r → findSub o s.subs ≠ none)
    (hg : ∀ o r, a = .unregister o r → findReg o s.regs ≠ none) :
    apiStep s a = (s, [.raise_ .transportLost]) := by
  cases a with
  | call u a k o r => simp [apiStep, apiCall, ht]
  | publish u a k o r => simp [apiStep, apiPublish, ht]
  | subscribe h t o r => simp [apiStep, apiSubscribe, ht]
  | register h t o r => simp [apiStep, apiRegister, ht]
  | unsubscribe o r =>
    have := hu o r rfl
    cases hf : findSub o s.subs with
    | none => exact absurd hf this
    | some sid => simp [apiStep, apiUnsubscribe, hf, ht]
  | unregister o r =>
    have := hg o r rfl
    cases hf : findReg o s.regs with
    | none => exact absurd hf this
    | some rid => simp [apiStep, apiUnregister, hf, ht]
  | cancel f => exact absurd rfl (ha f)
  | join => exact absurd rfl hj
  | leave => exact absurd rfl hl
  | disconnect => exact absurd rfl hd

/-! the option → wire attribute tables, field by field (`types.py` `message_attr()` through `marshal()`) -/

example : CallOpts.attrs { onProgress := some 7, timeout := some 5, details := true } =
    [(.timeout, .n 5), (.receiveProgress, .b true)] := rfl
example : CallOpts.attrs { transactionHash := some 1, caller := some 2, callerAuthid := some 3, callerAuthrole := some 4, forwardFor := some 5 } =
    [(.transactionHash, .n 1), (.forwardFor, .n 5), (.caller, .n 2), (.callerAuthid, .n 3), (.callerAuthrole, .n 4)] := rfl
example : PubOpts.attrs { acknowledge := some true, excludeMe := some false, exclude := some (.one 5), eligible := some (.many [1, 2]) } =
    [(.acknowledge, .b true), (.excludeMe, .b false), (.exclude, .l [5]), (.eligible, .l [1, 2])] := rfl
example : PubOpts.attrs { excludeAuthid := some (.one 1), excludeAuthrole := some (.many []), eligibleAuthid := some (.many [3]) } =
    [(.excludeAuthid, .l [1]), (.excludeAuthrole, .l []), (.eligibleAuthid, .l [3])] := rfl
example : PubOpts.attrs { eligibleAuthrole := some (.one 4), retain := some true, transactionHash := some 9, forwardFor := some 2 } =
    [(.eligibleAuthrole, .l [4]), (.retain, .b true), (.transactionHash, .n 9), (.forwardFor, .n 2)] := rfl
example : SubOpts.attrs { match_ := some 0, getRetained := some true, detailsArg := some 0 } = [(.getRetained, .b true)] := rfl
example : SubOpts.attrs { match_ := some 2, forwardFor := some 3 } = [(.match_, .n 2), (.forwardFor, .n 3)] := rfl
example : RegOpts.attrs { match_ := some 1, invoke := some 0, concurrency := some 2, forceReregister := some true } =
    [(.match_, .n 1), (.concurrency, .n 2), (.forceReregister, .b true)] := rfl
example : RegOpts.attrs { invoke := some 3, forwardFor := some 1, detailsArg := some 4 } = [(.invoke, .n 3), (.forwardFor, .n 1)] := rfl

/-- After any history every Deferred/Future has been completed at most once
(`count` counts every `resolve` / `reject` / user cancel), and its cell is written iff that happened. -/
theorem completes_at_most_once (mode : Sched) (h : List SEv) :
    ∀ x ∈ (runState (init mode) h).futs, x.count ≤ 1 ∧ (x.cell.isSome = true ↔ x.count = 1) := by
  intro x hx
  have := (run_inv (init_inv mode) h).post.2.count x hx
  simp only [Fut.ok] at this
  by_cases hc : x.cell.isSome = true <;> simp [hc] at this ⊢ <;> omega

/-- … and no history makes `txaio.resolve/reject` hit a future that is already called (`AlreadyCalledError` /
`InvalidStateError`), at top level or inside user code; nor does the model reach a record without a future. -/
theorem never_completes_twice (mode : Sched) (h : List SEv) :
    ∀ o ∈ runOuts (init mode) h, o ≠ .raise_ .alreadyCalled ∧ o ≠ .caught .alreadyCalled ∧
      o ≠ .raise_ .internal ∧ o ≠ .caught .internal :=
  (run_inv (init_inv mode) h).clean

/-- what a session object outputs while it opens and joins (Twisted scheduling, default hooks) -/
def started : List SOut :=
  [.fire .connect, .hook .onConnect 0, .send { typ := .hello }, .hook .onWelcome 0, .fire .join, .hook .onJoin 0, .fire .ready]

/-- non-vacuity: a duplicate RESULT and a RESULT after the user's cancel are histories of the theorem; the second
reply finds no record (ProtocolError), the reply after cancel is swallowed -/
example : runOuts (init .sync) [.open_ [], .msg (.welcome 1) [], .api (.call 1 [] [] none .ok),
      .msg (.result 1 { args := some [5] } false) [], .msg (.result 1 { args := some [5] } false) []] =
    started ++ [.send { typ := .call, req := 1, uri := 1 }, .ret 0,
     .complete 0 (.value (.single 5)), .callback 0 (.value (.single 5)), .raise_ .protocolError] := by decide
example : runOuts (init .sync) [.open_ [], .msg (.welcome 1) [], .api (.call 1 [] [] none .ok), .api (.cancel 0),
      .msg (.result 1 { args := some [5] } false) []] =
    started ++ [.send { typ := .call, req := 1, uri := 1 }, .ret 0,
     .send { typ := .cancel, req := 1 }, .complete 0 .cancelled, .callback 0 .cancelled] := by decide

theorem alookup_map_kind (id : Nat) (k : Kind) (t : Table) :
    alookup id (t.map (fun e => (e.1, (k, e.2)))) = (alookup id t).map (fun r => (k, r)) := by
  induction t with
  | nil => rfl
  | cons e t ih =>
    obtain ⟨k', v⟩ := e
    simp only [List.map_cons, alookup_cons]
    split <;> simp [ih]

/-- a lookup in the concatenation of the six tagged tables finds the only table that holds `id` -/
theorem alookup_absPending {s : Sess} (hdis : ∀ k1 k2 id, id ∈ akeys (s.tbl k1) → id ∈ akeys (s.tbl k2) → k1 = k2)
    {k : Kind} {id : ReqId} {r : Req} (ha : alookup id (s.tbl k) = some r) : alookup id (absPending s) = some (k, r) := by
  have hnone : ∀ k', k' ≠ k → alookup id (s.tbl k') = none := by
    intro k' hk'
    rw [alookup_none_iff]
    intro hmem
    have hk : id ∈ akeys (s.tbl k) := List.mem_map.mpr ⟨(id, r), alookup_some_mem ha, rfl⟩
    exact hk' (hdis k' k id hmem hk)
  cases k <;>
    simp [absPending, Kind.all, alookup_append, alookup_map_kind, ha,
      hnone .publish, hnone .subscribe, hnone .unsubscribe, hnone .call, hnone .register, hnone .unregister]

/-- in any state whose request ids are pairwise distinct — within each table and across the six — the single map
`abs s` reads the tables as routes `(kind, id)` exactly to what the table of that kind holds under `id` -/
theorem route_iff {s : Sess} (hd : KeysDistinct s) (k : Kind) (id : ReqId) (r : Req) :
    (abs s).route k id = some r ↔ alookup id (s.tbl k) = some r := by
  obtain ⟨hnd, hdis⟩ := hd
  have key : alookup id (absPending s) = some (k, r) ↔ alookup id (s.tbl k) = some r := by
    constructor
    · intro ha
      have hm := alookup_some_mem ha
      simp only [absPending, List.mem_flatMap, List.mem_map] at hm
      obtain ⟨k0, _, e, he, heq⟩ := hm
      simp only [Prod.mk.injEq] at heq
      obtain ⟨h1, h2, h3⟩ := heq
      subst h2
      have : (id, r) ∈ s.tbl k0 := by rw [← h1, ← h3]; exact he
      exact alookup_of_mem_nodup (hnd k0) this
    · exact alookup_absPending hdis
  simp only [Spec.route, abs]
  constructor
  · intro hr
    cases hl : alookup id (absPending s) with
    | none => simp [hl] at hr
    | some v =>
      obtain ⟨k', r'⟩ := v
      simp only [hl] at hr
      split at hr
      · next e => subst e; simp at hr; subst hr; exact key.mp hl
      · simp at hr
  · intro ha
    rw [key.mpr ha]; simp

/-- In every reachable state (≤ 2^53 requests sent) the Spec's single map of pending requests
— `abs s` reads the six tables as one map `id ↦ (kind, request)` — routes `(kind, id)` to a request exactly when the
table of that kind holds it under that id: the six tables never disagree and never shadow one another. -/
theorem table_iff_pending (mode : Sched) (h : List SEv) (hn : (reqIds (runOuts (init mode) h)).length ≤ 2 ^ 53) :
    let s := runState (init mode) h
    ∀ k id r, (abs s).route k id = some r ↔ alookup id (s.tbl k) = some r :=
  fun k id r => route_iff (ids_fresh mode h hn) k id r

/-- the request a reply message answers, and what it completes that request with -/
def replyOf (s : Sess) : InMsg → Option (Kind × ReqId × (Req → Outcome))
  | .published id pub => some (.publish, id, fun _ => .value (.publication pub))
  | .subscribed id sub => some (.subscribe, id, fun _ => .value (.subscription sub))
  | .unsubscribed id => some (.unsubscribe, id, fun _ => .value (.int 0))
  | .result id p false => some (.call, id, fun r => .value (resultValue r.details p))
  | .registered id reg => if (alookup reg s.regs).isNone then some (.register, id, fun _ => .value (.registration reg)) else none
  | .unregistered id _ => if id = 0 then none else some (.unregister, id, fun _ => .value .none_)
  | .error t id uri p => (kindOfCode t).map (fun k => (k, id, fun _ => .error uri (p.args.getD []) (p.kwargs.getD [])))
  | _ => none

theorem kindOfCode_code (k : Kind) : kindOfCode k.code = some k := by cases k <;> decide

theorem kindOfCode_some {t : Nat} {k : Kind} (h : kindOfCode t = some k) : k.code = t := by
  have := List.find?_some h
  simpa using this

theorem errorKind_eq {s : Sess} {t : Nat} {id : ReqId} {k : Kind} {r : Req} (hk : kindOfCode t = some k)
    (hr : alookup id (s.tbl k) = some r) : errorKind s t id = some k := by
  have hc := kindOfCode_some hk
  subst hc
  cases k <;> simp [errorKind, hr, Kind.code, tCall, tPublish, tSubscribe, tUnsubscribe, tRegister, tUnregister]

theorem completions_settle {s : Sess} {f : Nat} {x : Fut} (hx : s.futs[f]? = some x) (hc : x.cell.isSome = false) (o : Outcome) :
    completions (settle s f o).2 = [(f, o)] := by
  rw [settle_open hx hc]
  split
  · obtain ⟨_, _, _, _, f5, _⟩ := emitCb_fields { s with futs := s.futs.set f { x with cell := some o, count := x.count + 1 } } (.callback f o)
    rcases f5 with e | e <;> simp [completions, e]
  · simp [completions]

/-- A reply branch `popReply s kind id body` whose table holds a still-open request `r` under `id`, and whose body — on the
state with `r` popped — rewrites at most the handler lists and the registrations and completes `r`'s future with `o`:
exactly that future is completed, `r` has left its table and the other five tables are as before. -/
theorem popReply_routes {s : Sess} {kind : Kind} {id : ReqId} {r : Req} {x : Fut} {o : Outcome}
    {body : Sess → Req → Sess × List SOut} {S : List (SubId × List SubRec)} {G : List (RegId × RegRec)}
    (hr : alookup id (s.tbl kind) = some r) (hx : s.futs[r.fut]? = some x) (hopen : x.cell.isSome = false)
    (hb : body (s.setTbl kind (adel id (s.tbl kind))) r =
      settle { s.setTbl kind (adel id (s.tbl kind)) with subs := S, regs := G } r.fut o) :
    completions (popReply s kind id body).2 = [(r.fut, o)] ∧ (popReply s kind id body).1.tbl kind = adel id (s.tbl kind) ∧
      ∀ k', k' ≠ kind → (popReply s kind id body).1.tbl k' = s.tbl k' := by
  rw [popReply_open hr hx hopen, hb]
  have ht : ∀ k', (settle { s.setTbl kind (adel id (s.tbl kind)) with subs := S, regs := G } r.fut o).1.tbl k' =
      (s.setTbl kind (adel id (s.tbl kind))).tbl k' :=
    fun k' => (settle_tbl ..).trans ((tbl_regs_update _ G k').trans (tbl_subs_update _ S k'))
  exact ⟨completions_settle ((setTbl_futs s kind _).symm ▸ hx) hopen o, by rw [ht, setTbl_tbl_self],
    fun k' hk' => by rw [ht, setTbl_tbl_ne hk']⟩

/-- In any state, a reply `(type, id)` whose kind's table holds a still-open request `r` under `id`
completes exactly the future of `r` — no other — with that reply's content (for ERROR: the exception built from it),
removes `r` from its table and leaves the other five tables alone. This holds whatever else is outstanding, so for
every interleaving with events, invocations and other replies. -/
theorem reply_routing (s : Sess) (sid : Nat) (hs : s.sessionId = some sid) (beh : List HAct) (m : InMsg)
    (k : Kind) (id : ReqId) (content : Req → Outcome) (hm : replyOf s m = some (k, id, content))
    (r : Req) (hr : alookup id (s.tbl k) = some r) (x : Fut) (hx : s.futs[r.fut]? = some x) (hopen : x.cell.isSome = false) :
    let res := step s (.msg m beh)
    completions res.2 = [(r.fut, content r)] ∧
    res.1.tbl k = adel id (s.tbl k) ∧ (∀ k', k' ≠ k → res.1.tbl k' = s.tbl k') := by
  simp only [step_est hs]
  -- `hm` says which table, which id, which outcome; every branch is a `popReply` whose body is as `popReply_routes` asks
  cases m with
  | published id' pub => cases hm; exact popReply_routes hr hx hopen rfl
  | subscribed id' sub => cases hm; exact popReply_routes hr hx hopen rfl
  | unsubscribed id' => cases hm; exact popReply_routes hr hx hopen rfl
  | result id' p progress =>
    cases progress with
    | true => cases hm
    | false => cases hm; rw [onEstablished_result_final]; exact popReply_routes hr hx hopen rfl
  | registered id' reg =>
    simp only [replyOf] at hm
    split at hm
    · next hnone =>
      cases hm
      have hn : alookup reg (s.setTbl Kind.register (adel id (s.tbl Kind.register))).regs = none := by simpa using hnone
      exact popReply_routes hr hx hopen (by simp only [hn]; rfl)
    · cases hm
  | unregistered id' reg =>
    simp only [replyOf] at hm
    split at hm
    · cases hm
    · next hne => cases hm; simp only [onEstablished, hne, ↓reduceIte]; exact popReply_routes hr hx hopen rfl
  | error t id' uri p =>
    simp only [replyOf, Option.map_eq_some_iff] at hm
    obtain ⟨k0, hk0, heq⟩ := hm
    cases heq
    rw [onEstablished_error (errorKind_eq hk0 hr)]
    exact popReply_routes hr hx hopen rfl
  | _ => cases hm

/-- non-vacuity of `reply_routing`: three requests of different kinds outstanding, answered out of order -/
example : completions (runOuts (init .deferred) [.open_ [], .pump, .msg (.welcome 1) [], .pump, .api (.call 1 [] [] none .ok),
      .api (.subscribe 5 2 none .ok), .api (.publish 3 [] [] (some { acknowledge := some true }) .ok),
      .msg (.published 3 9) [], .msg (.error 48 1 4 { args := some [7] }) [], .msg (.subscribed 2 50) []]) =
    [(2, .value (.publication 9)), (0, .error 4 [7] []), (1, .value (.subscription 50))] := by decide

/-- the `(kind, id)` a message claims to answer (progressive results included; ERROR by its `request_type`) -/
def claims : InMsg → Option (Option Kind × ReqId)
  | .published id _ => some (some .publish, id)
  | .subscribed id _ => some (some .subscribe, id)
  | .unsubscribed id => some (some .unsubscribe, id)
  | .result id _ _ => some (some .call, id)
  | .registered id _ => some (some .register, id)
  | .unregistered id _ => if id = 0 then none else some (some .unregister, id)
  | .error t id _ _ => some (kindOfCode t, id)
  | _ => none

theorem errorKind_none {s : Sess} {t : Nat} {id : ReqId}
    (h : ∀ k, kindOfCode t = some k → alookup id (s.tbl k) = none) : errorKind s t id = none := by
  simp only [errorKind, List.find?_eq_none]
  intro k _ hk
  simp only [Bool.and_eq_true, beq_iff_eq] at hk
  have := h k (hk.1 ▸ kindOfCode_code k)
  rw [this] at hk; simp at hk

/-- A reply whose `(kind, id)` is in no table — unknown id, id of a request of another
kind, duplicate of an already answered reply, ERROR whose `request_type` is not the kind recorded under the id or is
no request type at all — raises `ProtocolError` out of `onMessage` and changes *nothing*: no future, no table, no
handler list. -/
theorem unknown_reply_is_violation (s : Sess) (sid : Nat) (hs : s.sessionId = some sid) (beh : List HAct) (m : InMsg)
    (k : Option Kind) (id : ReqId) (hm : claims m = some (k, id))
    (hnone : ∀ k', k = some k' → alookup id (s.tbl k') = none) :
    step s (.msg m beh) = (s, [.raise_ .protocolError]) := by
  rw [step_est hs]
  -- `hm` says which table and which id the message claims; `hnone` that no record is there
  cases m with
  | published id' pub => cases hm; simp only [onEstablished, popReply, hnone _ rfl]
  | subscribed id' sub => cases hm; simp only [onEstablished, popReply, hnone _ rfl]
  | unsubscribed id' => cases hm; simp only [onEstablished, popReply, hnone _ rfl]
  | registered id' reg => cases hm; simp only [onEstablished, popReply, hnone _ rfl]
  | result id' p progress =>
    cases hm
    have : alookup id s.tCall = none := hnone _ rfl
    simp only [onEstablished, this]
  | unregistered id' reg =>
    simp only [claims] at hm
    split at hm
    · cases hm
    · next hne => cases hm; simp only [onEstablished, hne, ↓reduceIte, popReply, hnone _ rfl]
  | error t id' uri p => cases hm; simp only [onEstablished, errorKind_none hnone]
  | _ => cases hm

/-- messages that are never legal inside an established session are protocol violations as well -/
theorem unexpected_message_is_violation (s : Sess) (sid : Nat) (hs : s.sessionId = some sid) (beh : List HAct) :
    step s (.msg (.welcome 1) beh) = (s, [.raise_ .protocolError]) ∧ step s (.msg .other beh) = (s, [.raise_ .protocolError]) ∧
    step s (.msg .abort beh) = (s, [.raise_ .protocolError]) ∧ step s (.msg .challenge beh) = (s, [.raise_ .protocolError]) := by
  simp [step_est hs, onEstablished]

/-- non-vacuity: RESULT for an id that only a subscribe request holds; ERROR(SUBSCRIBE) for a call's id; duplicate -/
example : runOuts (init .sync) [.open_ [], .msg (.welcome 1) [], .api (.subscribe 5 2 none .ok), .api (.call 1 [] [] none .ok),
      .msg (.result 1 {} false) [], .msg (.error 32 2 4 {}) [], .msg (.error 99 2 4 {}) [], .msg (.published 7 1) []] =
    started ++ [.send { typ := .subscribe, req := 1, uri := 2 }, .ret 0, .send { typ := .call, req := 2, uri := 1 }, .ret 1,
     .raise_ .protocolError, .raise_ .protocolError, .raise_ .protocolError, .raise_ .protocolError] := by decide

/-- what the Spec says a progressive RESULT does: it calls the `on_progress` of the call recorded under its id
(if that call has one) — `CallResult(*args, **kwargs)` when `details` was requested, `(*args, **kwargs)` otherwise,
absent args/kwargs read as empty — and nothing else -/
def progressCalls (r : Req) (p : Payload) : List SOut :=
  match r.onProgress with
  | none => []
  | some h => [.progress h (if r.details then .result (p.args.getD []) (p.kwargs.getD []) else .plain (p.args.getD []) (p.kwargs.getD []))]

/-- What `progress_only_own_handler` claims: a progressive RESULT for a pending call makes exactly the progress
calls above (when the handler itself does nothing), completes nothing and leaves the state alone. -/
def ProgressOnlyOwnHandler : Prop :=
  ∀ (s : Sess) (sid : Nat) (id : ReqId) (p : Payload) (r : Req),
    s.sessionId = some sid → alookup id s.tCall = some r →
    step s (.msg (.result id p true) []) = (s, progressCalls r p)

/-- a progressive RESULT calls the `on_progress` of *its own* call only (the handler recorded under that id), with the
payload as the Spec says (absent args/kwargs read as empty, also when `details` was requested,
and a call made without an options object simply has no handler), then runs that handler's behaviour; it completes no
future and touches no table. -/
theorem progress_only_own_handler_beh (s : Sess) (sid : Nat) (hs : s.sessionId = some sid) (id : ReqId) (p : Payload)
    (r : Req) (hr : alookup id s.tCall = some r) (beh : List HAct) :
    step s (.msg (.result id p true) beh) =
      match r.onProgress with
      | none => (s, [])
      | some _ => ((runAct s none (beh.headD {})).1, progressCalls r p ++ (runAct s none (beh.headD {})).2) := by
  simp only [step_est hs, onEstablished, hr, progressCalls]
  cases hop : r.onProgress with
  | none => simp
  | some h => simp

/-- A progressive RESULT whose handler does nothing leaves the whole state
unchanged — in particular it does not complete the call, which stays pending for its final RESULT — and makes exactly
the progress calls of the Spec. -/
theorem progress_only_own_handler : ProgressOnlyOwnHandler := by
  intro s sid id p r hs hr
  rw [progress_only_own_handler_beh s sid hs id p r hr []]
  cases h : r.onProgress <;> simp [progressCalls, runAct, runCalls, h]

/-- the same with the hypotheses as binders: the state, and so the pending call, is unchanged -/
theorem progress_does_not_complete (s : Sess) (sid : Nat) (hs : s.sessionId = some sid) (id : ReqId) (p : Payload)
    (r : Req) (hr : alookup id s.tCall = some r) :
    step s (.msg (.result id p true) []) = (s, progressCalls r p) :=
  progress_only_own_handler s sid id p r hs hr

/-- non-vacuity (`details` requested and args only; a call without options): the
handler is called with `CallResult(1)`; a call made without options ignores the progressive RESULT -/
example : (runOuts (runState (init .sync) [.open_ [], .msg (.welcome 1) [],
      .api (.call 1 [] [] (some { onProgress := some 7, details := true }) .ok)]) [.msg (.result 1 { args := some [1] } true) []]) =
    [.progress 7 (.result [1] [])] := by decide
example : (runOuts (runState (init .sync) [.open_ [], .msg (.welcome 1) [], .api (.call 1 [] [] none .ok)])
      [.msg (.result 1 {} true) []]) = [] := by decide

/-- non-vacuity: two calls with different progress handlers; each progressive RESULT reaches its own handler -/
example : runOuts (init .sync) [.open_ [], .msg (.welcome 1) [],
      .api (.call 1 [] [] (some { onProgress := some 7 }) .ok), .api (.call 2 [] [] (some { onProgress := some 8, details := true }) .ok),
      .msg (.result 2 { args := some [5], kwargs := some [] } true) [], .msg (.result 1 { args := some [6] } true) [{ raises := true }],
      .msg (.result 1 {} false) []] =
    started ++ [.send { typ := .call, req := 1, opts := [(.receiveProgress, .b true)], uri := 1 }, .ret 0,
     .send { typ := .call, req := 2, opts := [(.receiveProgress, .b true)], uri := 2 }, .ret 1,
     .progress 8 (.result [5] []), .progress 7 (.plain [6] []), .userError,
     .complete 0 (.value .none_), .callback 0 (.value .none_)] := by decide

/-- When `send()` raises, `call` forgets the request: the call raises what `send()` raised, returns no future, and the
table is as before (minus anything stale under that id). `subscribe` raises as well but *keeps* its record: an orphan
whose future nobody holds; a later reply with that id is still routed to it, and it is failed at session end. (In the
model an acknowledged `publish` does as `call` does, and `register`, `_unsubscribe`, `_unregister` as `subscribe` — the
argument `keep` of `request`; the theorem states the two representatives.) -/
theorem send_failure (s : Sess) (ht : s.transport = true) :
    (∀ u a k o, (apiStep s (.call u a k o .raises)).1.tbl .call = adel s.drawId.2 (s.tbl .call) ∧
      (apiStep s (.call u a k o .raises)).2 =
        [.send { typ := .call, req := s.drawId.2, opts := optAttrs CallOpts.attrs o, uri := u, args := a, kwargs := k },
         .raise_ .sendFailed]) ∧
    (∀ h t o, alookup s.drawId.2 ((apiStep s (.subscribe h t o .raises)).1.tbl .subscribe) =
        some { fut := s.futs.length, uri := t, handler := h, detailsArg := o.bind (·.detailsArg) } ∧
      (apiStep s (.subscribe h t o .raises)).2 =
        [.send { typ := .subscribe, req := s.drawId.2, opts := optAttrs SubOpts.attrs o, uri := t }, .raise_ .sendFailed]) := by
  constructor
  · intro u a k o
    simp only [apiStep, apiCall, ht, Bool.not_true, Bool.false_eq_true, ↓reduceIte, request, sendReq_fail_forget]
    refine ⟨?_, by simp⟩
    simp only [setTbl_tbl_self, unwatch_tbl, newFut_tbl, drawId_tbl, newFut_snd, drawId_futs]
    exact adel_aset_self _ _ _
  · intro h t o
    simp only [apiStep, apiSubscribe, ht, Bool.not_true, Bool.false_eq_true, ↓reduceIte, request, sendReq_fail_keep]
    refine ⟨?_, by simp⟩
    simp only [unwatch_tbl, setTbl_tbl_self, newFut_tbl, drawId_tbl, newFut_snd, drawId_futs]
    exact alookup_aset_self _ _ _

end Abverif.Session

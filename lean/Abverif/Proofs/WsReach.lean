import Abverif.Proofs.WsSegmentation
import Abverif.Proofs.C05
/-
# The side condition of the segmentation theorem holds in every reachable state

`LiveWF` (the frame pointer is within the current frame while the connection lives) is, under `failByDrop = true`, an
invariant of EVERY operation of the model — API calls, timers, transport loss, reads — so `segmentation_independent`
applies in every state reachable from a fresh connection by any history, not only after reads.
-/
namespace Abverif.Ws

def RecvSame (a b : S) : Prop := b.cur = a.cur ∧ b.ptr = a.ptr

theorem RecvSame.refl (a : S) : RecvSame a a := ⟨rfl, rfl⟩
theorem RecvSame.trans {a b c : S} (h1 : RecvSame a b) (h2 : RecvSame b c) : RecvSame a c :=
  ⟨h2.1.trans h1.1, h2.2.trans h1.2⟩

theorem RecvSame.of_SendEq {a b : S} (h : SendEq a b) : RecvSame a b := h ▸ ⟨rfl, rfl⟩

theorem RecvSame.of_ApiEq {a b : S} (h : ApiEq a b) : RecvSame a b := h ▸ ⟨rfl, rfl⟩
theorem RecvSame.of_CloseEq {a b : S} (h : CloseEq a b) : RecvSame a b := h ▸ ⟨rfl, rfl⟩

theorem dropConnection_RecvSame (s : S) (a : Bool) : RecvSame s (dropConnection s a) :=
  RecvSame.of_CloseEq (dropConnection_CloseEq s a)

theorem sendCloseFrame_RecvSame (s : S) (c : Option Nat) (r : Option Bytes) (i : Bool) :
    RecvSame s (sendCloseFrame s c r i) := RecvSame.of_CloseEq (sendCloseFrame_CloseEq s c r i)

theorem sendClose_RecvSame (s : S) (c : Option Nat) (r : Option Bytes) : RecvSame s (sendClose s c r) :=
  sendClose_of s c r ⟨rfl, rfl⟩ fun _ => sendCloseFrame_RecvSame _ _ _ _

theorem connectionLost_RecvSame (s : S) : RecvSame s (connectionLost s) := connectionLost_LostEq s ▸ ⟨rfl, rfl⟩

theorem sendAutoPing_RecvSame (s : S) : RecvSame s (sendAutoPing s) := by
  rw [sendAutoPing_eq]
  have h : RecvSame s (pinged s) := (RecvSame.of_SendEq (pinged_SendEq s) :)
  split
  · exact h
  · split <;> exact h

/-- the timers leave the frame position alone: an instance of the timer half of the engine walk -/
theorem RecvSame.timers : Walk.Timers RecvSame where
  refl := RecvSame.refl
  trans := RecvSame.trans
  tick _ _ := ⟨rfl, rfl⟩
  unclean _ _ := ⟨rfl, rfl⟩
  dropConnection := dropConnection_RecvSame
  sendTick s := RecvSame.of_SendEq (sendTick_SendEq s)
  forget _ _ _ := ⟨rfl, rfl⟩
  timedOut s k hk := by
    rcases hk with rfl | rfl | rfl <;>
      exact timeout_rel (R := RecvSame) RecvSame.trans (fun _ _ => ⟨rfl, rfl⟩) dropConnection_RecvSame s _ _ ⟨rfl, rfl⟩
  sendAutoPing := sendAutoPing_RecvSame

theorem handshakeDone_RecvSame (s : S) : RecvSame s (handshakeDone s) := by
  by_cases hc : s.st = .connecting
  · rw [handshakeDone_opens s hc]; split <;> exact ⟨rfl, rfl⟩
  · rw [handshakeDone_idle s hc]; exact RecvSame.refl s

theorem stepCore_RecvSame (s : S) (op : Op) (h1 : ∀ d, op ≠ .feed d) (h2 : ∀ d, op ≠ .hsThenFeed d) :
    RecvSame s (stepCore s op) := by
  cases op with
  | feed d => exact absurd rfl (h1 d)
  | hsThenFeed d => exact absurd rfl (h2 d)
  | lost => exact connectionLost_RecvSame s
  | advance dt => exact RecvSame.timers.advance s dt
  | ping pl => exact RecvSame.of_SendEq (sendPing_SendEq s pl)
  | pong pl => exact RecvSame.of_SendEq (sendPong_SendEq s pl)
  | close c r => exact sendClose_RecvSame s c r
  | hsDone => exact handshakeDone_RecvSame s
  | _ => exact RecvSame.of_ApiEq (stepCore_ApiEq s _ rfl)

theorem LiveWF.of_RecvSame {a b : S} (h : LiveWF a) (hr : RecvSame a b) (hrank : a.st.rank ≤ b.st.rank) : LiveWF b := by
  intro hb
  have ha : a.st ≠ .closed := by
    intro hc
    rw [hc] at hrank
    cases hbs : b.st <;> simp [hbs, St.rank] at hrank
    exact hb hbs
  intro hd hcur
  rw [hr.1] at hcur
  rw [hr.2]
  exact h ha hd hcur

theorem step_LiveWF (s : S) (op : Op) (hf : s.cfg.failByDrop = true) (h : LiveWF s) : LiveWF (step s op) := by
  have hrank : s.st.rank ≤ (step s op).st.rank :=
    (step_Ext s op).elim (·.rank) fun e => Nat.le_trans (connectionLost_rank s) e.2.rank
  have pumped : ∀ t, LiveWF t → LiveWF (pump t) := fun t ht =>
    ht.of_RecvSame (RecvSame.timers.pump t) (pump_Ext t).rank
  by_cases h1 : ∃ d, op = .feed d
  · obtain ⟨d, rfl⟩ := h1
    exact pumped _ (dataReceived_LiveWF s d h hf)
  by_cases h2 : ∃ d, op = .hsThenFeed d
  · obtain ⟨d, rfl⟩ := h2
    exact pumped _ (dataReceived_LiveWF _ d (h.of_RecvSame (handshakeDone_RecvSame s) (handshakeDone_Ext s).rank)
      (by rw [(handshakeDone_Ext s).cfg]; exact hf))
  -- no other operation moves the frame position, and none moves the state backwards
  exact h.of_RecvSame ((stepCore_RecvSame s op (fun d e => h1 ⟨d, e⟩) (fun d e => h2 ⟨d, e⟩)).trans
    (RecvSame.timers.pump _)) hrank

theorem run_LiveWF (ops : List Op) : ∀ (s : S), s.cfg.failByDrop = true → LiveWF s →
    LiveWF (run s ops) ∧ (run s ops).cfg = s.cfg := by
  intro s hf h
  have inv := run_induction (Inv := fun t => t.cfg.failByDrop = true ∧ LiveWF t) (ok := fun _ => True)
    (fun t op _ ht => ⟨by rw [step_cfg]; exact ht.1, step_LiveWF t op ht.1 ht.2⟩) ops (fun _ _ => trivial) s ⟨hf, h⟩
  exact ⟨inv.2, run_cfg ops s⟩

/-- segmentation independence in every reachable state: after ANY history of operations on a fresh connection
(failing by drop), how the next octets are cut into reads does not matter -/
theorem segmentation_independent_reachable (cfg : Cfg) (hf : cfg.failByDrop = true) (ops : List Op)
    (xs ys : List Bytes) (hx : ∀ c ∈ xs, c ≠ []) (hy : ∀ c ∈ ys, c ≠ []) (he : xs.flatten = ys.flatten) :
    Sim (feed (run (start cfg) ops) xs) (feed (run (start cfg) ops) ys) := by
  have hs := start_cfg cfg
  have h := run_LiveWF ops (start cfg) (by rw [hs]; exact hf) (start_LiveWF cfg)
  exact segmentation_independent _ h.1 (by rw [h.2, hs]; exact hf) xs ys hx hy he

end Abverif.Ws

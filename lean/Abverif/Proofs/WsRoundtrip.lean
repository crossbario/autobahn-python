import Abverif.Proofs.Lemmas.WsRound
import Abverif.Proofs.WsRefinement
/-
# What `sendMessage` writes is judged as exactly the message sent (C01), and therefore delivered as such by any
receiving engine under any segmentation (with `recv_events`, the corollary of `recv_refines_judge` about a fresh engine).

Each `_judged` result and `sendFrags_run` is the sender's frames (`*_framed`, Lemmas/WsRound.lean) read back by the judge
(`Framed.sent`); many messages by induction (`sendAll_judged`).  `frame_run` states `frame_judged` by itself,
`SenderOk.sendFrame` carries `SenderOk` across `sendFrame`.  None of them uses its hypothesis `pmce = false`: the frames
have the reserved bits clear, which a receiver accepts with or without a PMCE.
-/
namespace Abverif.Ws
open Abverif.WsSpec

/-- `frame_judged` with the receiver's `applyMask` under the name `am` -/
theorem frame_run (c : Ctx) (j : J) (binary first fin : Bool) (acc p raw : Bytes) (evs0 : List Ev)
    (key : Option Abverif.Xor.Key) (am : Bool)
    (hpmce : c.pmce = false) (ham : c.applyMask = am) (hmask : maskOk c key.isSome = true)
    (hpre : Pre c j binary acc evs0 first)
    (henc : encodeFrame fin 0 (if first then (if binary then 2 else 1) else 0) key am p = some raw)
    (hok : FrameOk c binary acc p fin) :
    ∃ jn, Post c jn binary (acc ++ p) evs0 fin ∧ ∀ after, judgeStep c j (raw ++ after) = .next jn after := by
  subst ham
  exact frame_judged hmask hpre henc hok

theorem SenderOk.sendFrame {c : Ctx} {s : S} (h : SenderOk c s) (op : Nat) (pl : Bytes) (fin : Bool) (rsv : Nat)
    (sync : Bool) (chop : Nat) : SenderOk c (sendFrame s op pl fin rsv sync chop) :=
  h.of_ApiEq (sendFrame_SendEq s op pl fin rsv sync chop).toApiEq

/-- the frames of one message, as sent, are judged as that message -/
theorem sendFrags_run (c : Ctx) (binary sync : Bool) (hpmce : c.pmce = false) (last : Bytes) :
    ∀ (init : List (Bytes × Bool)) (s : S) (j : J) (acc : Bytes) (evs0 : List Ev) (first : Bool),
      SenderOk c s → Pre c j binary acc evs0 first →
      (∀ x ∈ init, x.2 = false) →
      (∀ x ∈ init ++ [(last, true)], x.1.length < 2 ^ 63) →
      ¬ (0 < c.maxMsg ∧ c.maxMsg < (acc ++ ((init ++ [(last, true)]).map (·.1)).flatten).length) →
      (∀ x ∈ init ++ [(last, true)], ¬ (0 < c.maxFrame ∧ c.maxFrame < x.1.length)) →
      ((!binary && c.utf8validate) = true → u8run .s0 (acc ++ ((init ++ [(last, true)]).map (·.1)).flatten) = .s0) →
      ∃ W jn, wire (sendFrags s (if binary then 2 else 1) sync (init ++ [(last, true)]) first) = wire s ++ W ∧
        jn.inside = false ∧
        jn.evs = evs0 ++ [.message (acc ++ ((init ++ [(last, true)]).map (·.1)).flatten) binary false] ∧
        ∀ after, JRuns c j (W ++ after) jn after := by
  intro init s j acc evs0 first hs hpre hfins hlen hmsg hfrm hutf
  obtain ⟨W, hw, hfr⟩ := sendFrags_framed binary sync last init s first hs hfins hlen
  exact hfr.sent hw hs.live hpre rfl hmsg (fun p hp => by
    obtain ⟨x, hx, rfl⟩ := List.mem_map.mp hp
    exact hfrm x hx) fun hv => decide_eq_true (hutf hv)

/-- the octets `sendMessage` puts on the wire — one frame or any fragmentation, masked or
not — are judged by the receiving side's RFC 6455 judge as exactly the message sent -/
theorem sendMessage_judged (c : Ctx) (s : S) (j : J) (pl : Bytes) (binary : Bool) (fs : Option Nat) (sync : Bool)
    (hpmce : c.pmce = false) (hs : SenderOk c s) (hm : MsgOk c s pl binary fs) (hj : j.inside = false) :
    ∃ W jn, wire (sendMessage s pl binary fs sync) = wire s ++ W ∧ jn.inside = false ∧
      jn.evs = j.evs ++ [.message pl binary false] ∧ ∀ after, JRuns c j (W ++ after) jn after := by
  obtain ⟨ps, W, rfl, hw, hfr⟩ := sendMessage_framed sync hs hm.own hm.frag hm.len
  exact hfr.sent hw hs.live (Pre.start c binary hj) rfl hm.msgLimit
    (fun p hp hx => hm.frameLimit ⟨hx.1, Nat.lt_of_lt_of_le hx.2 (List.sublist_flatten_of_mem hp).length_le⟩) hm.utf8

/-- prepared messages: the single frame built at prepare time (masked iff the factory is a client factory) is
judged as exactly the message -/
theorem sendPrepared_judged (c : Ctx) (s : S) (j : J) (pl : Bytes) (binary : Bool)
    (hpmce : c.pmce = false) (hst : s.st = .opened) (hconn : ¬ (s.lost = true ∧ s.cfg.asyncio = true))
    (ham : c.applyMask = true) (hmask : maskOk c (!s.cfg.isServer) = true)
    (hlen : pl.length < 2 ^ 63) (hmsg : ¬ (0 < c.maxMsg ∧ c.maxMsg < pl.length))
    (hfrm : ¬ (0 < c.maxFrame ∧ c.maxFrame < pl.length))
    (hutf : (!binary && c.utf8validate) = true → utf8Valid pl = true) (hj : j.inside = false) :
    ∃ W jn, wire (sendPrepared s pl binary) = wire s ++ W ∧ jn.inside = false ∧
      jn.evs = j.evs ++ [.message pl binary false] ∧ ∀ after, JRuns c j (W ++ after) jn after := by
  obtain ⟨W, hw, hfr⟩ := sendPrepared_framed pl binary hst ham hmask hlen
  exact hfr.sent hw ⟨by rw [hst]; decide, hconn⟩ (Pre.start c binary hj) (by simp) hmsg (by simpa using hfrm) hutf

/-- the streaming API: `beginMessage`, any non-empty sequence of `sendMessageFrame(payload)` calls, `endMessage`
put on the wire what the judge reads as exactly one message: the concatenation of the frame payloads -/
theorem stream_judged (c : Ctx) (s : S) (j : J) (ps : List Bytes) (binary sync : Bool) (hpmce : c.pmce = false)
    (hs : SenderOk c s) (hg : s.sendSt = .ground) (hne : ps ≠ [])
    (hlen : ∀ p ∈ ps, p.length < 2 ^ 63)
    (hmsg : ¬ (0 < c.maxMsg ∧ c.maxMsg < ps.flatten.length))
    (hfrm : ∀ p ∈ ps, ¬ (0 < c.maxFrame ∧ c.maxFrame < p.length))
    (hutf : (!binary && c.utf8validate) = true → utf8Valid ps.flatten = true) (hj : j.inside = false) :
    ∃ W jn, wire (endMessage (ps.foldl (fun s p => sendMessageFrame s p sync) (beginMessage s binary))) = wire s ++ W ∧
      jn.inside = false ∧ jn.evs = j.evs ++ [.message ps.flatten binary false] ∧
      ∀ after, JRuns c j (W ++ after) jn after := by
  obtain ⟨hw0, hst⟩ := StreamSt.begin binary hs hg
  obtain ⟨W, hw, hfr⟩ := stream_framed binary sync ps (beginMessage s binary) true hst (fun _ => hne) hlen
  exact hfr.sent (hw0.trans hw) hs.live (Pre.start c binary hj) (by simp) hmsg
    (fun p hp => by
      rcases List.mem_append.mp hp with h | h
      · exact hfrm p h
      · simp at h; subst h; simp)
    hutf

/-! ### many messages, and the round trip through a receiving engine -/

/-- a message: payload, binary?, explicit fragment size, synchronous write? -/
abbrev Msg := Bytes × Bool × Option Nat × Bool

def sendAll (s : S) (msgs : List Msg) : S := msgs.foldl (fun s m => sendMessage s m.1 m.2.1 m.2.2.1 m.2.2.2) s

def evOfMsg (m : Msg) : Ev := .message m.1 m.2.1 false

theorem sendAll_judged (c : Ctx) (hpmce : c.pmce = false) : ∀ (msgs : List Msg) (s : S) (j : J),
    SenderOk c s → (∀ m ∈ msgs, MsgOk c s m.1 m.2.1 m.2.2.1) → j.inside = false →
    ∃ W jn, wire (sendAll s msgs) = wire s ++ W ∧ jn.inside = false ∧ jn.evs = j.evs ++ msgs.map evOfMsg ∧
      ∀ after, JRuns c j (W ++ after) jn after := by
  intro msgs
  induction msgs with
  | nil =>
    intro s j _ _ hj
    exact ⟨[], j, by simp [sendAll], hj, by simp, fun after => JRuns.refl _ _⟩
  | cons m rest ih =>
    intro s j hs hm hj
    obtain ⟨W1, j1, hw1, hin1, hev1, hr1⟩ := sendMessage_judged c s j m.1 m.2.1 m.2.2.1 m.2.2.2 hpmce hs
      (hm m (by simp)) hj
    have e := sendMessage_SendEq s m.1 m.2.1 m.2.2.1 m.2.2.2
    obtain ⟨W2, j2, hw2, hin2, hev2, hr2⟩ := ih (sendMessage s m.1 m.2.1 m.2.2.1 m.2.2.2) j1 (hs.of_ApiEq e.toApiEq)
      (fun m' hm' => (hm m' (by simp [hm'])).of_cfg e.cfg) hin1
    refine ⟨W1 ++ W2, j2, ?_, hin2, ?_, JRuns.append hr1 hr2⟩
    · show wire (sendAll (sendMessage s m.1 m.2.1 m.2.2.1 m.2.2.2) rest) = _
      rw [hw2, hw1, List.append_assoc]
    · rw [hev2, hev1, List.append_assoc]; rfl

/-- End to end: whatever messages a fresh endpoint sends with `sendMessage` (text or binary, any length
below 2^63, in one frame or fragmented with any fragment size, written directly or through the send queue), when its
octets reach a fresh receiving engine (failing by drop; no compression, a hypothesis the proof does not use) in ANY
segmentation, that engine delivers
exactly those messages, in order, with payload and type, and stays OPEN.  Conditions (`SenderOk`, `MsgOk`): the two
endpoints agree on masking, the messages respect the size limits of both sides, text payloads are valid UTF-8 when
the receiver validates, the fragment size is not 0. -/
theorem send_recv_roundtrip (cs cr : Cfg) (msgs : List Msg) (chunks : List Bytes)
    (hf : cr.failByDrop = true) (hpmce : cr.pmce = false)
    (hs : SenderOk (Ctx.ofCfg cr) (start cs))
    (hm : ∀ m ∈ msgs, MsgOk (Ctx.ofCfg cr) (start cs) m.1 m.2.1 m.2.2.1)
    (hne : ∀ ch ∈ chunks, ch ≠ []) (hnil : chunks ≠ [])
    (hw : chunks.flatten = wire (sendAll (start cs) msgs)) :
    evsOf (feed (start cr) chunks).log = msgs.map evOfMsg ∧ (feed (start cr) chunks).st = .opened := by
  obtain ⟨W, jn, hwire, _, hevs, hruns⟩ := sendAll_judged (Ctx.ofCfg cr) hpmce msgs (start cs) {} hs hm rfl
  rw [wire_start, List.nil_append] at hwire
  have hj := (hruns []).judge_eq
  rw [List.append_nil, ← hwire, ← hw] at hj
  have hre := (recv_events cr hf chunks hne hnil).1 (by rw [hj])
  rw [hj] at hre
  refine ⟨?_, hre.2⟩
  rw [hre.1, hevs]
  rfl

/-- the hypotheses are satisfiable: a default client sending to a default server -/
example : SenderOk (Ctx.ofCfg {}) (start { isServer := false }) :=
  ⟨rfl, by simp [start], rfl, rfl⟩

example : MsgOk (Ctx.ofCfg {}) (start { isServer := false }) [0x48, 0x69] false none := by
  refine ⟨by simp [start], by simp, by simp, by simp [Ctx.ofCfg], by simp [Ctx.ofCfg], fun _ => by decide⟩

/-- the conclusion of `stream_judged` evaluated on a concrete run (client, two frames "He" + "llo" of a text message): the
judge in the server's role reads the octets written as exactly that one message, with verdict `ok` and nothing left over -/
example : WsSpec.judge (Ctx.ofCfg {})
    (wire (endMessage ([[0x48, 0x65], [0x6c, 0x6c, 0x6f]].foldl (fun s p => sendMessageFrame s p false)
      (beginMessage (start { isServer := false }) false))))
    = ([.message [0x48, 0x65, 0x6c, 0x6c, 0x6f] false false], .ok, 0) := by
  decide

end Abverif.Ws

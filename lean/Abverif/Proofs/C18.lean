import Abverif.Model.Errors
/-!
C18 — Remote exceptions arrive with their URI, arguments and class.

All statements are about `Abverif.Errors` (mirror of `define`, `_message_from_exception`,
`_exception_from_message`, `uri.error`, `ApplicationError.__init__`); the tie to the code is the differential run
of harness/c18.py (two real sessions, every serializer, both frameworks).

`Spec.caller` is the property read literally, and `uri_args_kwargs_preserved` proves it of the model for ALL inputs.
Three regression inputs, each once a finding of the harness on the real code: the generic `ApplicationError` built
through the public constructor, which takes the five names `enc_algo, callee, callee_authid, callee_authrole,
forward_for` out of the keyword arguments — `reserved_key_kept`; `str(exc)` in the invocation error path rewriting a
user keyword argument named "traceback" — `user_traceback_kwarg_kept`; `@error` on a subclass of a decorated class
appending to the list of the base — `decorated_subclass_own_uri`.
-/
namespace Abverif.Errors
open AList

section alist
variable {K : Type} [DecidableEq K] {A : Type}

theorem find_del_self (k : K) (l : List (K × A)) : find k (del k l) = none := by
  induction l with
  | nil => rfl
  | cons h t ih =>
    obtain ⟨k', a⟩ := h
    by_cases hk : k' = k
    · simp [del, hk, ih]
    · simp [del, find, hk, ih]

theorem find_del_other {k k' : K} (h : k' ≠ k) (l : List (K × A)) : find k (del k' l) = find k l := by
  induction l with
  | nil => rfl
  | cons hd t ih =>
    obtain ⟨k'', a⟩ := hd
    by_cases h1 : k'' = k'
    · subst h1
      simp [del, find, h, ih]
    · by_cases h2 : k'' = k
      · subst h2; simp [del, find, h1]
      · simp [del, find, h1, h2, ih]

theorem find_put_self (k : K) (a : A) (l : List (K × A)) : find k (put k a l) = some a := by
  simp [put, find]

theorem find_put_other {k k' : K} (h : k' ≠ k) (a : A) (l : List (K × A)) : find k (put k' a l) = find k l := by
  simp [put, find, h, find_del_other h]

theorem del_of_find_none {k : K} {l : List (K × A)} (h : find k l = none) : del k l = l := by
  induction l with
  | nil => rfl
  | cons hd t ih =>
    obtain ⟨k', a⟩ := hd
    by_cases hk : k' = k
    · simp [find, hk] at h
    · simp [find, hk] at h
      simp [del, hk, ih h]

theorem delAll_of_find_none {ks : List K} {l : List (K × A)} (h : ∀ k ∈ ks, find k l = none) :
    delAll ks l = l := by
  induction ks generalizing l with
  | nil => rfl
  | cons k r ih =>
    have hk : del k l = l := del_of_find_none (h k (by simp))
    simp only [delAll, List.foldl_cons, hk]
    exact ih (fun k' hk' => h k' (by simp [hk']))

theorem find_delAll_other {ks : List K} {k : K} (h : k ∉ ks) (l : List (K × A)) :
    find k (delAll ks l) = find k l := by
  induction ks generalizing l with
  | nil => rfl
  | cons k' r ih =>
    have h1 : k' ≠ k := fun e => h (by simp [e])
    have h2 : k ∉ r := fun e => h (by simp [e])
    simp only [delAll, List.foldl_cons]
    have := ih h2 (del k' l)
    simp only [delAll] at this
    rw [this, find_del_other h1]

end alist

def RExc.args {V} : RExc V → List V
  | .app _ a _ => a
  | .user _ a _ => a
def RExc.kwargs {V} : RExc V → Kwargs V
  | .app _ _ k => k
  | .user _ _ k => k
def RExc.appUri {V} : RExc V → Option Uri
  | .app u _ _ => some u
  | .user _ _ _ => none
def RExc.cls? {V} : RExc V → Option Cls
  | .app _ _ _ => none
  | .user c _ _ => some c

def NoReserved {V} (k : Kwargs V) : Prop := ∀ r ∈ RESERVED, find r k = none

instance {V} [DecidableEq V] (k : Kwargs V) : Decidable (NoReserved k) := by
  unfold NoReserved; infer_instance

theorem errorUri_eq_spec {V} (reg : Registry) (e : Exc V) : errorUri reg e = Spec.uri reg e := by
  unfold errorUri Spec.uri
  cases e.appError with
  | some u => rfl
  | none =>
    cases find e.cls reg.clsToPats with
    | none => rfl
    | some l => cases l <;> rfl

/-- the constructor call at the peer sees a message that went over the wire as it was built: absent and empty
collapse, nothing else changes -/
theorem callArgs_wire {V} (m : ErrorMsg V) : callArgs (wire m) = (m.args.getD [], m.kwargs.getD []) := by
  obtain ⟨u, a, k⟩ := m
  rcases a with _ | _ | _ <;> rcases k with _ | _ | _ <;> rfl

theorem wire_uri {V} (m : ErrorMsg V) : (wire m).uri = m.uri := by
  unfold wire; split
  · rfl
  · split <;> rfl

/-- ERROR sent by the callee, as the peer reads it: URI as the statement prescribes, `args = list(exc.args)`,
kwargs = the exception's (with the traceback under key "traceback" when forwarding is on). All inputs. -/
theorem error_message_carries {V} (reg : Registry) (e : Exc V) (tb : Option V) :
    (wire (toError reg e tb)).uri = Spec.uri reg e ∧
    callArgs (wire (toError reg e tb)) = (Spec.args e, Spec.kwargs e tb) := by
  refine ⟨(wire_uri _).trans (errorUri_eq_spec reg e), ?_⟩
  rw [callArgs_wire]
  obtain ⟨c, ap, a, k⟩ := e
  cases tb with
  | none => rfl
  | some t => rcases k with _ | _ | _ <;> rfl

/-- the URI chosen on the callee side: carried URI for application errors (and subclasses), first registered
pattern for registered classes, the generic runtime-error URI otherwise -/
theorem uri_by_class {V} (reg : Registry) (e : Exc V) :
    (∀ u, e.appError = some u → errorUri reg e = u) ∧
    (e.appError = none → ∀ u rest, find e.cls reg.clsToPats = some (u :: rest) → errorUri reg e = u) ∧
    (e.appError = none → find e.cls reg.clsToPats = none → errorUri reg e = RUNTIME_ERROR) := by
  refine ⟨fun u h => ?_, fun h u rest hg => ?_, fun h hg => ?_⟩
  · simp [errorUri, h]
  · simp [errorUri, h, hg]
  · simp [errorUri, h, hg]

/-- `fromError` as the statement reads it, of a message read as URI `u` and constructor arguments `a`, `k`: the
registered class when its constructor accepts, else the generic error -/
theorem fromError_eq {V} (reg : Registry) (ctor : Cls → List V → Kwargs V → Ctor) {m : ErrorMsg V} {u : Uri}
    {a : List V} {k : Kwargs V} (hu : m.uri = u) (hak : callArgs m = (a, k)) :
    fromError reg ctor m =
      (match find u reg.uriToCls with
       | some c => if ctor c a k = .ok then .user c a k else .app u a k
       | none => .app u a k) := by
  unfold fromError
  rw [hak, hu]
  cases find u reg.uriToCls with
  | none => rfl
  | some c => simp only; cases h : ctor c a k <;> simp [genericApp]

theorem fromError_cases {V} (reg : Registry) (ctor : Cls → List V → Kwargs V → Ctor) {m : ErrorMsg V} {u : Uri}
    {a : List V} {k : Kwargs V} (hu : m.uri = u) (hak : callArgs m = (a, k)) :
    (∃ c, find u reg.uriToCls = some c ∧ ctor c a k = .ok ∧ fromError reg ctor m = .user c a k) ∨
    ((find u reg.uriToCls = none ∨ ∃ c, find u reg.uriToCls = some c ∧ ctor c a k ≠ .ok) ∧
      fromError reg ctor m = .app u a k) := by
  rw [fromError_eq reg ctor hu hak]
  cases find u reg.uriToCls with
  | none => exact .inr ⟨.inl rfl, rfl⟩
  | some c =>
    by_cases hk : ctor c a k = .ok
    · exact .inl ⟨c, rfl, hk, if_pos hk⟩
    · exact .inr ⟨.inr ⟨c, rfl, hk⟩, if_neg hk⟩

/-- the property as one proposition: a registered class that cannot be constructed (raises, or yields a falsy instance)
gives a generic application error with the message's URI, args and kwargs. -/
def NeverLost (V : Type) : Prop :=
  ∀ (reg : Registry) (ctor : Cls → List V → Kwargs V → Ctor) (m : ErrorMsg V) (c : Cls),
    find m.uri reg.uriToCls = some c → ctor c (callArgs m).1 (callArgs m).2 ≠ .ok →
    fromError reg ctor m = .app m.uri (callArgs m).1 (callArgs m).2

/-- when the registered class cannot be constructed the result is the generic application error with the same URI,
args and kwargs. All inputs. -/
theorem never_lost {V} (reg : Registry) (ctor : Cls → List V → Kwargs V → Ctor) (m : ErrorMsg V) (c : Cls)
    (hc : find m.uri reg.uriToCls = some c) (hk : ctor c (callArgs m).1 (callArgs m).2 ≠ .ok) :
    fromError reg ctor m = .app m.uri (callArgs m).1 (callArgs m).2 := by
  rw [fromError_eq reg ctor rfl rfl, hc]
  exact if_neg hk

theorem never_lost_all (V : Type) : NeverLost V := fun reg ctor m c hc hk => never_lost reg ctor m c hc hk

/-- All inputs: whatever the registry and the constructors do, the exception handed to the caller carries the
message's args and kwargs, and — when generic — the message's URI; a user class only if it is the one registered for the
URI and its constructor accepted exactly these arguments. -/
theorem from_error_carries {V} (reg : Registry) (ctor : Cls → List V → Kwargs V → Ctor) (m : ErrorMsg V) :
    let r := fromError reg ctor m
    r.args = (callArgs m).1 ∧
    r.kwargs = (callArgs m).2 ∧
    (r.cls? = none → r.appUri = some m.uri) ∧
    (∀ c, r.cls? = some c → find m.uri reg.uriToCls = some c ∧ ctor c (callArgs m).1 (callArgs m).2 = .ok) := by
  rcases fromError_cases reg ctor rfl rfl with ⟨c, hc, hk, h⟩ | ⟨_, h⟩ <;> rw [h]
  · exact ⟨rfl, rfl, nofun, fun c' hc' => by cases hc'; exact ⟨hc, hk⟩⟩
  · exact ⟨rfl, rfl, fun _ => rfl, nofun⟩

/-- non-vacuity: a registered class whose constructor raises; ordinary and reserved keyword names -/
example : fromError (V := Nat) { clsToPats := [], uriToCls := [("com.e", "E")] } (fun _ _ _ => .raises)
    { uri := "com.e", args := some [1, 2], kwargs := some [("code", 3), ("forward_for", 4)] }
    = .app "com.e" [1, 2] [("code", 3), ("forward_for", 4)] :=
  rfl

/-- the property as one proposition: for every input the caller sees what `Spec.caller` prescribes -/
def UriArgsKwargsPreserved (V : Type) : Prop :=
  ∀ (regCallee regCaller : Registry) (ctor : Cls → List V → Kwargs V → Ctor) (e : Exc V) (tb : Option V),
    roundtrip regCallee regCaller ctor e tb = Spec.caller regCallee regCaller ctor e tb

/-- `fromError (toError e)` is what the statement prescribes — URI class-mapped, args, kwargs (∪ traceback) —
for every registry pair, every constructor behaviour, every exception and payload. -/
theorem uri_args_kwargs_preserved {V} (regCallee regCaller : Registry)
    (ctor : Cls → List V → Kwargs V → Ctor) (e : Exc V) (tb : Option V) :
    roundtrip regCallee regCaller ctor e tb = Spec.caller regCallee regCaller ctor e tb := by
  obtain ⟨hu, hak⟩ := error_message_carries regCallee e tb
  exact fromError_eq regCaller ctor hu hak

theorem uri_args_kwargs_preserved_all (V : Type) : UriArgsKwargsPreserved V :=
  fun r1 r2 ctor e tb => uri_args_kwargs_preserved r1 r2 ctor e tb

/-- non-vacuity: `define`d on both sides, constructor accepts -/
example : roundtrip (V := Nat) { clsToPats := [("E", ["com.e"])], uriToCls := [("com.e", "E")] }
    { clsToPats := [("E", ["com.e"])], uriToCls := [("com.e", "E")] } (fun _ _ _ => .ok)
    { cls := "E", appError := none, args := some [1, 2], kwargs := some [("code", 3)] } (some 9)
    = .user "E" [1, 2] [("traceback", 9), ("code", 3)] := rfl

/-- read componentwise: URI, args and every keyword argument arrive exactly -/
theorem uri_args_kwargs_componentwise {V} (regCallee regCaller : Registry)
    (ctor : Cls → List V → Kwargs V → Ctor) (e : Exc V) (tb : Option V) :
    let r := roundtrip regCallee regCaller ctor e tb
    r.args = Spec.args e ∧ r.kwargs = Spec.kwargs e tb ∧
    (∀ u, r.appUri = some u → u = Spec.uri regCallee e) := by
  obtain ⟨hu, hak⟩ := error_message_carries regCallee e tb
  rcases fromError_cases regCaller ctor hu hak with ⟨c, _, _, h⟩ | ⟨_, h⟩ <;> rw [roundtrip, h]
  · exact ⟨rfl, rfl, nofun⟩
  · exact ⟨rfl, rfl, fun u hu => (Option.some.inj hu).symm⟩

/-- Regression example (the input of the former finding `reserved-kwarg-dropped-by-generic-application-error`):
kwargs `{callee: 7}` on an exception of an unregistered URI reach the caller. With the generic error built through
the public constructor (`mkApp`) the key was lost — second part. -/
theorem reserved_key_kept :
    roundtrip (V := Nat) Registry.init Registry.init (fun _ _ _ => .ok)
      { cls := "E", appError := some "com.app.err", args := some [1], kwargs := some [("callee", 7)] } none
      = .app "com.app.err" [1] [("callee", 7)] ∧
    mkApp (V := Nat) "com.app.err" [1] [("callee", 7)] = .app "com.app.err" [1] [] := ⟨rfl, rfl⟩

theorem genericApp_eq_mkApp {V} (u : Uri) (a : List V) (k : Kwargs V) (h : NoReserved k) :
    genericApp u a k = mkApp u a k := by
  unfold genericApp mkApp
  rw [delAll_of_find_none h]

/-- The caller sees either the class registered (at the caller) for the error URI — and then the constructor
accepted exactly (args, kwargs) — or a generic `ApplicationError` carrying that URI. All inputs. -/
theorem class_is_registered_or_generic {V} (regCallee regCaller : Registry)
    (ctor : Cls → List V → Kwargs V → Ctor) (e : Exc V) (tb : Option V) :
    let r := roundtrip regCallee regCaller ctor e tb
    (∃ c, r.cls? = some c ∧ find (Spec.uri regCallee e) regCaller.uriToCls = some c ∧
          ctor c r.args r.kwargs = .ok) ∨
    (r.cls? = none ∧ r.appUri = some (Spec.uri regCallee e) ∧
       (find (Spec.uri regCallee e) regCaller.uriToCls = none ∨
        ∃ c, find (Spec.uri regCallee e) regCaller.uriToCls = some c ∧
             ctor c (Spec.args e) (Spec.kwargs e tb) ≠ .ok)) := by
  obtain ⟨hu, hak⟩ := error_message_carries regCallee e tb
  rcases fromError_cases regCaller ctor hu hak with ⟨c, hc, hk, h⟩ | ⟨hno, h⟩ <;> rw [roundtrip, h]
  · exact .inl ⟨c, rfl, hc, hk⟩
  · exact .inr ⟨rfl, rfl, hno⟩

/-! ### the invocation error path (`str(exc)` runs before the message is built) -/

/-- `ApplicationError.__unicode__` leaves the instance alone: the invocation path sends what `toError` builds.
This holds by the definition of `invocationError` in the model; that the code behaves so is a modelling decision
which only the harness checks. -/
theorem invocation_path_eq {V} (reg : Registry) (e : Exc V) (tb : Option V) :
    invocationError reg e tb = toError reg e tb := rfl

/-- the invocation path end to end, all inputs: `invocationError` is `toError` by definition
(`invocation_path_eq`), so `roundtripInv` unfolds to `roundtrip` and this is `uri_args_kwargs_preserved` -/
theorem uri_args_kwargs_preserved_invocation {V} (regCallee regCaller : Registry)
    (ctor : Cls → List V → Kwargs V → Ctor) (e : Exc V) (tb : Option V) :
    roundtripInv regCallee regCaller ctor e tb = Spec.caller regCallee regCaller ctor e tb :=
  uri_args_kwargs_preserved regCallee regCaller ctor e tb

/-- Regression example (the input of the former finding `application-error-str-clobbers-traceback-kwarg`):
`ApplicationError("com.x", traceback=7)`, forwarding off — the user's value is on the wire and at the caller. -/
theorem user_traceback_kwarg_kept :
    (invocationError (V := Nat) Registry.init
      { cls := "ApplicationError", appError := some "com.x", args := some [], kwargs := some [("traceback", 7)] } none).kwargs
      = some [("traceback", 7)] ∧
    roundtripInv (V := Nat) Registry.init Registry.init (fun _ _ _ => .ok)
      { cls := "ApplicationError", appError := some "com.x", args := some [], kwargs := some [("traceback", 7)] } none
      = .app "com.x" [] [("traceback", 7)] := ⟨rfl, rfl⟩

def plain {V} (c : Cls) (a : Option (List V)) (k : Option (Kwargs V)) : Exc V :=
  { cls := c, appError := none, args := a, kwargs := k }

/-- a plain instance of a class whose only pattern on the callee side is `u`, with `u` mapped back to the class on
the caller side, travels as `u` and comes back as the class when the constructor accepts the arguments -/
theorem plain_roundtrip {V} (reg1 reg2 : Registry) (ctor : Cls → List V → Kwargs V → Ctor) (c : Cls) (u : Uri)
    (a : Option (List V)) (k : Option (Kwargs V)) (tb : Option V)
    (e1 : find c reg1.clsToPats = some [u]) (e2 : find u reg2.uriToCls = some c)
    (hk : ctor c (Spec.args (plain c a k)) (Spec.kwargs (plain c a k) tb) = .ok) :
    (toError reg1 (plain c a k) tb).uri = u ∧
    roundtrip reg1 reg2 ctor (plain c a k) tb = .user c (Spec.args (plain c a k)) (Spec.kwargs (plain c a k) tb) := by
  have hu : Spec.uri reg1 (plain c a k) = u := by simp [Spec.uri, plain, e1]
  refine ⟨(errorUri_eq_spec reg1 _).trans hu, ?_⟩
  rw [uri_args_kwargs_preserved]
  simp [Spec.caller, hu, e2, hk]

/-- what a successful `define` has done: class ↦ patterns, first pattern ↦ class -/
theorem define_ok {patOk : Uri → Bool} {reg reg' : Registry} {c : Cls} {w : Option (List Uri)} {err : Option Uri}
    (h : define patOk reg c w err = .ok reg') :
    ∃ u rest, reg' = { clsToPats := put c (u :: rest) reg.clsToPats, uriToCls := put u c reg.uriToCls } ∧
      ((err = none ∧ w = some (u :: rest)) ∨ (err = some u ∧ w = none ∧ rest = [])) := by
  unfold define at h
  cases err with
  | none =>
    cases w with
    | none => cases h
    | some pats =>
      cases pats with
      | nil => cases h
      | cons u rest => cases h; exact ⟨u, rest, rfl, .inl ⟨rfl, rfl⟩⟩
  | some e =>
    cases w with
    | some _ => cases h
    | none =>
      simp only at h
      split at h
      · cases h
      · split at h
        · cases h
        · cases h; exact ⟨e, [], rfl, .inr ⟨rfl, rfl, rfl⟩⟩

/-- explicit registration `session.define(cls, uri)` on both sides: an instance of `cls` travels as `uri` and
comes back as `cls(*args, **kwargs)` whenever the constructor accepts them. -/
theorem define_roundtrip_explicit {V} (patOk : Uri → Bool) (reg1 reg2 reg1' reg2' : Registry) (c : Cls) (u : Uri)
    (h1 : define patOk reg1 c none (some u) = .ok reg1') (h2 : define patOk reg2 c none (some u) = .ok reg2')
    (ctor : Cls → List V → Kwargs V → Ctor) (a : Option (List V)) (k : Option (Kwargs V)) (tb : Option V)
    (hk : ctor c (Spec.args (plain c a k)) (Spec.kwargs (plain c a k) tb) = .ok) :
    (toError reg1' (plain c a k) tb).uri = u ∧
    roundtrip reg1' reg2' ctor (plain c a k) tb = .user c (Spec.args (plain c a k)) (Spec.kwargs (plain c a k) tb) := by
  -- `define_ok`: both registries got `c ↦ u' :: rest` and `u' ↦ c`, where here `u' = u` and `rest = []`
  obtain ⟨_, _, rfl, ⟨e, _⟩ | ⟨e, _, rfl⟩⟩ := define_ok h1 <;> cases e
  obtain ⟨_, _, rfl, ⟨e, _⟩ | ⟨e, _, rfl⟩⟩ := define_ok h2 <;> cases e
  exact plain_roundtrip _ _ ctor c u a k tb (find_put_self _ _ _) (find_put_self _ _ _) hk

/-- the decorator touches the `_wampuris` list of the decorated class only — whatever the outcome, the lists of all
other classes (bases and subclasses included) are as before -/
theorem decorate_frame (patOk : Uri → Bool) (env : ClassEnv) (c c' : Cls) (u : Uri) (h : c ≠ c') :
    find c' (decorate patOk env c u).1.own = find c' env.own := by
  have h1 : find c' (if hasKey c env.own then env else { env with own := put c [] env.own }).own = find c' env.own := by
    split
    · rfl
    · exact find_put_other h _ _
  unfold decorate
  simp only
  split
  · exact h1
  · split
    · exact h1
    · simp only; rw [find_put_other h]; exact h1

/-- … and appends the new pattern to the class's own list (a fresh list when the class had none of its own) -/
theorem decorate_own (patOk : Uri → Bool) (env : ClassEnv) (c : Cls) (u : Uri)
    (hd : (decorate patOk env c u).2 = .ok) :
    find c (decorate patOk env c u).1.own = some ((find c env.own).getD [] ++ [u]) := by
  unfold decorate at hd ⊢
  simp only at hd ⊢
  split
  · -- empty URI: the outcome is `assertionError`, not `ok`
    rename_i h; rw [if_pos h] at hd; cases hd
  · rename_i h; rw [if_neg h] at hd
    split
    · -- `Pattern(...)` rejects the text: `typeError`
      rename_i h2; rw [if_pos h2] at hd; cases hd
    · -- appended: the class maps to the list it had after the first step (`env1`), plus `u`
      simp only; rw [find_put_self]
      by_cases hk : hasKey c env.own = true
      · -- the class had a list of its own: the first step changed nothing
        simp [hk]
      · -- it had none: the first step gave it `[]`, which is also what `getD` reads off `env`
        simp only [hk]
        have : find c env.own = none := by
          simpa [hasKey, Option.isSome_iff_ne_none] using hk
        simp [this, find_put_self]

/-- … and never the MRO -/
theorem decorate_mro (patOk : Uri → Bool) (env : ClassEnv) (c : Cls) (u : Uri) :
    (decorate patOk env c u).1.mro = env.mro := by
  unfold decorate
  simp only
  split
  · split <;> rfl
  · split <;> split <;> rfl

/-- decorated registration: `@error(u)` on a class that has not been decorated itself before — its bases may be —,
then `session.define(cls)` on both sides: the class travels under `u` and comes back as itself. -/
theorem define_roundtrip_decorated {V} (patOk : Uri → Bool) (env env' : ClassEnv) (reg1 reg2 reg1' reg2' : Registry)
    (c : Cls) (u : Uri)
    (hfresh : find c env.own = none) (hself : (env.mro c).head? = some c)
    (hd : decorate patOk env c u = (env', .ok))
    (h1 : define patOk reg1 c (env'.wampuris c) none = .ok reg1')
    (h2 : define patOk reg2 c (env'.wampuris c) none = .ok reg2')
    (ctor : Cls → List V → Kwargs V → Ctor) (a : Option (List V)) (k : Option (Kwargs V)) (tb : Option V)
    (hk : ctor c (Spec.args (plain c a k)) (Spec.kwargs (plain c a k) tb) = .ok) :
    env'.wampuris c = some [u] ∧
    (toError reg1' (plain c a k) tb).uri = u ∧
    roundtrip reg1' reg2' ctor (plain c a k) tb = .user c (Spec.args (plain c a k)) (Spec.kwargs (plain c a k) tb) := by
  have hown : find c env'.own = some [u] := by
    have := decorate_own patOk env c u (by rw [hd])
    rw [hd, hfresh] at this
    simpa using this
  have hw : env'.wampuris c = some [u] := by
    have hm : ∃ rest, env'.mro c = c :: rest := by
      have hmro : env'.mro = env.mro := by
        rw [← show (decorate patOk env c u).1 = env' from congrArg Prod.fst hd, decorate_mro]
      rw [hmro]
      cases hmro' : env.mro c with
      | nil => simp [hmro'] at hself
      | cons x rest => simp [hmro'] at hself; exact ⟨rest, by rw [hself]⟩
    obtain ⟨rest, hm⟩ := hm
    simp [ClassEnv.wampuris, ClassEnv.owner, hm, hasKey, hown]
  rw [hw] at h1 h2
  obtain ⟨_, _, rfl, ⟨_, e⟩ | ⟨e, _⟩⟩ := define_ok h1 <;> cases e
  obtain ⟨_, _, rfl, ⟨_, e⟩ | ⟨e, _⟩⟩ := define_ok h2 <;> cases e
  exact ⟨hw, plain_roundtrip _ _ ctor c u a k tb (find_put_self _ _ _) (find_put_self _ _ _) hk⟩

/-- registering another class under another URI does not disturb an existing registration -/
theorem define_preserves_other (patOk : Uri → Bool) (reg reg' : Registry) (c c2 : Cls) (u : Uri)
    (w : Option (List Uri)) (err : Option Uri)
    (hd : define patOk reg c2 w err = .ok reg') (hc : c2 ≠ c)
    (hu : ∀ x, (err = some x ∨ (err = none ∧ ∃ rest, w = some (x :: rest))) → x ≠ u) :
    find c reg'.clsToPats = find c reg.clsToPats ∧ find u reg'.uriToCls = find u reg.uriToCls := by
  obtain ⟨x, rest, rfl, hx⟩ := define_ok hd
  refine ⟨find_put_other hc _ _, find_put_other (hu x ?_) _ _⟩
  rcases hx with ⟨he, hw⟩ | ⟨he, _, _⟩
  · exact .inr ⟨he, rest, hw⟩
  · exact .inl he

theorem init_wf : Registry.init.WF := by
  intro c h; simp [Registry.init, find] at h

/-- successful definitions never register an empty pattern list, so the `IndexError` branch of
`_message_from_exception` (totalised in the model) is unreachable from `Registry.init` through successful `define`s -/
theorem define_preserves_wf (patOk : Uri → Bool) (reg reg' : Registry) (c : Cls) (w : Option (List Uri))
    (err : Option Uri) (hwf : reg.WF) (hd : define patOk reg c w err = .ok reg') : reg'.WF := by
  obtain ⟨u, rest, rfl, _⟩ := define_ok hd
  intro c'
  by_cases hc : c = c'
  · subst hc; rw [find_put_self]; nofun
  · rw [find_put_other hc]; exact hwf c'

/-- non-vacuity of `define_roundtrip_explicit` / `_decorated` -/
example : define (fun _ => true) Registry.init "MyErr" none (some "com.myapp.err") =
    .ok { clsToPats := [("MyErr", ["com.myapp.err"])],
          uriToCls := [("com.myapp.err", "MyErr"), (INVALID_PAYLOAD, "SerializationError"),
                       (PAYLOAD_SIZE_EXCEEDED, "PayloadExceededError")] } := rfl

def envPlain : ClassEnv := { mro := fun c => if c = "B" then ["B", "A"] else [c], own := [] }

example : (decorate (fun _ => true) envPlain "A" "com.a").2 = .ok ∧
    (decorate (fun _ => true) envPlain "A" "com.a").1.wampuris "A" = some ["com.a"] := ⟨rfl, rfl⟩

/-- Regression example (the input of the former finding `decorated-subclass-shares-base-wampuris`): decorating a
SUBCLASS of a decorated class gives the subclass its own list; base and subclass are announced under their own URIs and
each URI maps back to its own class. (`define_roundtrip_decorated` covers the subclass: `find "B" env1.own = none`.) -/
theorem decorated_subclass_own_uri :
    let env1 := (decorate (fun _ => true) envPlain "A" "com.a").1
    let env2 := (decorate (fun _ => true) env1 "B" "com.b").1
    let regA : Registry :=
      { clsToPats := [("A", ["com.a"])],
        uriToCls := [("com.a", "A"), (INVALID_PAYLOAD, "SerializationError"),
                     (PAYLOAD_SIZE_EXCEEDED, "PayloadExceededError")] }
    let reg : Registry :=
      { clsToPats := [("B", ["com.b"]), ("A", ["com.a"])],
        uriToCls := [("com.b", "B"), ("com.a", "A"), (INVALID_PAYLOAD, "SerializationError"),
                     (PAYLOAD_SIZE_EXCEEDED, "PayloadExceededError")] }
    env2.wampuris "B" = some ["com.b"] ∧ env2.wampuris "A" = some ["com.a"] ∧
    find "B" env1.own = none ∧
    define (fun _ => true) Registry.init "A" (env2.wampuris "A") none = .ok regA ∧
    define (fun _ => true) regA "B" (env2.wampuris "B") none = .ok reg ∧
    errorUri (V := Nat) reg (plain "B" none none) = "com.b" ∧ errorUri (V := Nat) reg (plain "A" none none) = "com.a" ∧
    find "com.a" reg.uriToCls = some "A" ∧ find "com.b" reg.uriToCls = some "B" := ⟨rfl, rfl, rfl, rfl, rfl, rfl, rfl, rfl, rfl⟩

/-- a subclass that is NOT decorated itself is still seen by `define` with the list of its decorated base
(`hasattr` walks the MRO) -/
example :
    let env1 := (decorate (fun _ => true) envPlain "A" "com.a").1
    env1.wampuris "B" = some ["com.a"] := rfl

end Abverif.Errors

import Abverif.Proofs.Lemmas.WsFrame
/-
C16 — configured payload limits are enforced early and never by truncation (model level; the compression
cap is outside the model and tied by the implementation-level oracle only).
-/
namespace Abverif.Ws

/-- an over-limit `sendMessage` raises `PayloadExceededError` and changes nothing
else — no octet is written, nothing is queued, no key is drawn -/
theorem send_refused_writes_nothing (s : S) (pl : Bytes) (b : Bool) (f : Option Nat) (sy : Bool)
    (hopen : s.st = .opened) (hlim : 0 < s.cfg.maxMsg) (hover : s.cfg.maxMsg < pl.length) :
    sendMessage s pl b f sy = s.emit (.raised .payloadExceeded) := by
  unfold sendMessage
  simp [hopen, hlim, hover]

/-- a message at or below the limit is not refused (the limit is inclusive) -/
theorem send_within_limit_not_refused (s : S) (pl : Bytes) (b : Bool) (sy : Bool)
    (hopen : s.st = .opened) (hle : pl.length ≤ s.cfg.maxMsg) (haf : s.cfg.autoFragment = 0) :
    sendMessage s pl b none sy = sendFrame s (if b then 2 else 1) pl true 0 sy := by
  unfold sendMessage
  have : ¬ (0 < s.cfg.maxMsg ∧ s.cfg.maxMsg < pl.length) := by omega
  simp [hopen, this, haf]

/-- the limits are judged in `onMessageFrameBegin`, i.e. when the frame header has been read and
before a single payload octet of that frame is looked at: if the declared length pushes the message over
`maxMessagePayloadSize` the connection is failed with 1009 right there, and the frame buffer is empty -/
theorem limit_at_header_msg (s : S) (n : Nat) (hf : s.failedByMe = false)
    (hlim : 0 < s.cfg.maxMsg) (hover : s.cfg.maxMsg < s.totalLen + n) :
    onMessageFrameBegin s n = failConnection { s with frameData := [], totalLen := s.totalLen + n } 1009 := by
  unfold onMessageFrameBegin
  simp [hf, hlim, hover]

/-- the same for a frame whose own declared length is over `maxFramePayloadSize` -/
theorem limit_at_header_frame (s : S) (n : Nat) (hf : s.failedByMe = false)
    (hmsg : ¬ (0 < s.cfg.maxMsg ∧ s.cfg.maxMsg < s.totalLen + n))
    (hlim : 0 < s.cfg.maxFrame) (hover : s.cfg.maxFrame < n) :
    onMessageFrameBegin s n = failConnection { s with frameData := [], totalLen := s.totalLen + n } 1009 := by
  unfold onMessageFrameBegin
  simp only [hf, Bool.not_false, if_true]
  have h2 : ¬ (decide (0 < s.cfg.maxMsg) && decide (s.cfg.maxMsg < s.totalLen + n)) = true := by simpa using hmsg
  simp [h2, hlim, hover]

/-- failing with 1009 follows the fail policy, as every failure does: with failByDrop the connection is CLOSED and marked
as failed by us (that the drop is an abort is `failConnection_fbd`: the state `dropNow`), else a close frame carrying
1009 is sent -/
theorem fail_1009_drop (s : S) (hst : s.st = .opened) (hfbd : s.cfg.failByDrop = true) :
    (failConnection s 1009).st = .closed ∧ (failConnection s 1009).failedByMe = true := by
  rw [failConnection_fbd s 1009 hfbd (by rw [hst]; decide)]
  exact ⟨rfl, rfl⟩

theorem fail_1009_close (s : S) (hst : s.st = .opened) (hfbd : s.cfg.failByDrop = false) :
    failConnection s 1009 = sendCloseFrame { s with failedByMe := true } (some 1009) none false := by
  rw [failConnection_fbc s 1009 hfbd (by rw [hst]; decide), if_pos (by rw [hst]; decide)]

/-- within the limits `onMessageFrameBegin` only does its bookkeeping -/
theorem limit_transparent (s : S) (n : Nat)
    (hmsg : ¬ (0 < s.cfg.maxMsg ∧ s.cfg.maxMsg < s.totalLen + n))
    (hfr : ¬ (0 < s.cfg.maxFrame ∧ s.cfg.maxFrame < n)) :
    onMessageFrameBegin s n = { s with frameData := [], totalLen := s.totalLen + n } := by
  unfold onMessageFrameBegin
  have h1 : ¬ (decide (0 < s.cfg.maxMsg) && decide (s.cfg.maxMsg < s.totalLen + n)) = true := by simpa using hmsg
  have h2 : ¬ (decide (0 < s.cfg.maxFrame) && decide (s.cfg.maxFrame < n)) = true := by simpa using hfr
  simp [h1, h2]

/-- once the connection has been failed nothing more is handed to the application (`onMessageEnd` guard) -/
theorem failed_never_delivers (s : S) (h : s.failedByMe = true) : deliverMessage s = s := by
  unfold deliverMessage; simp [h]

/-- and nothing more is buffered (`onMessageFrameData` guard) -/
theorem failed_never_buffers (s : S) (p : Bytes) (h : s.failedByMe = true) : onMessageFrameData s p = s := by
  unfold onMessageFrameData; simp [h]

/-- the Spec judges the same way: 1009 for a declared length one over the limit, none for one at the limit -/
example : (WsSpec.judge { isServer := false, maxMsg := 3 } [0x82, 0x04]).2.1 = .fail 1009 := by decide
example : (WsSpec.judge { isServer := false, maxMsg := 3 } [0x82, 0x03, 1, 2, 3]).2.1 = .ok := by decide

end Abverif.Ws

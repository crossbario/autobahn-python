import Abverif.Proofs.Lemmas.PmceHeader
/- C12 for the other two extensions: permessage-bzip2 (compression levels) and permessage-brotli (context takeover).
   Render -> `_parseExtensionsHeader` -> parse round trips as `Reads` chains, one field per piece of the render (both
   `Offer.parse` default every flag to False/0, so the round trips are exact); the bzip2 level bound from the
   constructor guard and the brotli negotiation fact from the two override lemmas that deflate's `compat_core` uses.
   The statements range over the lattice lists (`∀ o ∈ X.all`, and for responses the accepts `⟨⟨true, s⟩, c, none⟩`); the
   proofs are arguments and use a membership only where it bounds a level. -/
namespace Abverif.Pmce
open Abverif.DeflateConsts

def findExt (name : List Char) : List (List Char × Params) → Option Params
  | [] => none
  | (n, ps) :: rest => if n = name then some ps else findExt name rest

/-- a round trip as the statements for these two extensions spell it -/
theorem Reads.findExt {α : Type} {f : Option α → List Char × List Val → Option α} {name t : List Char}
    {ks : List (List Char)} {a b : α} (h : Reads f name t ks a b) (hn : Plain name ∧ name ≠ []) (hks : Keys ks) :
    (findExt name (parseExtensionsHeader t)).bind (fun ps => ps.foldl f (some a)) = some b := by
  obtain ⟨ps, h1, h2⟩ := h.parses hn hks
  simpa [h1, Pmce.findExt] using h2

theorem level_table : SmallTable bzip2LevelPermissible := by decide

theorem level_le_default : ∀ l ∈ bzip2LevelPermissible, 0 < l ∧ l ≤ bzip2DefaultLevel := by decide

/-- in the order a response lists them; `parseStep` tests `client_max_compress_level` first -/
theorem bz_keys : Keys [sServerMcl, sClientMcl] := by decide +kernel

theorem bz_keys_distinct : sServerMcl ≠ sClientMcl := by simpa using bz_keys.1

/-- bzip2 offers: exact round trip at every lattice point (of the membership only the bound on the level is used) -/
theorem bz_parse_render_offer : ∀ o ∈ BzOffer.all,
    (findExt bzip2ExtensionName (parseExtensionsHeader o.render)).bind BzOffer.parse = some o := by
  intro o ho
  have hl : o.reqMcl ∈ lvlVals := by
    simp only [BzOffer.all, List.mem_flatMap, List.mem_map] at ho
    obtain ⟨_, _, l, hl, rfl⟩ := ho
    exact hl
  exact Reads.nil
    |>.flag (fun b => BzOffer.mk b 0) (by simp [BzOffer.parseStep]) _
    |>.kv level_table (fun n => BzOffer.mk o.acceptMcl n) (fun v => by simp [BzOffer.parseStep, bz_keys_distinct]) hl
    |>.findExt extension_names.2.1 (bz_keys.perm (.swap _ _ _))

/-- bzip2 responses: the client recovers what the server rendered, for every pair of (requested, echoed) levels -/
theorem bz_parse_render_response : ∀ s ∈ lvlVals, ∀ c ∈ lvlVals,
    (findExt bzip2ExtensionName (parseExtensionsHeader (BzOfferAccept.render ⟨⟨true, s⟩, c, none⟩))).bind
      BzResponse.parse = some ⟨c, s⟩ := by
  intro s hs c hc
  exact Reads.nil
    |>.kv level_table (fun n => BzResponse.mk 0 n) (fun v => by simp [BzResponse.parseStep, bz_keys_distinct]) hs
    |>.kv level_table (fun n => BzResponse.mk n s) (fun v => by simp [BzResponse.parseStep]) hc
    |>.findExt extension_names.2.1 bz_keys

/-- for every accept the constructor lets through, lattice point or not -/
theorem BzOfferAccept.levels_respected (a : BzOfferAccept) (h : a.guard = true) :
    (a.offer.reqMcl ≠ 0 → (BzPmce.fromOfferAccept true a).sMcl ≤ a.offer.reqMcl)
    ∧ (a.reqMcl ≠ 0 → a.offer.acceptMcl = true) := by
  simp only [BzOfferAccept.guard, Bool.and_eq_true, and_assoc] at h
  obtain ⟨-, acceptMcl, level⟩ := h
  refine ⟨fun hr => ?_, fun h0 => (by simpa using acceptMcl : a.reqMcl = 0 ∨ _).resolve_left h0⟩
  simpa [BzPmce.fromOfferAccept, BzPmce.init, hr] using override_le level_le_default _ _ level

/-- bzip2: whatever passes the guards, the server compresses at a level not above the one the offer asked for (a
`compress_level` override is bounded by `server_max_compress_level`), and it asks for `client_max_compress_level` only
when the offer accepts that -/
theorem bz_levels_respected : ∀ o ∈ BzOffer.all, ∀ rl ∈ lvlVals, ∀ l ∈ (none :: bzip2LevelPermissible.map some),
    let a : BzOfferAccept := ⟨o, rl, l⟩
    a.guard = true →
      (o.reqMcl ≠ 0 → (BzPmce.fromOfferAccept true a).sMcl ≤ o.reqMcl)
      ∧ (rl ≠ 0 → o.acceptMcl = true) :=
  fun o _ rl _ l _ => BzOfferAccept.levels_respected ⟨o, rl, l⟩

theorem br_keys : Keys [sServerNct, sClientNct] := by decide +kernel

theorem br_keys_distinct : sServerNct ≠ sClientNct := by simpa using br_keys.1

theorem br_parse_render_offer : ∀ o ∈ BrOffer.all,
    (findExt brotliExtensionName (parseExtensionsHeader o.render)).bind BrOffer.parse = some o := by
  intro o _
  exact Reads.nil
    |>.flag (fun b => BrOffer.mk b false) (by simp [BrOffer.parseStep]) _
    |>.flag (fun b => BrOffer.mk o.acceptNct b) (by simp [BrOffer.parseStep, br_keys_distinct]) _
    |>.findExt extension_names.2.2 (br_keys.perm (.swap _ _ _))

theorem br_parse_render_response : ∀ s ∈ bools, ∀ c ∈ bools,
    (findExt brotliExtensionName (parseExtensionsHeader (BrOfferAccept.render ⟨⟨true, s⟩, c, none⟩))).bind
      BrResponse.parse = some ⟨c, s⟩ := by
  intro s _ c _
  exact Reads.nil
    |>.flag (fun b => BrResponse.mk false b) (by simp [BrResponse.parseStep, br_keys_distinct]) _
    |>.flag (fun b => BrResponse.mk b s) (by simp [BrResponse.parseStep]) _
    |>.findExt extension_names.2.2 br_keys

/-- for every accept and response-accept the constructors let through, lattice point or not -/
theorem BrOfferAccept.compatible (a : BrOfferAccept) (yn : Option Bool) (ha : a.guard = true)
    (hy : (BrResponseAccept.mk ⟨a.reqNct, a.offer.reqNct⟩ yn).guard = true) :
    ((BrPmce.fromResponseAccept false ⟨⟨a.reqNct, a.offer.reqNct⟩, yn⟩).sNct = true →
        (BrPmce.fromOfferAccept true a).sNct = true)
    ∧ ((BrPmce.fromOfferAccept true a).cNct = true →
        (BrPmce.fromResponseAccept false ⟨⟨a.reqNct, a.offer.reqNct⟩, yn⟩).cNct = true) := by
  simp only [BrOfferAccept.guard, Bool.and_eq_true] at ha
  obtain ⟨-, nct⟩ := ha
  exact ⟨nct_override _ _ nct, nct_override _ _ hy⟩

/-- brotli: for every offer, accept and response-accept passing the guards, an end that resets its inflater is
paired with a deflater that resets too (the brotli analogue of `negotiation_compatible`) -/
theorem br_negotiation_compatible : ∀ o ∈ BrOffer.all, ∀ rn ∈ bools, ∀ n ∈ optBools, ∀ yn ∈ optBools,
    let a : BrOfferAccept := ⟨o, rn, n⟩
    let ra : BrResponseAccept := ⟨⟨rn, o.reqNct⟩, yn⟩
    a.guard = true → ra.guard = true →
      ((BrPmce.fromResponseAccept false ra).sNct = true → (BrPmce.fromOfferAccept true a).sNct = true)
      ∧ ((BrPmce.fromOfferAccept true a).cNct = true → (BrPmce.fromResponseAccept false ra).cNct = true) :=
  fun o _ rn _ n _ yn _ => BrOfferAccept.compatible ⟨o, rn, n⟩ yn

end Abverif.Pmce

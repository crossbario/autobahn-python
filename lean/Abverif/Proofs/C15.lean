import Abverif.Model.Xor
/-
C15 — property theorems. Frame masking is exact XOR with the running key in every implementation.
Everything here is proved for all keys, offsets, alignments, payloads and chunkings (no bound).
-/
namespace Abverif.Xor

theorem and_three (i : Nat) : i &&& 3 = i % 4 := Nat.and_two_pow_sub_one_eq_mod i 2

theorem Key.get_mod (k : Key) (i : Nat) : k.get (i % 4) = k.get i := by
  unfold Key.get; rw [Nat.mod_mod]

theorem Key.get_congr (k : Key) {i j : Nat} (h : i % 4 = j % 4) : k.get i = k.get j := by
  unfold Key.get; rw [h]

theorem specBytes_length (k : Key) (p : Nat) (d : Bytes) : (specBytes k p d).length = d.length := by
  induction d generalizing p with
  | nil => rfl
  | cons b bs ih => simp [specBytes, ih]

theorem spec_length (k : Key) (p : Nat) (d : Bytes) : (spec k p d).1.length = d.length := specBytes_length k p d

theorem specBytes_append (k : Key) (p : Nat) (a b : Bytes) :
    specBytes k p (a ++ b) = specBytes k p a ++ specBytes k (p + a.length) b := by
  induction a generalizing p with
  | nil => simp [specBytes]
  | cons x xs ih =>
    simp only [List.cons_append, specBytes, ih, List.length_cons]
    rw [show p + (xs.length + 1) = p + 1 + xs.length by omega]

theorem specBytes_congr (k : Key) {p q : Nat} (h : p % 4 = q % 4) (d : Bytes) :
    specBytes k p d = specBytes k q d := by
  induction d generalizing p q with
  | nil => rfl
  | cons b bs ih =>
    simp only [specBytes, h]
    rw [ih (p := p + 1) (q := q + 1) (by omega)]

theorem specBytes_shift4 (k : Key) (p : Nat) (d : Bytes) : specBytes k (p + 4) d = specBytes k p d :=
  specBytes_congr k (Nat.add_mod_right p 4) d

theorem simpleLoop_eq (k : Key) (p : Nat) (acc d : Bytes) :
    simpleLoop k p acc d = (acc.reverse ++ specBytes k p d, p + d.length) := by
  induction d generalizing p acc with
  | nil => simp [simpleLoop, specBytes]
  | cons b bs ih =>
    simp only [simpleLoop, ih, specBytes, and_three, List.reverse_cons, List.append_assoc,
      List.singleton_append, List.length_cons]
    congr 1
    omega

theorem shiftedLoop_eq (k : Key) (p i : Nat) (d : Bytes) :
    shiftedLoop k (p &&& 3) i d = specBytes k (p + i) d := by
  induction d generalizing i with
  | nil => rfl
  | cons b bs ih =>
    simp only [shiftedLoop, specBytes, mskarray]
    rw [ih (i + 1), show p + (i + 1) = p + i + 1 by omega]
    congr 2
    simp only [and_three]
    apply Key.get_congr
    omega

theorem zipPattern (k : Key) (p s n : Nat) (blk : Bytes) (h : blk.length ≤ n) :
    List.zipWith (· ^^^ ·) blk ((List.range' s n).map (fun i => k.get ((p + i) &&& 3)))
      = specBytes k (p + s) blk := by
  induction n generalizing s blk with
  | zero =>
    have : blk = [] := List.eq_nil_of_length_eq_zero (by omega)
    subst this; rfl
  | succ n ih =>
    cases blk with
    | nil => rfl
    | cons b bs =>
      simp only [List.range'_succ, List.map_cons, List.zipWith_cons_cons, specBytes]
      rw [ih (s + 1) bs (by simpa using h), and_three, Key.get_mod]
      rfl

/-- one SSE2 block: XOR with the 16-byte pattern is the spec on up to 16 bytes -/
theorem xorBlock_eq (k : Key) (p : Nat) (blk : Bytes) (h : blk.length ≤ 16) :
    xorBlock blk (pattern16 k p) = specBytes k p blk := by
  unfold xorBlock pattern16
  rw [List.range_eq_range']
  simpa using zipPattern k p 0 16 blk h

theorem sse2Body_eq (k : Key) (p n : Nat) (d : Bytes) (h : 16 * n ≤ d.length) :
    sse2Body (pattern16 k p) n d = specBytes k p (d.take (16 * n)) := by
  induction n generalizing d with
  | zero => simp [sse2Body, specBytes]
  | succ n ih =>
    simp only [sse2Body]
    rw [xorBlock_eq k p _ (by simp; omega), ih (d.drop 16) (by simp; omega)]
    have h16 : (d.take 16).length = 16 := by simp; omega
    have : d.take (16 * (n + 1)) = d.take 16 ++ (d.drop 16).take (16 * n) := by
      rw [show 16 * (n + 1) = 16 + 16 * n by omega, List.take_add]
    rw [this, specBytes_append, h16]
    congr 1
    exact (specBytes_congr k (by omega) _)

/-- `XorMaskerSimple` and the native scalar loop are the spec. -/
theorem simple_eq_spec (k : Key) (p : Nat) (d : Bytes) : simple k p d = spec k p d := by
  simp [simple, spec, simpleLoop_eq]

/-- `XorMaskerShifted1` is the spec. -/
theorem shifted1_eq_spec (k : Key) (p : Nat) (d : Bytes) : shifted1 k p d = spec k p d := by
  simp only [shifted1, spec]
  rw [shiftedLoop_eq k p 0 d]; rfl

/-- the SIMD masker is the spec for every buffer alignment and every length:
the unaligned head, the aligned 16-byte blocks and the tail recombine to plain running XOR. -/
theorem sse2_eq_spec (k : Key) (p align : Nat) (d : Bytes) : sse2 k p align d = spec k p d := by
  unfold sse2
  simp only [simple_eq_spec, spec]
  generalize hH : (if d.length ≥ 16 then
      (if align % 16 ≠ 0 then (if 16 - align % 16 > d.length then d.length else 16 - align % 16) else 0)
    else 0) = H
  have hHle : H ≤ d.length := by
    subst hH; repeat' split
    all_goals omega
  have hlen1 : (d.take H).length = H := by simp; omega
  have hdrop : (d.drop H).length = d.length - H := by simp
  rw [hlen1]
  generalize hC : (d.drop H).length / 16 = C
  have hC16 : 16 * C ≤ (d.drop H).length := by subst hC; omega
  rw [sse2Body_eq k (p + H) C (d.drop H) hC16]
  have hlen2 : ((d.drop H).take (16 * C)).length = 16 * C := by simp; omega
  have e : d = d.take H ++ ((d.drop H).take (16 * C) ++ (d.drop H).drop (16 * C)) := by
    rw [List.take_append_drop, List.take_append_drop]
  have hmul : C * 16 = 16 * C := by omega
  rw [hmul]
  congr 1
  · conv => rhs; rw [e]
    rw [specBytes_append, specBytes_append, hlen1, hlen2, List.append_assoc]
  · simp; omega

/-- the pure-Python factory: whichever implementation the length threshold selects, the
behaviour is the spec. -/
theorem factory_irrelevant (len : Option Nat) (k : Key) (p : Nat) (d : Bytes) :
    process (create len) k p d = spec k p d := by
  cases h : create len <;> simp [process, simple_eq_spec, shifted1_eq_spec]

/-- the three maskers agree on every call: same key, same offset, same payload, any buffer alignment -/
theorem implementations_agree (k : Key) (p align : Nat) (d : Bytes) :
    simple k p d = shifted1 k p d ∧ simple k p d = sse2 k p align d := by
  simp [simple_eq_spec, shifted1_eq_spec, sse2_eq_spec]

/-- the reported offset equals the number of bytes processed -/
theorem pointer_counts (k : Key) (p : Nat) (d : Bytes) : (spec k p d).2 = p + d.length := rfl

theorem xor_cancel (b x : UInt8) : b ^^^ x ^^^ x = b := by
  rw [UInt8.xor_assoc, UInt8.xor_self, UInt8.xor_zero]

/-- applying the mask twice (from the same offset) restores the input -/
theorem involutive (k : Key) (p : Nat) (d : Bytes) : (spec k p (spec k p d).1).1 = d := by
  simp only [spec]
  induction d generalizing p with
  | nil => rfl
  | cons b bs ih => simp [specBytes, xor_cancel, ih]

/-- any split into two chunks gives the same bytes and offset as one call -/
theorem process_append (k : Key) (p : Nat) (a b : Bytes) :
    (spec k p (a ++ b)).1 = (spec k p a).1 ++ (spec k (spec k p a).2 b).1
    ∧ (spec k p (a ++ b)).2 = (spec k (spec k p a).2 b).2 := by
  simp only [spec, specBytes_append, List.length_append]
  exact ⟨trivial, by omega⟩

/-- every chunking of a payload through one masker object yields the spec of the whole payload -/
theorem chunking_irrelevant (k : Key) (p : Nat) (cs : List Bytes) :
    ((processAll spec k p cs).1.flatten, (processAll spec k p cs).2) = spec k p cs.flatten := by
  induction cs generalizing p with
  | nil => simp [processAll, spec, specBytes]
  | cons c cs ih =>
    have := ih (p + c.length)
    simp only [processAll, spec, List.flatten_cons, specBytes_append, List.length_append] at this ⊢
    rw [Prod.mk.injEq] at this ⊢
    exact ⟨by rw [this.1], by rw [this.2]; omega⟩

/-- the key really is the one selected by the running offset modulo 4 (reads off the spec) -/
theorem spec_getElem (k : Key) (p : Nat) (d : Bytes) (i : Nat) (h : i < d.length) :
    (spec k p d).1[i]'(by simp [spec, specBytes_length]; exact h) = d[i] ^^^ k.get ((p + i) % 4) := by
  simp only [spec]
  induction d generalizing p i with
  | nil => simp at h
  | cons b bs ih =>
    cases i with
    | zero => simp [specBytes]
    | succ i =>
      simp only [specBytes, List.getElem_cons_succ]
      rw [ih (p + 1) i (by simpa using h)]
      congr 3; omega

theorem processAll_congr (f g : Key → Nat → Bytes → Bytes × Nat) (h : ∀ k p d, f k p d = g k p d) (k : Key) :
    ∀ (cs : List Bytes) (p : Nat), processAll f k p cs = processAll g k p cs := by
  intro cs
  induction cs with
  | nil => intro p; rfl
  | cons c cs ih => intro p; simp only [processAll, h, ih]

/-- a masker that is the spec has the spec's laws: pointer, involution, any chunking -/
theorem laws_of_eq_spec (f : Key → Nat → Bytes → Bytes × Nat) (h : ∀ k p d, f k p d = spec k p d)
    (k : Key) (p : Nat) (d : Bytes) (cs : List Bytes) :
    (f k p d).2 = p + d.length ∧ (f k p (f k p d).1).1 = d ∧
    ((processAll f k p cs).1.flatten, (processAll f k p cs).2) = f k p cs.flatten :=
  ⟨by rw [h]; rfl, by rw [h, h]; exact involutive k p d,
   by rw [processAll_congr f spec h, h]; exact chunking_irrelevant k p cs⟩

/-- `XorMaskerSimple`: pointer, involution, any chunking -/
theorem simple_laws (k : Key) (p : Nat) (d : Bytes) (cs : List Bytes) :
    (simple k p d).2 = p + d.length ∧ (simple k p (simple k p d).1).1 = d ∧
    ((processAll simple k p cs).1.flatten, (processAll simple k p cs).2) = simple k p cs.flatten :=
  laws_of_eq_spec simple simple_eq_spec k p d cs

/-- `XorMaskerShifted1`: pointer, involution, any chunking -/
theorem shifted1_laws (k : Key) (p : Nat) (d : Bytes) (cs : List Bytes) :
    (shifted1 k p d).2 = p + d.length ∧ (shifted1 k p (shifted1 k p d).1).1 = d ∧
    ((processAll shifted1 k p cs).1.flatten, (processAll shifted1 k p cs).2) = shifted1 k p cs.flatten :=
  laws_of_eq_spec shifted1 shifted1_eq_spec k p d cs

/-- the NVX SSE2 masker, with a DIFFERENT buffer alignment for every chunk (the `List Nat`; missing entries read as 0) -/
def processAllSse2 (k : Key) : Nat → List Nat → List Bytes → List Bytes × Nat
  | p, _, [] => ([], p)
  | p, as, c :: cs =>
    let r := sse2 k p (as.headD 0) c
    let rs := processAllSse2 k r.2 as.tail cs
    (r.1 :: rs.1, rs.2)

theorem sse2_laws (k : Key) (p align align2 : Nat) (d : Bytes) :
    (sse2 k p align d).2 = p + d.length ∧ (sse2 k p align2 (sse2 k p align d).1).1 = d := by
  refine ⟨by rw [sse2_eq_spec]; rfl, by rw [sse2_eq_spec, sse2_eq_spec]; exact involutive k p d⟩

/-- chunk by chunk the SSE2 masker is the spec, wherever each chunk sits -/
theorem processAllSse2_eq (k : Key) : ∀ (cs : List Bytes) (p : Nat) (as : List Nat),
    processAllSse2 k p as cs = processAll spec k p cs := by
  intro cs
  induction cs with
  | nil => intro p as; rfl
  | cons c cs ih => intro p as; simp only [processAllSse2, processAll, sse2_eq_spec, ih]

theorem sse2_chunking_irrelevant (k : Key) (cs : List Bytes) :
    ∀ (p : Nat) (as : List Nat) (align : Nat),
      ((processAllSse2 k p as cs).1.flatten, (processAllSse2 k p as cs).2) = sse2 k p align cs.flatten := by
  intro p as align
  rw [processAllSse2_eq, sse2_eq_spec]
  exact chunking_irrelevant k p cs

/-! non-vacuity: concrete instances -/
example : sse2 ⟨1, 2, 3, 4⟩ 1 5 ((List.range 40).map UInt8.ofNat)
    = spec ⟨1, 2, 3, 4⟩ 1 ((List.range 40).map UInt8.ofNat) := rfl
example : (spec ⟨1, 2, 3, 4⟩ 2 [0x10, 0x20, 0x30]).1 = [0x13, 0x24, 0x31] := rfl

end Abverif.Xor

import Abverif.Proofs.Lemmas.WsOps
import Abverif.Proofs.Lemmas.WsStep
/-
# C05: no data frame follows the close frame — for every history

`no_data_frame_after_close`: in every state reachable from a fresh connection by any sequence of API calls, reads,
clock advances and transport loss, the frames handed to the transport (history variable `sentOps`, in order) contain
no data frame (opcode 0, 1, 2) behind a close frame (opcode 8); and once a close frame has been sent the connection is
CLOSING or CLOSED.  (That queued synchronous writes keep this order on the wire is C01 `queue_order`.)
-/
namespace Abverif.Ws

/-- the opcode the streaming API will use for the first frame is a data opcode -/
def OpOk (s : S) : Prop := s.sendOpcode = 1 ∨ s.sendOpcode = 2

def NoDataAfterClose (l : List Nat) : Prop :=
  ∀ pre post, l = pre ++ 8 :: post → ∀ x ∈ post, x ≠ 0 ∧ x ≠ 1 ∧ x ≠ 2

/-- what every reachable state satisfies -/
structure Q (s : S) : Prop where
  op : OpOk s
  closing : 8 ∈ s.sentOps → 2 ≤ s.st.rank
  order : NoDataAfterClose s.sentOps

/-- data-API calls: nothing unless OPEN; what they send are data frames (never a close frame) -/
def DataRel (a b : S) : Prop :=
  b.st = a.st ∧ (OpOk a → OpOk b) ∧ ∃ d, b.sentOps = a.sentOps ++ d ∧ (a.st ≠ .opened → d = []) ∧ (OpOk a → 8 ∉ d)

theorem suffix_of_append {l1 d pre post : List Nat} (h : l1 ++ d = pre ++ 8 :: post) (h8 : 8 ∉ l1) :
    ∀ x ∈ post, x ∈ d := by
  rcases List.append_eq_append_iff.mp h with ⟨a', e1, e2⟩ | ⟨c', e1, e2⟩
  · -- pre = l1 ++ a', d = a' ++ 8 :: post
    intro x hx; rw [e2]; simp [hx]
  · -- l1 = pre ++ c', 8 :: post = c' ++ d
    cases c' with
    | nil =>
      simp at e2
      intro x hx; rw [← e2]; simp [hx]
    | cons y ys =>
      simp at e2
      exfalso; apply h8; rw [e1, ← e2.1]; simp

theorem Q.of_OpsRel {a b : S} (hq : Q a) (h : OpsRel a b) : Q b := by
  obtain ⟨r, ho, d, e, z, k, c⟩ := h
  refine ⟨?_, ?_, ?_⟩
  · unfold OpOk; rw [ho]; exact hq.op
  · intro h8
    rw [e] at h8
    rcases List.mem_append.mp h8 with h1 | h1
    · exact Nat.le_trans (hq.closing h1) r
    · exact c h1
  · intro pre post hl x hx
    by_cases hr : 2 ≤ a.st.rank
    · rw [e, z hr, List.append_nil] at hl
      exact hq.order pre post hl x hx
    · have h8 : 8 ∉ a.sentOps := fun h => hr (hq.closing h)
      rw [e] at hl
      have hxd := suffix_of_append hl h8 x hx
      rcases k x hxd with h | h | h <;> omega

theorem Q.of_DataRel {a b : S} (hq : Q a) (h : DataRel a b) : Q b := by
  obtain ⟨hs, ho, d, e, z, n8⟩ := h
  by_cases hop : a.st = .opened
  · have h8a : 8 ∉ a.sentOps := by
      intro h; have := hq.closing h; rw [hop] at this; simp [St.rank] at this
    have h8b : 8 ∉ b.sentOps := by
      rw [e]; intro h
      rcases List.mem_append.mp h with h1 | h1
      · exact h8a h1
      · exact n8 hq.op h1
    refine ⟨ho hq.op, fun h => absurd h h8b, ?_⟩
    intro pre post hl
    exfalso; apply h8b; rw [hl]; simp
  · have hd := z hop
    rw [hd, List.append_nil] at e
    refine ⟨ho hq.op, fun h => by rw [hs]; rw [e] at h; exact hq.closing h, by rw [e]; exact hq.order⟩

def DataOps (a b : S) : Prop :=
  b.st = a.st ∧ b.sendOpcode = a.sendOpcode ∧ ∃ d, b.sentOps = a.sentOps ++ d ∧ ∀ x ∈ d, x = 0 ∨ x = 1 ∨ x = 2

/-- an API function guarded by `state == OPEN` -/
theorem DataRel.guarded {a b : S} (hc : a.st ≠ .opened → DataOps a b ∧ b.sentOps = a.sentOps)
    (ho : a.st = .opened → DataOps a b) : DataRel a b := by
  by_cases h : a.st = .opened
  · obtain ⟨s1, o1, d, e, k⟩ := ho h
    refine ⟨s1, fun x => by unfold OpOk at *; rw [o1]; exact x, d, e, fun hn => absurd h hn, ?_⟩
    intro _ h8; rcases k 8 h8 with h | h | h <;> omega
  · obtain ⟨⟨s1, o1, _⟩, hs⟩ := hc h
    exact ⟨s1, fun x => by unfold OpOk at *; rw [o1]; exact x, [], by simp [hs], fun _ => rfl, fun _ => by simp⟩

/-- the data-sending API: what it records are data opcodes as long as the streaming opcode is one (`DataStep`), and
nothing unless OPEN (`stepCore_notOpen`) -/
theorem stepCore_DataRel (s : S) (op : Op) (h : op.isData = true) : DataRel s (stepCore s op) := by
  have hd := stepCore_DataStep s op h
  have e := hd.eq
  obtain ⟨d, f, k⟩ := hd.ops
  refine ⟨e.st, fun ok => ?_, d, f, fun hst => ?_, fun ok h8 => ?_⟩
  · unfold OpOk at *
    rcases hd.opcode with h | h | h
    · rw [h]; exact ok
    · exact Or.inl h
    · exact Or.inr h
  · obtain ⟨l, _, e'⟩ := stepCore_notOpen s op h hst
    rw [e'] at f
    exact List.self_eq_append_right.mp f
  · unfold OpOk at ok
    have := k 8 h8
    omega

theorem step_Q (s : S) (op : Op) (hq : Q s) : Q (step s op) :=
  OpsRel.walk.inv_step (fun r q => q.of_OpsRel r) s op (fun hd q => q.of_DataRel (stepCore_DataRel s op hd))
    (fun _ q => q.of_OpsRel (connectionLost_Ops s)) (fun c r _ => sendClose_Ops s c r) hq

theorem run_Q (ops : List Op) (s : S) (h : Q s) : Q (run s ops) :=
  run_induction (ok := fun _ => True) (fun s op _ => step_Q s op) ops (fun _ _ => trivial) s h

theorem start_Q (cfg : Cfg) : Q (start cfg) := by
  obtain ⟨t, q, e, _⟩ := start_eq cfg
  rw [e]
  exact ⟨Or.inl rfl, fun h => (by cases h), fun pre post h => (by cases pre <;> cases h)⟩

theorem startConnecting_Q (cfg : Cfg) : Q (startConnecting cfg) := by
  obtain ⟨t, q, e⟩ := startConnecting_eq cfg
  rw [e]
  exact ⟨Or.inl rfl, fun h => (by cases h), fun pre post h => (by cases pre <;> cases h)⟩

/-- no data frame follows the close frame — every configuration, every history -/
theorem no_data_frame_after_close (cfg : Cfg) (ops : List Op) (pre post : List Nat)
    (h : (run (start cfg) ops).sentOps = pre ++ 8 :: post) :
    (∀ x ∈ post, x ≠ 0 ∧ x ≠ 1 ∧ x ≠ 2) ∧ 2 ≤ (run (start cfg) ops).st.rank := by
  have hq := run_Q ops (start cfg) (start_Q cfg)
  exact ⟨hq.order pre post h, hq.closing (by rw [h]; simp)⟩

/-- the same from a connection that is still in its opening handshake -/
theorem no_data_frame_after_close_connecting (cfg : Cfg) (ops : List Op) (pre post : List Nat)
    (h : (run (startConnecting cfg) ops).sentOps = pre ++ 8 :: post) :
    (∀ x ∈ post, x ≠ 0 ∧ x ≠ 1 ∧ x ≠ 2) ∧ 2 ≤ (run (startConnecting cfg) ops).st.rank := by
  have hq := run_Q ops (startConnecting cfg) (startConnecting_Q cfg)
  exact ⟨hq.order pre post h, hq.closing (by rw [h]; simp)⟩

/-- the statement is about something: a history that sends a message, then closes, then tries to send again -/
example : (run (start {}) [.sendMessage [1, 2] true none false, .close (some 1000) none,
    .sendMessage [3] true none false]).sentOps = [2, 8] := by decide

end Abverif.Ws

import Abverif.Proofs.Lemmas.C19Prims
import Abverif.Proofs.Lemmas.Utf8Scalars
/-
C19 — Authentication signatures interoperate and mutual authentication is enforced.

What is proved here is the ALGEBRAIC layer, for all inputs: the XOR laws, the SCRAM exchange over
arbitrary hash/HMAC functions, the auth-message format and its injectivity, the server-signature
check of `on_welcome` (including base64 decoding as CPython does it), rejection of every single-bit
alteration, RFC 4226 truncation and the ±1 window of `check_totp`, the shape of WAMP-CRA signatures,
the data a cryptosign client signs and that a verifier with a correct signature scheme accepts it.

What is NOT proved: that the Lean reference SHA-1/SHA-256/HMAC/PBKDF2 equal OpenSSL's (they are
kernel-evaluated on the RFC vectors in Model/Crypto/Vectors/*.lean and compared differentially with the
real functions and with hashlib by harness/c19.py), any cryptographic hardness, Ed25519, Argon2id.
-/
namespace Abverif.Auth
open Abverif.Crypto

theorem xor_ok {a b : Bytes} (h : a.length = b.length) : xor a b = .ok (xorBytes a b) := by
  simp [xor, h]

/-- differing lengths raise (never a truncated result) -/
theorem xor_error {a b : Bytes} (h : a.length ≠ b.length) : xor a b = .error .exception := by
  simp [xor, h]

theorem xor_ok_iff {a b c : Bytes} : xor a b = .ok c ↔ a.length = b.length ∧ c = xorBytes a b := by
  by_cases h : a.length = b.length
  · rw [xor_ok h]
    exact ⟨fun e => ⟨h, (Except.ok.inj e).symm⟩, fun e => e.2 ▸ rfl⟩
  · rw [xor_error h]
    exact ⟨nofun, fun e => absurd e.1 h⟩

theorem xor_length {a b c : Bytes} (h : xor a b = .ok c) : c.length = a.length ∧ c.length = b.length := by
  obtain ⟨hl, rfl⟩ := xor_ok_iff.mp h
  simp [xorBytes_length, hl]

theorem xor_comm (a b : Bytes) : xor a b = xor b a := by
  unfold xor
  by_cases h : a.length = b.length
  · simp [h, xorBytes_comm a b]
  · have h' : ¬ b.length = a.length := fun e => h e.symm
    simp [h, h']

theorem xor_involution {a b c : Bytes} (h : xor a b = .ok c) : xor c b = .ok a := by
  obtain ⟨hl, rfl⟩ := xor_ok_iff.mp h
  rw [xor_ok (by rw [xorBytes_length_eq hl, hl]), xorBytes_cancel_right (by omega)]

theorem xor_cancel {a b p c d : Bytes} (ha : xor a p = .ok c) (hb : xor b p = .ok d) : c = d ↔ a = b := by
  obtain ⟨hla, rfl⟩ := xor_ok_iff.mp ha
  obtain ⟨hlb, rfl⟩ := xor_ok_iff.mp hb
  constructor
  · exact xorBytes_left_inj (by omega) (by omega)
  · rintro rfl; rfl

theorem xor_cancel_pad {a p q c d : Bytes} (hp : xor a p = .ok c) (hq : xor a q = .ok d) : c = d ↔ p = q := by
  rw [xor_comm] at hp hq
  exact xor_cancel hp hq

/-! Decimal digits: `str(n)` (`decimal`, in the SCRAM auth message) and the six-digit TOTP token, read back as numbers -/
section Decimal

def Totp.digitsValue (s : Bytes) : Nat := s.foldl (fun acc d => acc * 10 + (d.toNat - 48)) 0

def digitsFrom (init : Nat) (s : Bytes) : Nat := s.foldl (fun acc d => acc * 10 + (d.toNat - 48)) init

theorem Totp.digitsValue_eq (s : Bytes) : Totp.digitsValue s = digitsFrom 0 s := rfl

theorem digit_toNat (n : Nat) : (UInt8.ofNat (48 + n % 10)).toNat = 48 + n % 10 := by
  rw [UInt8.toNat_ofNat']; omega

theorem digit_range (n : Nat) :
    48 ≤ (UInt8.ofNat (48 + n % 10)).toNat ∧ (UInt8.ofNat (48 + n % 10)).toNat ≤ 57 := by
  rw [digit_toNat]; omega

/-- Horner step: the last digit of `n` read after the digits of `n / 10` gives `n` -/
theorem digitsFrom_digit_cons (n : Nat) (acc : Bytes) :
    digitsFrom (n / 10) (UInt8.ofNat (48 + n % 10) :: acc) = digitsFrom n acc := by
  simp only [digitsFrom, List.foldl_cons, digit_toNat, Nat.add_sub_cancel_left, Nat.div_add_mod']

theorem decimalAux_digits : ∀ (fuel n : Nat) (acc : Bytes), (∀ b ∈ acc, 48 ≤ b.toNat ∧ b.toNat ≤ 57) →
    ∀ b ∈ decimalAux fuel n acc, 48 ≤ b.toNat ∧ b.toNat ≤ 57
  | 0, _, _, h => h
  | fuel + 1, n, acc, h => by
    have hd : ∀ b ∈ UInt8.ofNat (48 + n % 10) :: acc, 48 ≤ b.toNat ∧ b.toNat ≤ 57 :=
      List.forall_mem_cons.mpr ⟨digit_range n, h⟩
    rw [decimalAux]
    split
    · exact hd
    · exact decimalAux_digits fuel (n / 10) _ hd

theorem decimal_digits (n : Nat) : ∀ b ∈ decimal n, 48 ≤ b.toNat ∧ b.toNat ≤ 57 :=
  decimalAux_digits _ _ _ nofun

theorem decimal_ascii (n : Nat) : ∀ b ∈ decimal n, b < 128 :=
  fun b hb => Nat.lt_of_le_of_lt (decimal_digits n b hb).2 (by decide)

theorem digitsFrom_decimalAux : ∀ (fuel n : Nat) (acc : Bytes), n < fuel →
    digitsFrom 0 (decimalAux fuel n acc) = digitsFrom n acc
  | 0, _, _, h => nomatch h
  | fuel + 1, n, acc, h => by
    rw [decimalAux]
    split
    · rename_i h0
      rw [← h0, digitsFrom_digit_cons]
    · rw [digitsFrom_decimalAux fuel (n / 10) _ (by omega), digitsFrom_digit_cons]

theorem digitsFrom_decimal (n : Nat) : digitsFrom 0 (decimal n) = n :=
  digitsFrom_decimalAux _ _ _ (Nat.lt_succ_self n)

theorem decimal_injective {m n : Nat} (h : decimal m = decimal n) : m = n := by
  rw [← digitsFrom_decimal m, ← digitsFrom_decimal n, h]

end Decimal

namespace Scram

/-- all HMAC outputs have the same length `n` (true of every real HMAC) -/
def Prims.FixedLen (P : Prims) (n : Nat) : Prop := ∀ k m, (P.hmac k m).length = n

theorem sha256Prims_fixedLen : sha256Prims.FixedLen 32 := Hmac.sha256_length

/-- with equal-length HMAC outputs `xor_array` cannot raise: the proof is ClientKey ⊕ ClientSignature -/
theorem client_proof_ok {P : Prims} {n : Nat} (hP : P.FixedLen n) (sp am : Bytes) :
    clientProof P sp am = .ok (xorBytes (clientKey P sp) (clientSignature P sp am)) := by
  unfold clientProof
  exact xor_ok (by rw [clientKey, clientSignature, hP, hP])

/-- RFC 5802 §3: XORing the proof with the client signature the server recomputes from StoredKey
gives back ClientKey — for ANY hash and HMAC functions. -/
theorem scram_recovers_client_key (P : Prims) (sp am proof : Bytes) (h : clientProof P sp am = .ok proof) :
    xorBytes proof (P.hmac (P.hash (clientKey P sp)) am) = clientKey P sp := by
  obtain ⟨hl, rfl⟩ := xor_ok_iff.mp h
  exact xorBytes_cancel_right (by rw [hl]; exact Nat.le_refl _)

/-- `H(proof ⊕ HMAC(H ck, am)) = H ck` for the proof the client computes,
for ANY hash/HMAC functions: a server holding StoredKey = H(ClientKey) accepts. -/
theorem scram_server_accepts (P : Prims) (sp am proof : Bytes) (h : clientProof P sp am = .ok proof) :
    P.hash (xorBytes proof (P.hmac (P.hash (clientKey P sp)) am)) = P.hash (clientKey P sp) := by
  rw [scram_recovers_client_key P sp am proof h]

theorem scram_server_verify (P : Prims) (sp am proof : Bytes) (h : clientProof P sp am = .ok proof) :
    serverVerify P (storedKey P sp) am proof = true := by
  simp only [serverVerify, storedKey]
  exact decide_eq_true (scram_server_accepts P sp am proof h)

/-- any other proof of the same length makes the server recover a key different from ClientKey:
acceptance of a wrong proof would need a collision of `H`. -/
theorem scram_wrong_proof_wrong_key (P : Prims) (sp am proof proof' : Bytes)
    (h : clientProof P sp am = .ok proof) (hlen : proof'.length = proof.length) (hne : proof' ≠ proof) :
    xorBytes proof' (P.hmac (P.hash (clientKey P sp)) am) ≠ clientKey P sp := by
  intro hc
  have hc : xorBytes proof' (clientSignature P sp am) = clientKey P sp := hc
  obtain ⟨hl, rfl⟩ := xor_ok_iff.mp h
  rw [xorBytes_length_eq hl] at hlen
  refine hne (xorBytes_left_inj (c := clientSignature P sp am) (by omega) (by rw [xorBytes_length_eq hl]; omega) ?_)
  rw [hc]
  exact (xorBytes_cancel_right (by omega)).symm

theorem ascii_comma_r : ascii ",r=" = comma :: ascii "r=" := by decide
theorem ascii_comma_s : ascii ",s=" = comma :: ascii "s=" := by decide
theorem ascii_comma_i : ascii ",i=" = comma :: ascii "i=" := by decide
theorem ascii_comma_c : ascii ",c=" = comma :: ascii "c=" := by decide

/-- the auth message as seven `key=value` fields with a comma between them -/
theorem authMessageText_fields (authid clientNonce : Bytes) (ch : Challenge) :
    authMessageText authid clientNonce ch
      = (ascii "n=" ++ authid) ++ comma :: ((ascii "r=" ++ clientNonce) ++ comma :: ((ascii "r=" ++ ch.serverNonce)
        ++ comma :: ((ascii "s=" ++ ch.salt) ++ comma :: ((ascii "i=" ++ decimal ch.iterations)
        ++ comma :: ((ascii "c=" ++ ch.channelBinding) ++ comma :: (ascii "r=" ++ ch.serverNonce)))))) := by
  simp only [authMessageText, clientFirstBare, serverFirst, clientFinalNoProof, ascii_comma_r, ascii_comma_s,
    ascii_comma_i, List.append_assoc, List.cons_append]

/-- the exact concatenation `n=…,r=…,r=…,s=…,i=…,c=…,r=…` -/
theorem auth_message_format (authid clientNonce : Bytes) (ch : Challenge) :
    authMessageText authid clientNonce ch
      = ascii "n=" ++ authid ++ ascii ",r=" ++ clientNonce ++ ascii ",r=" ++ ch.serverNonce
        ++ ascii ",s=" ++ ch.salt ++ ascii ",i=" ++ decimal ch.iterations
        ++ ascii ",c=" ++ ch.channelBinding ++ ascii ",r=" ++ ch.serverNonce := by
  simp only [authMessageText_fields, ascii_comma_r, ascii_comma_s, ascii_comma_i, ascii_comma_c,
    List.append_assoc, List.cons_append]

/-- every code point of the text is a Unicode scalar value (no lone surrogate) -/
def Scalar (t : Text) : Prop := ∀ c ∈ t, Utf8.isScalar c = true

instance (t : Text) : Decidable (Scalar t) := by unfold Scalar; infer_instance

theorem encodeUtf8_eq (t : Text) :
    encodeUtf8 t = if Scalar t then .ok (Utf8.encodeAll t) else .error .unicodeEncodeError := by
  simp only [encodeUtf8, Scalar, List.all_eq_true]

/-- `.encode("utf8")` succeeds exactly on texts without lone surrogates and then is the RFC 3629 encoding,
code point by code point -/
theorem encodeUtf8_ok_iff {t : Text} {z : Bytes} :
    encodeUtf8 t = .ok z ↔ Scalar t ∧ z = Utf8.encodeAll t := by
  rw [encodeUtf8_eq]
  split
  · next h => exact ⟨fun e => ⟨h, (Except.ok.inj e).symm⟩, fun e => e.2 ▸ rfl⟩
  · next h => exact ⟨nofun, fun e => absurd e.1 h⟩

/-- the only way `.encode("utf8")` fails: `UnicodeEncodeError` on a lone surrogate -/
theorem encodeUtf8_error_iff {t : Text} {e : Err} :
    encodeUtf8 t = .error e ↔ e = .unicodeEncodeError ∧ ¬ Scalar t := by
  rw [encodeUtf8_eq]
  split
  · next h => exact ⟨nofun, fun e => absurd h e.2⟩
  · next h => exact ⟨fun e => ⟨(Except.error.inj e).symm, h⟩, fun e => e.1 ▸ rfl⟩

theorem encodeUtf8_scalar {t : Text} (h : Scalar t) : encodeUtf8 t = .ok (Utf8.encodeAll t) :=
  encodeUtf8_ok_iff.mpr ⟨h, rfl⟩

theorem scalar_append {a b : Text} : Scalar (a ++ b) ↔ Scalar a ∧ Scalar b := List.forall_mem_append

/-- ASCII text is encoded as itself: one octet per character, the same octet `.encode("ascii")` gave -/
theorem ofOctets_ascii : ∀ {bs : Bytes}, (∀ b ∈ bs, b < 128) →
    Scalar (Text.ofOctets bs) ∧ Utf8.encodeAll (Text.ofOctets bs) = bs
  | [], _ => ⟨nofun, rfl⟩
  | b :: bs, h => by
    obtain ⟨hb, hbs⟩ := List.forall_mem_cons.mp h
    have hb : b.toNat < 128 := hb
    obtain ⟨ih1, ih2⟩ := ofOctets_ascii hbs
    have e : Utf8.encode b.toNat = [b] := by rw [Utf8.encode1 _ hb, UInt8.ofNat_toNat]
    refine ⟨List.forall_mem_cons.mpr ⟨(Utf8.isScalar_iff b.toNat).mpr (by omega), ih1⟩, ?_⟩
    rw [Text.ofOctets, List.map_cons, Utf8.encodeAll_cons, e, ← Text.ofOctets, ih2]
    rfl

/-- the `str` of the auth message and its encoding, field by field: the literals and the decimal iteration count
are ASCII, so lone surrogates can only sit in the five fields, and the octets are the exact concatenation
`n=…,r=…,r=…,s=…,i=…,c=…,r=…` of the UTF-8 encodings of the fields — RFC 5802 §5.1 / §3 `AuthMessage` -/
theorem authMessageStr_spec (authid cn : Text) (ch : ChallengeStr) :
    (Scalar (authMessageStr authid cn ch)
      ↔ Scalar authid ∧ Scalar cn ∧ Scalar ch.serverNonce ∧ Scalar ch.salt ∧ Scalar ch.channelBinding)
    ∧ Utf8.encodeAll (authMessageStr authid cn ch)
      = authMessageText (Utf8.encodeAll authid) (Utf8.encodeAll cn)
          ⟨Utf8.encodeAll ch.serverNonce, Utf8.encodeAll ch.salt, ch.iterations, Utf8.encodeAll ch.channelBinding⟩ := by
  have l1 := ofOctets_ascii (bs := ascii "n=") (by decide)
  have l2 := ofOctets_ascii (bs := ascii ",r=") (by decide)
  have l3 := ofOctets_ascii (bs := ascii ",s=") (by decide)
  have l4 := ofOctets_ascii (bs := ascii ",i=") (by decide)
  have l5 := ofOctets_ascii (bs := ascii ",c=") (by decide)
  have l6 := ofOctets_ascii (decimal_ascii ch.iterations)
  unfold authMessageStr Text.lit
  constructor
  · simp only [scalar_append, l1.1, l2.1, l3.1, l4.1, l5.1, l6.1, true_and, and_true, and_assoc]
    exact ⟨fun ⟨ha, hc, hsn, hs, hcb, _⟩ => ⟨ha, hc, hsn, hs, hcb⟩,
      fun ⟨ha, hc, hsn, hs, hcb⟩ => ⟨ha, hc, hsn, hs, hcb, hsn⟩⟩
  · rw [auth_message_format]
    simp only [Utf8.encodeAll_append, l1.2, l2.2, l3.2, l4.2, l5.2, l6.2]

/-- `on_challenge` gets an auth message exactly when no field holds a lone surrogate
(the one thing `.encode("utf8")` refuses); a non-ASCII authid, nonce, salt or binding is no obstacle -/
theorem auth_message_ok_iff (authid cn : Text) (ch : ChallengeStr) (am : Bytes) :
    authMessage authid cn ch = .ok am
      ↔ (Scalar authid ∧ Scalar cn ∧ Scalar ch.serverNonce ∧ Scalar ch.salt ∧ Scalar ch.channelBinding)
        ∧ am = authMessageText (Utf8.encodeAll authid) (Utf8.encodeAll cn)
            ⟨Utf8.encodeAll ch.serverNonce, Utf8.encodeAll ch.salt, ch.iterations, Utf8.encodeAll ch.channelBinding⟩ := by
  rw [authMessage, encodeUtf8_ok_iff, (authMessageStr_spec authid cn ch).1, (authMessageStr_spec authid cn ch).2]

theorem auth_message_utf8 (authid cn : Text) (ch : ChallengeStr)
    (ha : Scalar authid) (hc : Scalar cn) (hsn : Scalar ch.serverNonce) (hs : Scalar ch.salt)
    (hcb : Scalar ch.channelBinding) :
    authMessage authid cn ch = .ok (authMessageText (Utf8.encodeAll authid) (Utf8.encodeAll cn)
      ⟨Utf8.encodeAll ch.serverNonce, Utf8.encodeAll ch.salt, ch.iterations, Utf8.encodeAll ch.channelBinding⟩) :=
  (auth_message_ok_iff authid cn ch _).mpr ⟨⟨ha, hc, hsn, hs, hcb⟩, rfl⟩

/-- the only failure is `UnicodeEncodeError`, and only for a lone surrogate in some field -/
theorem auth_message_error_iff (authid cn : Text) (ch : ChallengeStr) (e : Err) :
    authMessage authid cn ch = .error e
      ↔ e = .unicodeEncodeError
        ∧ ¬ (Scalar authid ∧ Scalar cn ∧ Scalar ch.serverNonce ∧ Scalar ch.salt ∧ Scalar ch.channelBinding) := by
  rw [authMessage, encodeUtf8_error_iff, (authMessageStr_spec authid cn ch).1]

/-- for all-ASCII fields the octets are the characters themselves: what `.encode("ascii")` would produce -/
theorem auth_message_ascii (a cn sn s cb : Bytes) (it : Nat)
    (ha : ∀ b ∈ a, b < 128) (hc : ∀ b ∈ cn, b < 128) (hsn : ∀ b ∈ sn, b < 128) (hs : ∀ b ∈ s, b < 128)
    (hcb : ∀ b ∈ cb, b < 128) :
    authMessage (Text.ofOctets a) (Text.ofOctets cn) ⟨Text.ofOctets sn, Text.ofOctets s, it, Text.ofOctets cb⟩
      = .ok (authMessageText a cn ⟨sn, s, it, cb⟩) := by
  have h1 := ofOctets_ascii ha
  have h2 := ofOctets_ascii hc
  have h3 := ofOctets_ascii hsn
  have h4 := ofOctets_ascii hs
  have h5 := ofOctets_ascii hcb
  rw [auth_message_utf8 _ _ _ h1.1 h2.1 h3.1 h4.1 h5.1]
  simp only [h1.2, h2.2, h3.2, h4.2, h5.2]

theorem takeWhile_field {x : Bytes} (r : Bytes) (hx : comma ∉ x) : (x ++ comma :: r).takeWhile (· != comma) = x := by
  have hp : ∀ a ∈ x, (a != comma) = true := fun a ha => bne_iff_ne.mpr fun e => hx (e ▸ ha)
  rw [List.takeWhile_append_of_pos hp, List.takeWhile_cons_of_neg (by simp), List.append_nil]

theorem split_comma {x y r r' : Bytes} (hx : comma ∉ x) (hy : comma ∉ y)
    (h : x ++ comma :: r = y ++ comma :: r') : x = y ∧ r = r' := by
  have hxy := congrArg (List.takeWhile (· != comma)) h
  rw [takeWhile_field r hx, takeWhile_field r' hy] at hxy
  subst hxy
  exact ⟨rfl, (List.cons.inj (List.append_cancel_left h)).2⟩

theorem split_field {k x y r r' : Bytes} (hk : comma ∉ k) (hx : comma ∉ x) (hy : comma ∉ y)
    (h : (k ++ x) ++ comma :: r = (k ++ y) ++ comma :: r') : x = y ∧ r = r' := by
  obtain ⟨h1, h2⟩ := split_comma (by simp [hk, hx]) (by simp [hk, hy]) h
  exact ⟨List.append_cancel_left h1, h2⟩

theorem decimal_no_comma (n : Nat) : comma ∉ decimal n :=
  fun h => absurd (decimal_digits n _ h).1 (by decide)

/-- the fields of a challenge that enter the auth message contain no comma (base64 / saslprep'd
authid without comma — RFC 5802 would escape it as `=2C`; the code does not, see the harness) -/
structure CommaFree (authid cn : Bytes) (ch : Challenge) : Prop where
  authid : comma ∉ authid
  cn : comma ∉ cn
  sn : comma ∉ ch.serverNonce
  salt : comma ∉ ch.salt
  cb : comma ∉ ch.channelBinding

/-- for comma-free fields, equal auth messages mean equal authid, nonces,
salt, iteration count and channel binding — i.e. altering any of them alters the string both
signatures are computed over. -/
theorem auth_message_injective (a a' cn cn' : Bytes) (ch ch' : Challenge)
    (hf : CommaFree a cn ch) (hf' : CommaFree a' cn' ch')
    (h : authMessageText a cn ch = authMessageText a' cn' ch') :
    a = a' ∧ cn = cn' ∧ ch = ch' := by
  have n1 : comma ∉ ascii "n=" := by decide
  have n2 : comma ∉ ascii "r=" := by decide
  have n3 : comma ∉ ascii "s=" := by decide
  have n4 : comma ∉ ascii "i=" := by decide
  have n5 : comma ∉ ascii "c=" := by decide
  rw [authMessageText_fields, authMessageText_fields] at h
  obtain ⟨h1, h⟩ := split_field n1 hf.authid hf'.authid h
  obtain ⟨h2, h⟩ := split_field n2 hf.cn hf'.cn h
  obtain ⟨h3, h⟩ := split_field n2 hf.sn hf'.sn h
  obtain ⟨h4, h⟩ := split_field n3 hf.salt hf'.salt h
  obtain ⟨h5, h⟩ := split_field n4 (decimal_no_comma _) (decimal_no_comma _) h
  obtain ⟨h6, _⟩ := split_field n5 hf.cb hf'.cb h
  refine ⟨h1, h2, ?_⟩
  cases ch; cases ch'
  simp only at h3 h4 h5 h6
  rw [h3, h4, decimal_injective h5, h6]

/-! ### … also for the `str` fields: UTF-8 is injective and an ASCII octet is a character of its own -/

theorem comma_not_mem_encodeAll {t : Text} (hs : Scalar t) (hn : 44 ∉ t) : comma ∉ Utf8.encodeAll t :=
  fun hm => hn (Utf8.mem_of_ascii_mem_encodeAll hs (by decide) hm)

/-- the fields, as Python `str`, contain no U+002C (base64 text, a SASLprep'd authid without comma) -/
structure CommaFreeStr (authid cn : Text) (ch : ChallengeStr) : Prop where
  authid : 44 ∉ authid
  cn : 44 ∉ cn
  sn : 44 ∉ ch.serverNonce
  salt : 44 ∉ ch.salt
  cb : 44 ∉ ch.channelBinding

/-- the same statement for the `str` values the code handles — two exchanges
with the same auth message octets have the same authid, nonces, salt, iteration count and channel binding,
character by character, non-ASCII text included (UTF-8 is injective and never produces a comma octet inside
a multi-octet sequence) -/
theorem auth_message_injective_str (a a' cn cn' : Text) (ch ch' : ChallengeStr) (am : Bytes)
    (hf : CommaFreeStr a cn ch) (hf' : CommaFreeStr a' cn' ch')
    (h : authMessage a cn ch = .ok am) (h' : authMessage a' cn' ch' = .ok am) :
    a = a' ∧ cn = cn' ∧ ch = ch' := by
  obtain ⟨⟨s1, s2, s3, s4, s5⟩, e⟩ := (auth_message_ok_iff a cn ch am).mp h
  obtain ⟨⟨t1, t2, t3, t4, t5⟩, e'⟩ := (auth_message_ok_iff a' cn' ch' am).mp h'
  obtain ⟨h1, h2, h3⟩ := auth_message_injective _ _ _ _ _ _
    ⟨comma_not_mem_encodeAll s1 hf.authid, comma_not_mem_encodeAll s2 hf.cn, comma_not_mem_encodeAll s3 hf.sn,
      comma_not_mem_encodeAll s4 hf.salt, comma_not_mem_encodeAll s5 hf.cb⟩
    ⟨comma_not_mem_encodeAll t1 hf'.authid, comma_not_mem_encodeAll t2 hf'.cn, comma_not_mem_encodeAll t3 hf'.sn,
      comma_not_mem_encodeAll t4 hf'.salt, comma_not_mem_encodeAll t5 hf'.cb⟩ (e.symm.trans e')
  injection h3 with g1 g2 g3 g4
  refine ⟨Utf8.encodeAll_injective s1 t1 h1, Utf8.encodeAll_injective s2 t2 h2, ?_⟩
  cases ch; cases ch'
  simp only at s3 s4 s5 t3 t4 t5 g1 g2 g3 g4
  rw [Utf8.encodeAll_injective s3 t3 g1, Utf8.encodeAll_injective s4 t4 g2, g3, Utf8.encodeAll_injective s5 t5 g4]

/-- what `on_challenge` returns and keeps: the base64 of ClientKey ⊕ ClientSignature, the salted password and the
auth message; it fails only where the auth message or the XOR does -/
theorem on_challenge_ok_iff {P : Prims} {authid cn : Text} {ch : ChallengeStr} {sp : Bytes} {r : Bytes × Session} :
    onChallenge P authid cn ch sp = .ok r ↔
      ∃ am proof, authMessage authid cn ch = .ok am ∧ clientProof P sp am = .ok proof ∧
        r = (Base64.encode proof, ⟨sp, am⟩) := by
  unfold onChallenge
  cases authMessage authid cn ch with
  | error e => simp [bind, Except.bind]
  | ok am => cases hp : clientProof P sp am <;> simp [bind, Except.bind, pure, Except.pure, hp, eq_comm]

/-- `on_welcome` accepts iff the (leniently) base64-decoded alleged signature
equals `HMAC(HMAC(SaltedPassword, "Server Key"), AuthMessage)` — this is exactly what the code compares. -/
theorem scram_welcome_iff (P : Prims) (s : Session) (alleged : Bytes) :
    onWelcome P s alleged = .accept
      ↔ Base64.decodeStr alleged
          = .ok (P.hmac (P.hmac s.saltedPassword (ascii "Server Key")) s.authMessage) := by
  show _ ↔ _ = Base64.DecodeResult.ok (serverSignature P s.saltedPassword s.authMessage)
  unfold onWelcome
  cases Base64.decodeStr alleged with
  | valueError => simp
  | binasciiError => simp
  | ok sig => simp only [Base64.DecodeResult.ok.injEq, eq_comm (a := sig)]; split <;> simp [*]

/-- every outcome other than `accept` is a refusal: a decodable wrong signature is rejected with the
error string, an undecodable one raises — the session is never welcomed silently. -/
theorem scram_welcome_cases (P : Prims) (s : Session) (alleged : Bytes) :
    (onWelcome P s alleged = .accept ∧ Base64.decodeStr alleged = .ok (serverSignature P s.saltedPassword s.authMessage))
    ∨ (onWelcome P s alleged = .reject ∧ ∃ sig, Base64.decodeStr alleged = .ok sig ∧ sig ≠ serverSignature P s.saltedPassword s.authMessage)
    ∨ (∃ e, onWelcome P s alleged = .raised e ∧ ∀ sig, Base64.decodeStr alleged ≠ .ok sig) := by
  unfold onWelcome
  cases Base64.decodeStr alleged with
  | valueError => simp
  | binasciiError => simp
  | ok sig =>
    by_cases he : serverSignature P s.saltedPassword s.authMessage = sig
    · simp [he]
    · simp [he, Ne.symm he]

/-- of all canonically encoded octet strings exactly the server signature is accepted -/
theorem welcome_accepts_only_signature (P : Prims) (s : Session) (x : Bytes) :
    onWelcome P s (Base64.encode x) = .accept ↔ x = serverSignature P s.saltedPassword s.authMessage := by
  rw [scram_welcome_iff, Base64.decodeStr_encode]
  simp [serverSignature, serverKey]

/-- the exchange against an RFC 5802 server, for ANY primitives with fixed-length HMACs and ANY salted password
(however the KDF produced it): `on_challenge` answers for every text without lone surrogates, the server — holding
`StoredKey` and `ServerKey` derived from the same value and seeing the same auth message octets — accepts the decoded
proof, and `on_welcome` accepts that server's signature -/
theorem scram_interoperates {P : Prims} {n : Nat} (hP : P.FixedLen n) (authid cn : Text) (ch : ChallengeStr)
    (sp : Bytes) (ha : Scalar authid) (hc : Scalar cn) (hsn : Scalar ch.serverNonce) (hs : Scalar ch.salt)
    (hcb : Scalar ch.channelBinding) :
    ∃ out s proof, onChallenge P authid cn ch sp = .ok (out, s) ∧ authMessage authid cn ch = .ok s.authMessage
      ∧ Base64.decodeStr out = .ok proof ∧ serverVerify P (storedKey P sp) s.authMessage proof = true
      ∧ onWelcome P s (Base64.encode (serverSignature P sp s.authMessage)) = .accept :=
  have ham := auth_message_utf8 authid cn ch ha hc hsn hs hcb
  have hp := client_proof_ok hP sp _
  ⟨_, ⟨sp, _⟩, _, on_challenge_ok_iff.mpr ⟨_, _, ham, hp, rfl⟩, ham, Base64.decodeStr_encode _,
    scram_server_verify P sp _ _ hp, (welcome_accepts_only_signature P _ _).mpr rfl⟩

/-- with fixed-length HMACs (every real HMAC) `on_challenge` produces a proof for every
authid, nonce, salt and binding that are proper Unicode text — in particular for an authid that is still
non-ASCII after SASLprep (SASLprep itself prohibits surrogates, RFC 3454 C.5) -/
theorem on_challenge_total {P : Prims} {n : Nat} (hP : P.FixedLen n) (authid cn : Text) (ch : ChallengeStr)
    (sp : Bytes) (ha : Scalar authid) (hc : Scalar cn) (hsn : Scalar ch.serverNonce) (hs : Scalar ch.salt)
    (hcb : Scalar ch.channelBinding) :
    ∃ out s, onChallenge P authid cn ch sp = .ok (out, s) :=
  let ⟨out, s, _, h, _⟩ := scram_interoperates hP authid cn ch sp ha hc hsn hs hcb
  ⟨out, s, h⟩

theorem welcome_rejects_of_ne (P : Prims) (s : Session) {alleged sig : Bytes}
    (h : Base64.decodeStr alleged = .ok sig) (hne : sig ≠ serverSignature P s.saltedPassword s.authMessage) :
    onWelcome P s alleged = .reject := by
  rw [onWelcome, h]
  exact if_neg fun e => hne e.symm

/-- flip bit `i` (bit `i % 8` of octet `i / 8`) -/
def flipBit : Nat → Bytes → Bytes
  | _, [] => []
  | i, b :: bs => if i < 8 then (b ^^^ ((1 : UInt8) <<< UInt8.ofNat i)) :: bs else b :: flipBit (i - 8) bs

theorem flipBit_length : ∀ (i : Nat) (bs : Bytes), (flipBit i bs).length = bs.length
  | _, [] => rfl
  | i, b :: bs => by
    simp only [flipBit]; split
    · rfl
    · simp [flipBit_length (i - 8) bs]

theorem xor_bit_ne (b : UInt8) {i : Nat} (h : i < 8) : b ^^^ ((1 : UInt8) <<< UInt8.ofNat i) ≠ b := by
  intro e
  have := congrArg (b ^^^ ·) e
  simp only [xor_xor_cancel_left, UInt8.xor_self] at this
  exact (by decide : ∀ i : Fin 8, ((1 : UInt8) <<< UInt8.ofNat i.val) ≠ 0) ⟨i, h⟩ this

theorem flipBit_ne : ∀ (i : Nat) (bs : Bytes), i < 8 * bs.length → flipBit i bs ≠ bs
  | _, [], h => by simp at h
  | i, b :: bs, h => by
    simp only [flipBit]; split
    · rename_i h8
      intro e
      exact xor_bit_ne b h8 (List.cons.inj e).1
    · intro e
      exact flipBit_ne (i - 8) bs (by simp at h; omega) (List.cons.inj e).2

/-- whatever text decodes to the server signature with one bit flipped is rejected
(the error string is returned), for every bit position. -/
theorem flip_rejects (P : Prims) (s : Session) (i : Nat)
    (hi : i < 8 * (serverSignature P s.saltedPassword s.authMessage).length) (alleged : Bytes)
    (h : Base64.decodeStr alleged = .ok (flipBit i (serverSignature P s.saltedPassword s.authMessage))) :
    onWelcome P s alleged = .reject :=
  welcome_rejects_of_ne P s h (flipBit_ne i _ hi)

/-- … in particular its canonical base64 encoding -/
theorem flip_rejects_encoded (P : Prims) (s : Session) (i : Nat)
    (hi : i < 8 * (serverSignature P s.saltedPassword s.authMessage).length) :
    onWelcome P s (Base64.encode (flipBit i (serverSignature P s.saltedPassword s.authMessage))) = .reject :=
  flip_rejects P s i hi _ (Base64.decodeStr_encode _)

/-- a signature of another length (truncated, extended, empty) is rejected: the comparison is on
whole strings, not on a prefix -/
theorem wrong_length_rejects (P : Prims) (s : Session) (alleged sig : Bytes)
    (h : Base64.decodeStr alleged = .ok sig)
    (hl : sig.length ≠ (serverSignature P s.saltedPassword s.authMessage).length) :
    onWelcome P s alleged = .reject :=
  welcome_rejects_of_ne P s h fun e => hl (by rw [e])

/-- a server that knows a different salted password (hence, unless HMAC collides, another signature)
is not accepted: acceptance pins the alleged signature to the client's own salted password -/
theorem welcome_binds_session (P : Prims) (s : Session) (sp' am' : Bytes)
    (h : onWelcome P s (Base64.encode (serverSignature P sp' am')) = .accept) :
    serverSignature P sp' am' = serverSignature P s.saltedPassword s.authMessage :=
  (welcome_accepts_only_signature P s _).mp h

/-- the KDF dispatch: `kdf = "pbkdf2"` decodes the salt and runs PBKDF2-HMAC-SHA256 for 32 octets, an unknown
KDF raises `RuntimeError`, Argon2id without `memory` raises `ValueError`. -/
theorem kdf_dispatch (kdfArgon : Bytes → Bytes → Nat → Nat → Except Err Bytes) (pw salt : Bytes) (it : Nat) :
    saltedPassword kdfArgon .pbkdf2 pw salt it = pbkdf2Secret pw salt it
    ∧ saltedPassword kdfArgon .other pw salt it = .error .runtimeError
    ∧ saltedPassword kdfArgon (.argon2id13 none) pw salt it = .error .valueError
    ∧ ∀ m, saltedPassword kdfArgon (.argon2id13 (some m)) pw salt it = kdfArgon pw salt it m :=
  ⟨rfl, rfl, rfl, fun _ => rfl⟩

/-- for the PBKDF2 flavour SaltedPassword is
`PBKDF2-HMAC-SHA256(password, salt, iterations, 32)` over the *decoded* salt — RFC 5802 §3
`SaltedPassword := Hi(Normalize(password), salt, i)` with SHA-256 (`Hi` is PBKDF2 with one block) -/
theorem scram_pbkdf2_salted_password (kdfArgon : Bytes → Bytes → Nat → Nat → Except Err Bytes)
    (pw saltText salt : Bytes) (it : Nat) (hs : Base64.decodeStr saltText = .ok salt) (hi : 1 ≤ it) :
    saltedPassword kdfArgon .pbkdf2 pw saltText it = .ok (Pbkdf2.hmacSha256 pw salt it 32) := by
  have : ¬ it = 0 := by omega
  simp [saltedPassword, pbkdf2Secret, hs, Cra.pbkdf2, this]

theorem scram_pbkdf2_salted_password_length (kdfArgon : Bytes → Bytes → Nat → Nat → Except Err Bytes)
    (pw saltText sp : Bytes) (it : Nat) (h : saltedPassword kdfArgon .pbkdf2 pw saltText it = .ok sp) :
    sp.length = 32 := by
  simp only [saltedPassword, pbkdf2Secret] at h
  split at h
  · simp only [Cra.pbkdf2] at h
    split at h
    · cases h
    · injection h with h; rw [← h]; exact Pbkdf2.hmacSha256_length _ _ _ _
  · cases h
  · cases h

/-- when the PBKDF2 flavour fails: an undecodable salt (`binascii.Error`), a non-ASCII salt text
(`ValueError`) or an iteration count of 0 (`ValueError`) — never for a decodable salt and `iterations ≥ 1` -/
theorem scram_pbkdf2_error_iff (kdfArgon : Bytes → Bytes → Nat → Nat → Except Err Bytes)
    (pw saltText : Bytes) (it : Nat) (e : Err) :
    saltedPassword kdfArgon .pbkdf2 pw saltText it = .error e
      ↔ (Base64.decodeStr saltText = .binasciiError ∧ e = .binasciiError)
        ∨ (Base64.decodeStr saltText = .valueError ∧ e = .valueError)
        ∨ ((∃ salt, Base64.decodeStr saltText = .ok salt) ∧ it = 0 ∧ e = .valueError) := by
  simp only [saltedPassword, pbkdf2Secret, Cra.pbkdf2]
  cases Base64.decodeStr saltText with
  | ok salt => by_cases hi : it = 0 <;> simp [hi, eq_comm]
  | binasciiError => simp [eq_comm]
  | valueError => simp [eq_comm]

/-- the whole PBKDF2 flavour against an RFC 5802 server. The server knows only
`StoredKey = H(HMAC(SaltedPassword, "Client Key"))` and `ServerKey = HMAC(SaltedPassword, "Server Key")` derived
from `SaltedPassword = PBKDF2-HMAC-SHA256(password, salt, i, 32)` (RFC 5802 §3), sends the base64 text of the
salt and sees the same auth message octets. Then, for every password, salt, `i ≥ 1` and every text without lone
surrogates (non-ASCII authid included): `on_challenge` answers, the answer decodes to a proof the server
accepts, and `on_welcome` accepts that server's signature. -/
theorem scram_pbkdf2_interoperates (kdfArgon : Bytes → Bytes → Nat → Nat → Except Err Bytes)
    (pw salt : Bytes) (it : Nat) (hi : 1 ≤ it) (authid cn : Text) (ch : ChallengeStr)
    (ha : Scalar authid) (hc : Scalar cn) (hsn : Scalar ch.serverNonce) (hs : Scalar ch.salt)
    (hcb : Scalar ch.channelBinding) :
    let spServer := Pbkdf2.hmacSha256 pw salt it 32
    ∃ sp out s proof,
      saltedPassword kdfArgon .pbkdf2 pw (Base64.encode salt) it = .ok sp ∧ sp = spServer
      ∧ onChallenge sha256Prims authid cn ch sp = .ok (out, s)
      ∧ authMessage authid cn ch = .ok s.authMessage
      ∧ Base64.decodeStr out = .ok proof
      ∧ serverVerify sha256Prims (storedKey sha256Prims spServer) s.authMessage proof = true
      ∧ onWelcome sha256Prims s (Base64.encode (serverSignature sha256Prims spServer s.authMessage)) = .accept := by
  intro spServer
  obtain ⟨out, s, proof, h⟩ := scram_interoperates sha256Prims_fixedLen authid cn ch spServer ha hc hsn hs hcb
  exact ⟨spServer, out, s, proof,
    scram_pbkdf2_salted_password kdfArgon pw _ salt it (Base64.decodeStr_encode salt) hi, rfl, h⟩

end Scram

namespace Totp

theorem dt_lt (d : Bytes) : dt d < 2 ^ 31 := by
  unfold dt; exact Nat.mod_lt _ (by decide)

theorem token_lt (key : Bytes) (c : Nat) : token key c < 1000000 := by
  unfold token; exact Nat.mod_lt _ (by decide)

theorem sixDigits_spec (n : Nat) (h : n < 1000000) :
    (∀ d ∈ sixDigits n, 48 ≤ d.toNat ∧ d.toNat ≤ 57) ∧ digitsValue (sixDigits n) = n := by
  constructor
  · simp only [sixDigits, List.map_cons, List.map_nil, List.forall_mem_cons, List.not_mem_nil, false_implies,
      implies_true, digit_range, and_self]
  · have e (k : Nat) : n / (k * 10) = n / k / 10 := (Nat.div_div_eq_div_mul n k 10).symm
    simp only [digitsValue_eq, sixDigits, List.map_cons, List.map_nil]
    rw [← Nat.div_eq_of_lt h, e 100000, e 10000, e 1000, e 100, e 10]
    simp only [digitsFrom_digit_cons]
    rfl

/-- the result is six decimal digits whose value is
`DT(HMAC-SHA1(key, counter as 8 big-endian octets)) mod 10^6`, DT = RFC 4226 dynamic truncation. -/
theorem totp_range_format (key : Bytes) (c : Nat) :
    (compute key c).length = 6 ∧ (∀ d ∈ compute key c, 48 ≤ d.toNat ∧ d.toNat ≤ 57)
    ∧ digitsValue (compute key c) = dt (Hmac.sha1 key (be64 c)) % 1000000 :=
  ⟨rfl, sixDigits_spec (token key c) (token_lt key c)⟩

/-- the dynamic truncation reads 31 bits at the offset given by the low nibble of the last octet -/
theorem dt_spec (d : Bytes) (hd : d.length = 20) :
    ∃ o, o = (d.getD 19 0).toNat % 16 ∧ o + 3 < d.length ∧
      dt d = ((d.getD o 0).toNat * 2 ^ 24 + (d.getD (o + 1) 0).toNat * 2 ^ 16
              + (d.getD (o + 2) 0).toNat * 2 ^ 8 + (d.getD (o + 3) 0).toNat) % 2 ^ 31 := by
  refine ⟨_, rfl, by omega, rfl⟩

theorem compute_eq_iff (key key' : Bytes) (c c' : Nat) :
    compute key c = compute key' c' ↔ token key c = token key' c' :=
  ⟨fun h => by
      rw [← (sixDigits_spec _ (token_lt key c)).2, ← (sixDigits_spec _ (token_lt key' c')).2]
      exact congrArg digitsValue h,
    congrArg sixDigits⟩

theorem computeAt_ok {secret key : Bytes} (hk : Base32.pyDecode secret = some key) (now : Nat) (offset : Int)
    {c : Nat} (hc : offset + (now / 30 : Nat) = c) (h : c < 2 ^ 64) :
    computeAt secret now offset = .ok (compute key c) := by
  unfold computeAt
  simp only [hk, hc]
  rw [if_neg (by omega), Int.toNat_natCast]

/-- with a decodable secret and the current step `c = now / 30 ≥ 1`,
`check_totp` accepts exactly the tickets of the counters `c − 1`, `c`, `c + 1`. -/
theorem check_totp_window {secret key : Bytes} (hk : Base32.pyDecode secret = some key) (now : Nat)
    (hlo : 1 ≤ now / 30) (hhi : now / 30 + 1 < 2 ^ 64) (ticket : Bytes) :
    check secret now ticket = .ok (checkWindow key (now / 30) ticket)
    ∧ (checkWindow key (now / 30) ticket = true
        ↔ ticket = compute key (now / 30 - 1) ∨ ticket = compute key (now / 30) ∨ ticket = compute key (now / 30 + 1)) := by
  constructor
  · unfold check
    rw [computeAt_ok hk now 0 (c := now / 30) (by omega) (by omega), computeAt_ok hk now 1 (by omega) hhi,
      computeAt_ok hk now (-1) (c := now / 30 - 1) (by omega) (by omega)]
    simp only [checkWindow, bind, Except.bind, pure, Except.pure]
    by_cases h0 : ticket = compute key (now / 30) <;> by_cases h1 : ticket = compute key (now / 30 + 1) <;>
      simp [h0, h1]
  · simp only [checkWindow, Bool.or_eq_true, decide_eq_true_eq]
    exact or_comm

theorem check_totp_rejects (key key' : Bytes) (c c' : Nat)
    (h0 : token key' c' ≠ token key c) (h1 : token key' c' ≠ token key (c + 1))
    (h2 : token key' c' ≠ token key (c - 1)) :
    checkWindow key c (compute key' c') = false := by
  simp only [checkWindow, Bool.or_eq_false_iff, decide_eq_false_iff_not, compute_eq_iff]
  exact ⟨⟨h0, h1⟩, h2⟩

/-- an undecodable secret raises `binascii.Error` (never `True`) -/
theorem check_bad_secret {secret : Bytes} (hk : Base32.pyDecode secret = none) (now : Nat) (ticket : Bytes) :
    check secret now ticket = .error .binasciiError := by
  simp [check, computeAt, hk, bind, Except.bind]

end Totp

namespace Cra

/-- `compute_wcs` = base64 ∘ HMAC-SHA256 (RFC 2104 over the reference SHA-256) -/
theorem cra_is_hmac (key challenge : Bytes) :
    sign key challenge
      = Base64.encode (Sha256.hash ((Hmac.blockKey sha256Alg key).map (· ^^^ 0x5c)
          ++ Sha256.hash ((Hmac.blockKey sha256Alg key).map (· ^^^ 0x36) ++ challenge))) :=
  congrArg Base64.encode (Hmac.sha256_eq key challenge)

/-- a WAMP-CRA signature is always 44 ASCII characters that decode to the 32-octet MAC -/
theorem sign_format (key challenge : Bytes) :
    (sign key challenge).length = 44 ∧ Base64.decodeStr (sign key challenge) = .ok (Hmac.sha256 key challenge) := by
  refine ⟨?_, Base64.decodeStr_encode _⟩
  rw [sign, Base64.encode_length, Hmac.sha256_length]

/-- a verifier that recomputes the MAC accepts exactly the signature: two signatures are equal iff the MACs are -/
theorem sign_eq_iff (k k' c c' : Bytes) : sign k c = sign k' c' ↔ Hmac.sha256 k c = Hmac.sha256 k' c' :=
  ⟨Base64.encode_injective, fun h => by simp [sign, h]⟩

/-- `derive_key` = base64 ∘ PBKDF2-HMAC-SHA256 (for `iterations ≥ 1`) -/
theorem derive_key_is_pbkdf2 (secret salt : Bytes) (iterations keylen : Nat) (h : 1 ≤ iterations) :
    deriveKey secret salt iterations keylen
      = .ok (Base64.encode (Pbkdf2.derive (Hmac.hmac sha256Alg) 32 secret salt iterations keylen)) := by
  have : iterations ≠ 0 := by omega
  simp [deriveKey, pbkdf2, this, Pbkdf2.hmacSha256, Except.map]
  rfl

theorem pbkdf2_zero_iterations (data salt : Bytes) (keylen : Nat) :
    pbkdf2 data salt 0 keylen = .error .valueError := rfl

/-- the derived key decodes to exactly `keylen` octets -/
theorem derive_key_length (secret salt : Bytes) (iterations keylen : Nat) (h : 1 ≤ iterations) :
    ∃ k, deriveKey secret salt iterations keylen = .ok (Base64.encode k) ∧ k.length = keylen :=
  ⟨_, derive_key_is_pbkdf2 secret salt iterations keylen h, Pbkdf2.hmacSha256_length secret salt iterations keylen⟩

/-- `AuthWampCra.on_challenge`: unsalted = HMAC under the secret; salted = HMAC under the *base64 text*
of the PBKDF2 key (WAMP advanced profile, WAMP-CRA with salted secrets) -/
theorem on_challenge_spec (secret challenge : Bytes) :
    onChallenge secret none challenge = .ok (Base64.encode (Hmac.sha256 secret challenge))
    ∧ ∀ (s : Salting), 1 ≤ s.iterations →
        onChallenge secret (some s) challenge
          = .ok (Base64.encode (Hmac.sha256
              (Base64.encode (Pbkdf2.hmacSha256 secret s.salt s.iterations s.keylen)) challenge)) := by
  refine ⟨rfl, fun s hs => ?_⟩
  have : s.iterations ≠ 0 := by omega
  simp [onChallenge, deriveKey, pbkdf2, this, Except.map, sign]

end Cra

namespace Cryptosign

/-- what `_format_challenge` signs, for every binding: the challenge is 64 hex digits, and the data is the decoded
challenge, or — under tls-unique — its XOR with a 32-octet channel id; any other binding type fails, and no other
input produces signed data -/
theorem format_ok_iff (ch : Bytes) (cid : Option Bytes) (b : Binding) (d : Bytes) :
    format ch cid b = .ok d ↔ ∃ raw, ch.length = 64 ∧ HexText.decode ch = some raw ∧ raw.length = 32 ∧
      match b with
      | .none => d = raw
      | .tlsUnique => ∃ c, cid = some c ∧ c.length = 32 ∧ d = xorBytes raw c
      | .other => False := by
  unfold format
  by_cases hl : ch.length = 64
  · cases hd : HexText.decode ch with
    | none => simp [hl]
    | some raw =>
      have hr : raw.length = 32 := by have := HexText.decode_length ch raw hd; omega
      cases b with
      | none => simp [hl, hr, eq_comm]
      | other => simp [hl]
      | tlsUnique =>
        cases cid with
        | none => simp [hl]
        | some c => by_cases hc : c.length = 32 <;> simp [hl, hc, hr, xor, eq_comm]
  · simp [hl]

theorem format_length (ch : Bytes) (cid : Option Bytes) (b : Binding) (d : Bytes) (h : format ch cid b = .ok d) :
    d.length = 32 := by
  obtain ⟨raw, _, _, hr, hb⟩ := (format_ok_iff ch cid b d).mp h
  cases b with
  | none => rw [hb, hr]
  | tlsUnique => obtain ⟨c, _, hc, rfl⟩ := hb; rw [xorBytes_length, hr, hc]; rfl
  | other => exact hb.elim

theorem answer_format (sign : Bytes → Bytes) (data : Bytes) :
    signature sign data = HexText.encode (sign data) ++ HexText.encode data
    ∧ (signature sign data).length = 2 * (sign data).length + 2 * data.length := by
  refine ⟨rfl, ?_⟩
  simp [signature, HexText.encode_length]

/-- what a router computes on a client's answer when signatures have 64 octets: it finds the signed data and the
signature again -/
theorem routerAccepts_signature (sign : Bytes → Bytes) (verify : Bytes → Bytes → Bool)
    (hlen : ∀ m, (sign m).length = 64) (expected data : Bytes) :
    routerAccepts verify expected (signature sign data) = (decide (data = expected) && verify data (sign data)) := by
  have hl : (HexText.encode (sign data)).length = 128 := by rw [HexText.encode_length, hlen]
  rw [routerAccepts, signature, List.take_left' hl, List.drop_left' hl, HexText.decode_encode, HexText.decode_encode]

/-- an abstract verifier accepts it: for any signature scheme with `verify m (sign m) = true` and
64-octet signatures, a router that expects `data` accepts the client's answer. -/
theorem router_accepts (sign : Bytes → Bytes) (verify : Bytes → Bytes → Bool)
    (hv : ∀ m, verify m (sign m) = true) (hlen : ∀ m, (sign m).length = 64) (data : Bytes) :
    routerAccepts verify data (signature sign data) = true := by
  simp [routerAccepts_signature sign verify hlen, hv]

/-- end to end: the answer to a challenge under tls-unique is accepted by a router that XORs its own
challenge with its own view of the channel id — iff both views agree, whatever the signature scheme. -/
theorem router_accepts_iff_same_channel (sign : Bytes → Bytes) (verify : Bytes → Bytes → Bool)
    (hv : ∀ m, verify m (sign m) = true) (hlen : ∀ m, (sign m).length = 64)
    (raw cid cid' : Bytes) (hr : raw.length = 32) (hc : cid.length = 32) (hc' : cid'.length = 32) :
    routerAccepts verify (xorBytes raw cid') (signature sign (xorBytes raw cid)) = true ↔ cid = cid' := by
  simp only [routerAccepts_signature sign verify hlen, hv, Bool.and_true, decide_eq_true_eq]
  exact ⟨xorBytes_right_inj (by omega) (by omega), fun e => by rw [e]⟩

/-- under tls-unique, altering the challenge or the channel id
changes the signed data -/
theorem binding_changes_data (ch ch' : Bytes) (cid cid' d d' : Bytes)
    (h : format ch (some cid) .tlsUnique = .ok d) (h' : format ch' (some cid') .tlsUnique = .ok d') :
    (cid = cid' → (d = d' ↔ HexText.decode ch = HexText.decode ch'))
    ∧ (HexText.decode ch = HexText.decode ch' → (d = d' ↔ cid = cid')) := by
  obtain ⟨raw, _, hd, hrl, c, hc, hcl, rfl⟩ := (format_ok_iff ch _ _ d).mp h
  obtain ⟨raw', _, hd', hrl', c', hc', hcl', rfl⟩ := (format_ok_iff ch' _ _ d').mp h'
  cases hc; cases hc'
  constructor
  · rintro rfl
    rw [hd, hd', Option.some.injEq]
    exact ⟨xorBytes_left_inj (by omega) (by omega), fun e => by rw [e]⟩
  · intro e
    rw [hd, hd', Option.some.injEq] at e
    subst e
    exact ⟨xorBytes_right_inj (by omega) (by omega), fun e => by rw [e]⟩

/-- the binding matters: the data signed with tls-unique differs from the unbound data unless the
channel id is all zero -/
theorem bound_differs_from_unbound (ch cid d d0 : Bytes)
    (h : format ch (some cid) .tlsUnique = .ok d) (h0 : format ch none .none = .ok d0) :
    d = d0 ↔ cid = List.replicate 32 0 := by
  obtain ⟨raw, _, hd, hrl, c, hc, hcl, rfl⟩ := (format_ok_iff ch _ _ d).mp h
  obtain ⟨_, _, hd0, _, rfl⟩ := (format_ok_iff ch _ _ d0).mp h0
  cases hc
  obtain rfl : raw = d0 := Option.some.inj (hd.symm.trans hd0)
  have hz : xorBytes raw (List.replicate 32 0) = raw := xorBytes_zero (by omega)
  exact ⟨fun e => xorBytes_right_inj (by omega) (by simp; omega) (e.trans hz.symm), fun e => by rw [e, hz]⟩

/-- summary for a well-formed challenge `ch` decoding to `raw`:
without binding the client signs `raw`; with tls-unique and a 32-octet channel id it signs `raw ⊕ cid`;
the answer is `hex(sig) ++ hex(data)`; a router with any correct signature scheme accepts it; and a
different channel id gives different signed data. -/
theorem cryptosign_data (sign : Bytes → Bytes) (verify : Bytes → Bytes → Bool)
    (hv : ∀ m, verify m (sign m) = true) (hlen : ∀ m, (sign m).length = 64)
    (ch raw : Bytes) (hl : ch.length = 64) (hd : HexText.decode ch = some raw) :
    signChallenge sign ch none .none = .ok (HexText.encode (sign raw) ++ HexText.encode raw)
    ∧ routerAccepts verify raw (signature sign raw) = true
    ∧ ∀ cid, cid.length = 32 →
        signChallenge sign ch (some cid) .tlsUnique
          = .ok (HexText.encode (sign (xorBytes raw cid)) ++ HexText.encode (xorBytes raw cid))
        ∧ routerAccepts verify (xorBytes raw cid) (signature sign (xorBytes raw cid)) = true
        ∧ ∀ cid', cid'.length = 32 → cid' ≠ cid → xorBytes raw cid' ≠ xorBytes raw cid := by
  have hr : raw.length = 32 := by have := HexText.decode_length ch raw hd; omega
  refine ⟨?_, router_accepts sign verify hv hlen raw, fun cid hc => ⟨?_, router_accepts sign verify hv hlen _, ?_⟩⟩
  · rw [signChallenge, (format_ok_iff ch none .none raw).mpr ⟨raw, hl, hd, hr, rfl⟩]; rfl
  · rw [signChallenge, (format_ok_iff ch (some cid) .tlsUnique _).mpr ⟨raw, hl, hd, hr, cid, rfl, hc, rfl⟩]; rfl
  · intro cid' hc' hne e
    exact hne (xorBytes_right_inj (by omega) (by omega) e)

end Cryptosign

/-! ## non-vacuity: concrete instances satisfy the hypotheses used above -/
section Examples
open Scram Totp Cryptosign
deriving instance DecidableEq for Except

/-- toy primitives with 3-octet outputs (the theorems quantify over all primitives; SHA-256 is one) -/
def toyPrims : Prims := ⟨fun x => (x ++ [7, 7, 7]).take 3, fun k m => (xorBytes k m ++ k ++ [1, 2, 3]).take 3⟩

example : toyPrims.FixedLen 3 := by
  intro k m; simp [toyPrims]; omega
example : clientProof toyPrims [9, 8] [5] = .ok [5, 46, 109] := by decide +kernel
example : serverVerify toyPrims (storedKey toyPrims [9, 8]) [5] [5, 46, 109] = true := by decide +kernel
example : serverVerify toyPrims (storedKey toyPrims [9, 8]) [5] [5, 46, 108] = false := by decide +kernel
-- the real primitives satisfy the length hypothesis
example : sha256Prims.FixedLen 32 := sha256Prims_fixedLen
example : ∃ p, clientProof sha256Prims [1] [2] = .ok p := ⟨_, client_proof_ok sha256Prims_fixedLen _ _⟩

-- on_welcome on a toy session: genuine accepted; flipped, truncated, extended, garbage, non-ASCII refused
def toySession : Session := ⟨[9, 8], ascii "n=u,r=c"⟩
example : serverSignature toyPrims toySession.saltedPassword toySession.authMessage = [52, 80, 124] := by decide +kernel
example : onWelcome toyPrims toySession (ascii "NFB8") = .accept := by decide +kernel
example : onWelcome toyPrims toySession (ascii "NFB9") = .reject := by decide +kernel
example : onWelcome toyPrims toySession (ascii "NFA=") = .reject := by decide +kernel
example : onWelcome toyPrims toySession (ascii "NFB8AA==") = .reject := by decide +kernel
example : onWelcome toyPrims toySession (ascii "NFB") = .raised .binasciiError := by decide +kernel
example : onWelcome toyPrims toySession [78, 70, 66, 200] = .raised .valueError := by decide +kernel
-- the lenient decoder skips foreign characters: same signature, still accepted (not an alteration of the signature)
example : onWelcome toyPrims toySession (ascii "NF!B8") = .accept := by decide +kernel
example : flipBit 9 [0, 0] = [0, 2] := by decide +kernel
example : (9 : Nat) < 8 * (serverSignature toyPrims toySession.saltedPassword toySession.authMessage).length := by decide +kernel

-- auth message of the exchange in autobahn's own test-suite shape
example : authMessageText (ascii "user") (ascii "Y2xpZW50") ⟨ascii "c2VydmVy", ascii "c2FsdA==", 4096, []⟩
    = ascii "n=user,r=Y2xpZW50,r=c2VydmVy,s=c2FsdA==,i=4096,c=,r=c2VydmVy" := by decide +kernel
example : CommaFree (ascii "user") (ascii "Y2xpZW50") ⟨ascii "c2VydmVy", ascii "c2FsdA==", 4096, []⟩ :=
  ⟨by decide +kernel, by decide +kernel, by decide +kernel, by decide +kernel, by decide +kernel⟩
-- a non-ASCII authid ('é', '€', U+1F511) is encoded, not refused; a lone surrogate is what `.encode("utf8")` refuses
example : authMessage [0xe9, 0x20ac, 0x1f511] [] ⟨[], [], 1, []⟩
    = .ok (ascii "n=" ++ [0xc3, 0xa9, 0xe2, 0x82, 0xac, 0xf0, 0x9f, 0x94, 0x91] ++ ascii ",r=,r=,s=,i=1,c=,r=") := by decide +kernel
example : authMessage [0xd800] [] ⟨[], [], 1, []⟩ = .error .unicodeEncodeError := by decide +kernel
example : authMessage [117] [] ⟨[0xdfff], [], 1, []⟩ = .error .unicodeEncodeError := by decide +kernel
example : Scalar [0xe9, 0x20ac, 0x1f511] := by decide +kernel
example : ¬ Scalar [0xd800] := by decide +kernel
example : CommaFreeStr [0xfc, 115] (Text.lit "Y2xpZW50") ⟨Text.lit "c2VydmVy", Text.lit "c2FsdA==", 4096, []⟩ :=
  ⟨by decide +kernel, by decide +kernel, by decide +kernel, by decide +kernel, by decide +kernel⟩
example : authMessage (Text.lit "user") (Text.lit "Y2xpZW50") ⟨Text.lit "c2VydmVy", Text.lit "c2FsdA==", 4096, []⟩
    = .ok (ascii "n=user,r=Y2xpZW50,r=c2VydmVy,s=c2FsdA==,i=4096,c=,r=c2VydmVy") := by decide +kernel
-- the PBKDF2 flavour: the salt text is decoded (RFC 6070-style inputs, 1 iteration; value = the published
-- PBKDF2-HMAC-SHA256 vector for password/salt/1/32), undecodable or non-ASCII salt text and 0 iterations raise
example : Base64.decodeStr (ascii "c2FsdA==") = .ok (ascii "salt") := by decide +kernel
example : saltedPassword (fun _ _ _ _ => .error .runtimeError) .pbkdf2 (ascii "password") (ascii "c2FsdA==") 1
    = .ok (Pbkdf2.hmacSha256 (ascii "password") (ascii "salt") 1 32) :=
  scram_pbkdf2_salted_password _ _ _ _ 1 (by decide +kernel) (by decide +kernel)
example : saltedPassword (fun _ _ _ _ => .error .runtimeError) .pbkdf2 (ascii "pw") (ascii "c2F") 1 = .error .binasciiError := by
  decide +kernel
example : saltedPassword (fun _ _ _ _ => .error .runtimeError) .pbkdf2 (ascii "pw") [0xe9] 1 = .error .valueError := by decide +kernel
example : saltedPassword (fun _ _ _ _ => .error .runtimeError) .pbkdf2 (ascii "pw") (ascii "c2FsdA==") 0 = .error .valueError := by
  decide +kernel

-- TOTP: the RFC 6238 secret decodes, and time 59 is step 1 ≥ 1
example : Base32.pyDecode (ascii "GEZDGNBVGY3TQOJQGEZDGNBVGY3TQOJQ") = some (ascii "12345678901234567890") := by
  decide +kernel
example : 1 ≤ 59 / 30 ∧ 59 / 30 + 1 < 2 ^ 64 := by decide +kernel
example : sixDigits 7 = ascii "000007" := by decide +kernel
example : digitsValue (ascii "287082") = 287082 := by decide +kernel
example : computeAt (ascii "GEZDGNBVGY3TQOJQGEZDGNBVGY3TQOJQ") 0 (-1) = .error .structError := by decide +kernel
example : computeAt (ascii "gezdgnbv") 0 0 = .error .binasciiError := by decide +kernel

-- cryptosign: a toy signature scheme satisfying the two hypotheses, and concrete signed data
def toySign (m : Bytes) : Bytes := (m ++ List.replicate 64 0).take 64
def toyVerify (m s : Bytes) : Bool := s = toySign m
example : (∀ m, toyVerify m (toySign m) = true) ∧ ∀ m, (toySign m).length = 64 := by
  refine ⟨fun m => by simp [toyVerify], fun m => ?_⟩
  simp [toySign]
example : format (List.replicate 64 48) (some (List.replicate 32 0xff)) .tlsUnique = .ok (List.replicate 32 0xff) := by
  decide +kernel
example : format (List.replicate 64 48) none .none = .ok (List.replicate 32 0) := by decide +kernel
example : format (List.replicate 64 48) none .tlsUnique = .error .typeError := by decide +kernel
example : format (List.replicate 64 48) (some [1]) .tlsUnique = .error .assertionError := by decide +kernel
example : format (List.replicate 63 48) none .none = .error .exception := by decide +kernel
example : format (List.replicate 64 120) none .none = .error .binasciiError := by decide +kernel

end Examples
end Abverif.Auth

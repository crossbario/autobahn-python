import Abverif.Model.RawSocket
/-!
The receive loop of the length-prefixed framing (`loop`, `feed`, `feedAll`) against the whole-stream parser `parse`, for an
arbitrary `Framing`: what `parse` does in each of its branches, that fuel beyond the length of the stream does not matter,
`parse_append`, `loop = canon ∘ parse` when the saved header is consistent, and from these every segmentation
(`feedAll_eq_parse`). Then `Framed`, the Spec read as a sequence of frames, and what parser and loop make of a framed stream.
-/
namespace Abverif.RawSocket

theorem split4_none {b : Bytes} : split4 b = none ↔ b.length < 4 := by
  match b with
  | [] | [_] | [_, _] | [_, _, _] => simp [split4]
  | _ :: _ :: _ :: _ :: _ => simp [split4]

theorem split4_some {b : Bytes} {a0 a1 a2 a3 : UInt8} {r : Bytes} :
    split4 b = some (a0, a1, a2, a3, r) ↔ b = a0 :: a1 :: a2 :: a3 :: r := by
  unfold split4
  split
  · simp
  · rename_i h
    simpa using h a0 a1 a2 a3 r

theorem split4_append {b : Bytes} {a0 a1 a2 a3 : UInt8} {r : Bytes} (x : Bytes)
    (h : split4 b = some (a0, a1, a2, a3, r)) : split4 (b ++ x) = some (a0, a1, a2, a3, r ++ x) := by
  rw [split4_some] at h ⊢; subst h; rfl

section steps
variable (F : Framing)

theorem parse_none {s : Bytes} (n : Nat) (h : split4 s = none) : parse F (n + 1) s = ([], some s) := by
  simp [parse, h]

theorem parse_reject {s : Bytes} {b0 b1 b2 b3 : UInt8} {rest : Bytes} {evs : List Ev} (n : Nat)
    (h : split4 s = some (b0, b1, b2, b3, rest)) (hj : F.judge b0 b1 b2 b3 = .reject evs) :
    parse F (n + 1) s = (evs, none) := by
  simp [parse, h, hj]

theorem parse_short {s : Bytes} {b0 b1 b2 b3 : UInt8} {rest : Bytes} {k l : Nat} (n : Nat)
    (h : split4 s = some (b0, b1, b2, b3, rest)) (hj : F.judge b0 b1 b2 b3 = .frame k l)
    (hl : ¬ l ≤ rest.length) : parse F (n + 1) s = ([], some s) := by
  simp [parse, h, hj, hl]

theorem parse_raise {s : Bytes} {b0 b1 b2 b3 : UInt8} {rest : Bytes} {k l : Nat} (n : Nat)
    (h : split4 s = some (b0, b1, b2, b3, rest)) (hj : F.judge b0 b1 b2 b3 = .frame k l)
    (hl : l ≤ rest.length) (hr : (F.dispatch k (rest.take l)).2 = true) :
    parse F (n + 1) s = ((F.dispatch k (rest.take l)).1, none) := by
  simp [parse, h, hj, hl, hr]

theorem parse_ok {s : Bytes} {b0 b1 b2 b3 : UInt8} {rest : Bytes} {k l : Nat} (n : Nat)
    (h : split4 s = some (b0, b1, b2, b3, rest)) (hj : F.judge b0 b1 b2 b3 = .frame k l)
    (hl : l ≤ rest.length) (hr : (F.dispatch k (rest.take l)).2 = false) :
    parse F (n + 1) s = ((F.dispatch k (rest.take l)).1 ++ (parse F n (rest.drop l)).1,
                          (parse F n (rest.drop l)).2) := by
  simp [parse, h, hj, hl, hr]

end steps

/- The inductions below follow the recursion of `parse` (`fun_induction`). Its cases, in this order: 1 no fuel; 2 the header
is rejected; 3 the frame is complete and its callback raises; 4 the frame is served and the parse goes on behind it;
5 the payload is not complete yet; 6 fewer than four octets. -/

theorem parse_fuel (F : Framing) (n m : Nat) (s : Bytes) (hn : s.length < n) (hm : s.length ≤ m) :
    parse F n s = parse F (m + 1) s := by
  fun_induction parse F n s generalizing m with
  | case1 => omega
  | case2 fuel s b0 b1 b2 b3 rest h4 evs hj => rw [parse_reject F m h4 hj]  -- rejected
  | case3 fuel s b0 b1 b2 b3 rest h4 k l hj hl r hr => rw [parse_raise F m h4 hj hl hr]  -- raised
  | case4 fuel s b0 b1 b2 b3 rest h4 k l hj hl r hr t ih =>  -- served
    cases split4_some.mp h4
    obtain _ | m := m
    · simp at hm
    · rw [parse_ok F (m + 1) h4 hj hl (by simpa using hr), ← ih m (by simp at hn ⊢; omega) (by simp at hm ⊢; omega)]
  | case5 fuel s b0 b1 b2 b3 rest h4 k l hj hl => rw [parse_short F m h4 hj hl]  -- incomplete
  | case6 fuel s h4 => rw [parse_none F m h4]  -- no header

theorem parseStream_eq (F : Framing) (s : Bytes) (n : Nat) (h : s.length < n) :
    parseStream F s = parse F n s := (parse_fuel F n s.length s h (Nat.le_refl _)).symm

theorem parse_append (F : Framing) : ∀ (n : Nat) (a b : Bytes), a.length < n →
    parseStream F (a ++ b) =
      (match parse F n a with
       | (e1, none) => (e1, none)
       | (e1, some r1) => (e1 ++ (parseStream F (r1 ++ b)).1, (parseStream F (r1 ++ b)).2)) := by
  intro n a b hn
  fun_induction parse F n a with
  | case1 => omega
  | case2 fuel a b0 b1 b2 b3 rest h4 evs hj => exact parse_reject F _ (split4_append b h4) hj  -- rejected
  | case3 fuel a b0 b1 b2 b3 rest h4 k l hj hl r hr =>  -- raised
    have := parse_raise F (a ++ b).length (split4_append b h4) hj (by simp; omega)
      (by rw [List.take_append_of_le_length hl]; exact hr)
    rwa [List.take_append_of_le_length hl] at this
  | case4 fuel a b0 b1 b2 b3 rest h4 k l hj hl r hr t ih =>
    -- served: `a ++ b` begins with the same complete frame; behind it the induction hypothesis for `rest.drop l`, and
    -- the two sides are compared by how that parse ends
    cases split4_some.mp h4
    have hlen : (rest.drop l ++ b).length < (b0 :: b1 :: b2 :: b3 :: rest ++ b).length := by simp; omega
    rw [parseStream, parse_ok F _ (split4_append b h4) hj (by simp; omega)
        (by rw [List.take_append_of_le_length hl]; simpa using hr),
      List.take_append_of_le_length hl, List.drop_append_of_le_length hl, ← parseStream_eq F _ _ hlen,
      ih (by simp at hn ⊢; omega)]
    simp only [t, r]
    cases parse F fuel (rest.drop l) with
    | mk e1 r1 => cases r1 <;> simp [List.append_assoc]
  | case5 | case6 => simp  -- incomplete, no header: `a` is kept whole, and the right side is the parse of `a ++ b` itself

theorem parse_events_src (F : Framing) (P : Ev → Prop)
    (hjP : ∀ b0 b1 b2 b3 evs, F.judge b0 b1 b2 b3 = .reject evs → ∀ e ∈ evs, P e)
    (hdP : ∀ k p, ∀ e ∈ (F.dispatch k p).1, P e) (n : Nat) (s : Bytes) : ∀ e ∈ (parse F n s).1, P e := by
  fun_induction parse F n s with
  | case1 | case5 | case6 => simp  -- no fuel, incomplete, no header: no event
  | case2 fuel s b0 b1 b2 b3 rest h4 evs hj => exact hjP b0 b1 b2 b3 evs hj  -- rejected
  | case3 => exact hdP _ _  -- raised
  | case4 fuel s b0 b1 b2 b3 rest h4 k l hj hl r hr t ih =>  -- served
    intro e he
    exact (List.mem_append.mp he).elim (hdP _ _ e) (ih e)

/-- a buffer is settled when its whole-stream parse consumes nothing and refuses nothing -/
def Settled (F : Framing) (b : Bytes) : Prop := parseStream F b = ([], some b)

theorem settled_short (F : Framing) (t : Bytes) (h : t.length < 4) : Settled F t :=
  parse_none F _ (split4_none.mpr h)

theorem settled_incomplete (F : Framing) (b0 b1 b2 b3 : UInt8) (rest : Bytes) (k l : Nat)
    (hj : F.judge b0 b1 b2 b3 = .frame k l) (hl : rest.length < l) : Settled F (b0 :: b1 :: b2 :: b3 :: rest) :=
  parse_short F _ rfl hj (by omega)

theorem parse_rest_settled (F : Framing) (n : Nat) (s : Bytes) (e : List Ev) (r : Bytes)
    (hn : s.length < n) (hp : parse F n s = (e, some r)) : Settled F r := by
  fun_induction parse F n s generalizing e with
  | case1 => omega
  | case2 | case3 => cases hp  -- rejected, raised: no rest
  | case4 fuel s b0 b1 b2 b3 rest h4 k l hj hl d hd t ih =>  -- served: the rest is that of the parse behind the frame
    cases split4_some.mp h4
    exact ih t.1 (by simp at hn ⊢; omega) (Prod.ext rfl (Prod.mk.inj hp).2)
  | case5 fuel s b0 b1 b2 b3 rest h4 k l hj hl => cases hp; exact parse_short F _ h4 hj hl  -- incomplete
  | case6 fuel s h4 => cases hp; exact parse_none F _ h4  -- no header

/-- the saved header a settled buffer carries: set exactly when a judged header waits for its payload -/
def hdrOf (F : Framing) (buf : Bytes) : Option (Nat × Nat) :=
  match split4 buf with
  | some (b0, b1, b2, b3, rest) =>
    match F.judge b0 b1 b2 b3 with
    | .frame k l => if l ≤ rest.length then none else some (k, l)
    | .reject _ => none
  | none => none

/-- the saved header, if any, is the judgement of the first four octets of the buffer -/
def CacheOK (F : Framing) (h : Option (Nat × Nat)) (buf : Bytes) : Prop :=
  match h with
  | none => True
  | some (k, l) => ∃ b0 b1 b2 b3 rest, split4 buf = some (b0, b1, b2, b3, rest) ∧ F.judge b0 b1 b2 b3 = .frame k l

theorem hdrOf_short (F : Framing) {buf : Bytes} {b0 b1 b2 b3 : UInt8} {rest : Bytes} {k l : Nat}
    (h4 : split4 buf = some (b0, b1, b2, b3, rest)) (hj : F.judge b0 b1 b2 b3 = .frame k l)
    (hl : ¬ l ≤ rest.length) : hdrOf F buf = some (k, l) := by
  simp [hdrOf, h4, hj, hl]

theorem cacheOK_hdrOf (F : Framing) (buf : Bytes) : CacheOK F (hdrOf F buf) buf := by
  unfold hdrOf
  split
  · rename_i b0 b1 b2 b3 rest h4
    split
    · rename_i k l hj
      split
      · trivial
      · exact ⟨b0, b1, b2, b3, rest, h4, hj⟩
    · trivial
  · trivial

theorem cacheOK_append (F : Framing) {h : Option (Nat × Nat)} {buf : Bytes} (x : Bytes)
    (hc : CacheOK F h buf) : CacheOK F h (buf ++ x) := by
  cases h with
  | none => trivial
  | some kl =>
    obtain ⟨k, l⟩ := kl
    obtain ⟨b0, b1, b2, b3, rest, h4, hj⟩ := hc
    exact ⟨b0, b1, b2, b3, rest ++ x, split4_append x h4, hj⟩

theorem verdict_eq (F : Framing) {h : Option (Nat × Nat)} {buf : Bytes} {b0 b1 b2 b3 : UInt8} {rest : Bytes}
    (hc : CacheOK F h buf) (h4 : split4 buf = some (b0, b1, b2, b3, rest)) :
    verdict F h b0 b1 b2 b3 = F.judge b0 b1 b2 b3 := by
  cases h with
  | none => rfl
  | some kl =>
    obtain ⟨k, l⟩ := kl
    obtain ⟨c0, c1, c2, c3, r', h4', hj'⟩ := hc
    cases h4.symm.trans h4'
    exact hj'.symm

/-- the model's result for a Spec result: a live state is the unconsumed rest with its saved header re-attached -/
def canon (F : Framing) (r : List Ev × Option Bytes) : Option PSt × List Ev :=
  (r.2.map (fun b => (⟨b, hdrOf F b⟩ : PSt)), r.1)

theorem canon_none (F : Framing) (e : List Ev) : canon F (e, none) = (none, e) := rfl

theorem canon_some (F : Framing) (e : List Ev) (b : Bytes) : canon F (e, some b) = (some ⟨b, hdrOf F b⟩, e) := rfl

theorem loop_eq_parse (F : Framing) (n : Nat) (h : Option (Nat × Nat)) (buf : Bytes)
    (hn : buf.length < n) (hc : CacheOK F h buf) : loop F n h buf = canon F (parse F n buf) := by
  fun_induction parse F n buf generalizing h with
  | case1 => omega
  | case2 fuel buf b0 b1 b2 b3 rest h4 evs hj => simp [loop, h4, verdict_eq F hc h4, hj, canon_none]  -- rejected
  | case3 fuel buf b0 b1 b2 b3 rest h4 k l hj hl r hr =>  -- raised
    simp [loop, h4, verdict_eq F hc h4, hj, hl, r, hr, canon_none]
  | case4 fuel buf b0 b1 b2 b3 rest h4 k l hj hl r hr t ih =>  -- served: the loop goes on without a saved header
    cases split4_some.mp h4
    have := ih none (by simp at hn ⊢; omega) trivial
    simp [loop, h4, verdict_eq F hc h4, hj, hl, r, hr, this, canon, t]
  | case5 fuel buf b0 b1 b2 b3 rest h4 k l hj hl =>  -- incomplete: the header is saved
    simp [loop, h4, verdict_eq F hc h4, hj, hl, canon_some, hdrOf_short F h4 hj hl]
  | case6 fuel buf h4 =>  -- no header: a saved one would contradict `hc`
    cases h with
    | none => simp [loop, h4, canon_some, hdrOf]
    | some kl =>
      obtain ⟨_, _, _, _, _, h4', _⟩ := hc
      rw [h4] at h4'; cases h4'

/-- invariant of a live receive state between reads -/
def Inv (F : Framing) (s : PSt) : Prop := s.hdr = hdrOf F s.buf ∧ Settled F s.buf

theorem inv_init (F : Framing) : Inv F PSt.init := ⟨rfl, settled_short F [] (by decide)⟩

theorem feed_eq (F : Framing) (s : PSt) (d : Bytes) (hi : Inv F s) :
    feed F s d = canon F (parseStream F (s.buf ++ d)) := by
  unfold feed parseStream
  apply loop_eq_parse F _ _ _ (by omega)
  rw [hi.1]
  exact cacheOK_append F d (cacheOK_hdrOf F s.buf)

theorem inv_canon (F : Framing) (s : Bytes) (e : List Ev) (r : Bytes)
    (h : parseStream F s = (e, some r)) : Inv F ⟨r, hdrOf F r⟩ :=
  ⟨rfl, parse_rest_settled F _ s e r (by omega) h⟩

theorem feedAll_eq_parse (F : Framing) : ∀ (cs : List Bytes) (s : PSt), Inv F s →
    feedAll F (some s) cs = canon F (parseStream F (s.buf ++ cs.flatten)) := by
  intro cs
  induction cs with
  | nil =>
    intro s hi
    obtain ⟨bf, hd⟩ := s
    obtain ⟨h1, h2⟩ : hd = hdrOf F bf ∧ parseStream F bf = ([], some bf) := hi
    simp only [feedAll, List.flatten_nil, List.append_nil, h2, h1, canon_some]
  | cons c cs ih =>
    intro s hi
    have happ := parse_append F _ (s.buf ++ c) cs.flatten (Nat.lt_succ_self _)
    rw [show parse F ((s.buf ++ c).length + 1) (s.buf ++ c) = parseStream F (s.buf ++ c) from rfl] at happ
    simp only [feedAll, List.flatten_cons]
    rw [feed_eq F s c hi, ← List.append_assoc, happ]
    cases hp : parseStream F (s.buf ++ c) with
    | mk e1 r =>
      cases r with
      | none => simp [canon_none, feedAll]
      | some r1 =>
        simp only [canon_some]
        rw [ih ⟨r1, hdrOf F r1⟩ (inv_canon F _ e1 r1 hp)]
        simp [canon]

/-- `parse_events_src` for the model loop, under any segmentation -/
theorem feedAll_events_src (F : Framing) (P : Ev → Prop)
    (hjP : ∀ b0 b1 b2 b3 evs, F.judge b0 b1 b2 b3 = .reject evs → ∀ e ∈ evs, P e)
    (hdP : ∀ k p, ∀ e ∈ (F.dispatch k p).1, P e) (cs : List Bytes) :
    ∀ e ∈ (feedAll F (some PSt.init) cs).2, P e := by
  intro e he
  rw [feedAll_eq_parse F cs _ (inv_init F)] at he
  exact parse_events_src F P hjP hdP _ _ e he

theorem inv_feedAll (F : Framing) (cs : List Bytes) (s : PSt) (hi : Inv F s) (s' : PSt)
    (h : (feedAll F (some s) cs).1 = some s') : Inv F s' := by
  rw [feedAll_eq_parse F cs s hi] at h
  cases hp : parseStream F (s.buf ++ cs.flatten) with
  | mk e r =>
    rw [hp] at h
    cases r with
    | none => rw [canon_none] at h; cases h
    | some r1 =>
      rw [canon_some] at h
      cases h
      exact inv_canon F _ e r1 hp

/-! ### the Spec read declaratively: a stream is a sequence of frames, then either an unfinished
frame (kept), a rejected header (refused at once, whatever follows it), or a frame whose callback raises -/

inductive Framed (F : Framing) : Bytes → List Ev → Option Bytes → Prop
  | tail (t : Bytes) (h : Settled F t) : Framed F t [] (some t)
  | reject (b0 b1 b2 b3 : UInt8) (rest : Bytes) (evs : List Ev) (h : F.judge b0 b1 b2 b3 = .reject evs) :
      Framed F (b0 :: b1 :: b2 :: b3 :: rest) evs none
  | raised (b0 b1 b2 b3 : UInt8) (k l : Nat) (payload rest : Bytes) (hj : F.judge b0 b1 b2 b3 = .frame k l)
      (hl : payload.length = l) (hr : (F.dispatch k payload).2 = true) :
      Framed F (b0 :: b1 :: b2 :: b3 :: (payload ++ rest)) (F.dispatch k payload).1 none
  | frame (b0 b1 b2 b3 : UInt8) (k l : Nat) (payload rest : Bytes) (evs : List Ev) (r : Option Bytes)
      (hj : F.judge b0 b1 b2 b3 = .frame k l) (hl : payload.length = l)
      (hr : (F.dispatch k payload).2 = false) (ht : Framed F rest evs r) :
      Framed F (b0 :: b1 :: b2 :: b3 :: (payload ++ rest)) ((F.dispatch k payload).1 ++ evs) r

theorem parse_framed (F : Framing) {s : Bytes} {evs : List Ev} {r : Option Bytes} (h : Framed F s evs r) :
    parseStream F s = (evs, r) := by
  induction h with
  | tail t h => exact h
  | reject b0 b1 b2 b3 rest evs h => exact parse_reject F _ rfl h
  | raised b0 b1 b2 b3 k l payload rest hj hl hr =>
    subst hl
    have := parse_raise F (b0 :: b1 :: b2 :: b3 :: (payload ++ rest)).length
      (s := b0 :: b1 :: b2 :: b3 :: (payload ++ rest)) rfl hj (by simp) (by simpa using hr)
    rw [parseStream, this]
    simp
  | frame b0 b1 b2 b3 k l payload rest evs r hj hl hr _ ih =>
    subst hl
    have := parse_ok F (b0 :: b1 :: b2 :: b3 :: (payload ++ rest)).length
      (s := b0 :: b1 :: b2 :: b3 :: (payload ++ rest)) rfl hj (by simp) (by simpa using hr)
    rw [parseStream, this]
    simp [← parseStream_eq F rest (payload.length + rest.length + 4) (by omega), ih]

theorem feedAll_framed (F : Framing) (cs : List Bytes) {evs : List Ev} {r : Option Bytes}
    (h : Framed F cs.flatten evs r) : feedAll F (some PSt.init) cs = canon F (evs, r) :=
  (feedAll_eq_parse F cs PSt.init (inv_init F)).trans (congrArg (canon F) (parse_framed F h))

end Abverif.RawSocket

import Abverif.Proofs.Lemmas.SessLift
/-
Generic lifting of a step relation through the session-lifecycle functions (hooks, default bodies, continuations, the
pre-session branch, GOODBYE, the loop): a relation that tolerates the lifecycle outputs (`sessOut`) and the updates of
`sessionId` / `goodbyeSent` / `ended` needs the handful of facts of `LiftT`; everything else is proved here once.
`onOpen` / `onClose` write `transport`, which `LiftT` lets the relation read, and the callee functions send
YIELD / ERROR: those are lifted by the stronger `LiftS` / `LiftX` of SessLiftX.lean.
-/
namespace Abverif.Session
open Abverif.SessCodes

/-- the fields the request/reply invariants read; the lifecycle and callee branches write none of them except through
`settle`/`emitCb`/user API calls and the callback queue -/
structure Core where
  nextId : Nat
  issued : Nat
  tPublish : Table
  tSubscribe : Table
  tUnsubscribe : Table
  tCall : Table
  tRegister : Table
  tUnregister : Table
  subs : List (SubId × List SubRec)
  futs : List Fut
  cbq : List SOut

def Sess.core (s : Sess) : Core :=
  { nextId := s.nextId, issued := s.issued, tPublish := s.tPublish, tSubscribe := s.tSubscribe,
    tUnsubscribe := s.tUnsubscribe, tCall := s.tCall, tRegister := s.tRegister, tUnregister := s.tUnregister,
    subs := s.subs, futs := s.futs, cbq := s.cbq }

theorem core_tbl {s s' : Sess} (h : s'.core = s.core) (k : Kind) : s'.tbl k = s.tbl k := by
  simp only [Sess.core, Core.mk.injEq] at h
  cases k <;> simp [Sess.tbl, h]

theorem core_fields {s s' : Sess} (h : s'.core = s.core) :
    s'.nextId = s.nextId ∧ s'.issued = s.issued ∧ s'.subs = s.subs ∧ s'.futs = s.futs ∧ s'.cbq = s.cbq := by
  simp only [Sess.core, Core.mk.injEq] at h
  simp [h]

/-- the callee-side fields: running invocations, the send() plan, the progress callables handed out -/
structure Callee where
  invs : List (ReqId × InvRec)
  faults : List SendOut
  progs : List ReqId

def Sess.callee (s : Sess) : Callee := { invs := s.invs, faults := s.faults, progs := s.progs }

/-- what the lifecycle and callee branches may raise: anything but the two exceptions that would mean a future completed
twice or a record without one -/
def lcExc : Exc → Bool
  | .alreadyCalled | .internal => false
  | _ => true

/-- message types the session-lifecycle functions send -/
def sessMsg : MsgType → Bool
  | .hello | .goodbye | .abort | .authenticate => true
  | _ => false

/-- outputs of the session-lifecycle functions proper (no callee output: endpoint call, YIELD / ERROR) -/
def sessOut : SOut → Bool
  | .hook _ _ | .fire _ | .lost _ | .later _ | .userError | .transportClose | .unmodelled => true
  | .send m => sessMsg m.typ
  | .raise_ e => lcExc e
  | .caught e => lcExc e
  | _ => false

/-- what a relation must know to be carried through the *session-lifecycle* functions: it tolerates the lifecycle
outputs and the updates of `sessionId` / `goodbyeSent` / `ended`; it may read `transport` (so `onOpen` / `onClose`, the
only functions that write it, are the relation's own business), and so are the callee-side functions.
`ok` is the relation's own class of outputs it tolerates: the session-lifecycle ones at least (`okOf`), and whatever waits
in the callback queue is in it (`cbqOk`). `lc`: a silent write outside `Core`, `Callee` and `transport` — `sessionId`,
`goodbyeSent`, `ended`, and also `regs` and `mode`, which stand in none of `Core`, `Callee`, `Life`: a relation that reads
`regs` fits no bundle. `out`: tolerated outputs are emitted; `emit`: one is handed to `emitCb` (emitted now or queued);
`enq`: a continuation is queued; `lostMap`: inside a hook what the default body raises is lost (`raise_` becomes `lost`);
`clearQ`: one loop iteration (`tick`) empties the queue and then takes the entries in turn, emitting one (`out`, by `cbqOk`)
or running it (`runCont`); `rejectAll`: the default clean-up body. -/
structure LiftT (R : Sess → List SOut → Sess → Prop) (P : Sess → Prop) (ok : SOut → Bool) : Prop extends Lift R P where
  okOf : ∀ o, sessOut o = true → ok o = true
  lc : ∀ {s s' : Sess}, P s → s'.core = s.core → s'.callee = s.callee → s'.transport = s.transport → R s [] s'
  out : ∀ {s : Sess} {os : List SOut}, P s → (∀ o ∈ os, ok o = true) → R s os s
  emit : ∀ {s : Sess} {o : SOut}, P s → ok o = true → R s (emitCb s o).2 (emitCb s o).1
  enq : ∀ {s : Sess} (k : Cont), P s → R s [] { s with cbq := s.cbq ++ [.later k] }
  lostMap : ∀ {s o s'}, R s o s' → R s (o.map toLost) s'
  cbqOk : ∀ {s : Sess}, P s → ∀ o ∈ s.cbq, ok o = true
  clearQ : ∀ {s : Sess}, P s → R s [] { s with cbq := [] }
  rejectAll : ∀ {s : Sess} (o : Outcome), P s →
    R s (rejectList s.clearTables o s.outstanding).2 (rejectList s.clearTables o s.outstanding).1

variable {R : Sess → List SOut → Sess → Prop} {P : Sess → Prop} {ok : SOut → Bool}

namespace LiftT

theorem out1 (L : LiftT R P ok) {s : Sess} {o : SOut} (hs : P s) (ho : sessOut o = true) : R s [o] s :=
  L.out hs (List.forall_mem_singleton.mpr (L.okOf _ ho))

theorem cons (L : LiftT R P ok) {s s' : Sess} {o : SOut} {os : List SOut} (hs : P s) (ho : sessOut o = true)
    (h : R s os s') : R s (o :: os) s' :=
  L.trans (L.out1 hs ho) h

theorem lcThen (L : LiftT R P ok) {s s' s'' : Sess} {o : List SOut} (hs : P s)
    (h : P s' → R s' o s'') (hc : s'.core = s.core) (hk : s'.callee = s.callee) (ht : s'.transport = s.transport) : R s o s'' := by
  have h0 := L.lc hs hc hk ht
  exact L.trans h0 (h (L.post hs h0))

theorem thenLc (L : LiftT R P ok) {s s' s'' : Sess} {o : List SOut} (hs : P s) (h : R s o s')
    (hc : s''.core = s'.core) (hk : s''.callee = s'.callee) (ht : s''.transport = s'.transport) : R s o s'' := by
  have := L.trans h (L.lc (L.post hs h) hc hk ht)
  rwa [List.append_nil] at this

theorem trans3 (L : LiftT R P ok) {s s1 s2 s3 : Sess} {a b c : List SOut} (h1 : R s a s1) (h2 : R s1 b s2) (h3 : R s2 c s3) :
    R s ((a ++ b) ++ c) s3 := by
  rw [List.append_assoc]; exact L.trans h1 (L.trans h2 h3)

theorem runHook (L : LiftT R P ok) {s : Sess} (hs : P s) (h : Hook) (arg : Nat) (act : HAct)
    (body : Sess → Sess × List SOut) (hb : ∀ {s}, P s → R s (body s).2 (body s).1) :
    R s (Session.runHook s h arg act body).2 (Session.runHook s h arg act body).1 := by
  unfold Session.runHook
  have hb1 : R s (if act.dflt then body s else (s, [])).2 (if act.dflt then body s else (s, [])).1 := by
    split
    · exact hb hs
    · exact L.refl hs
  generalize (if act.dflt = true then body s else (s, [])) = r1 at hb1 ⊢
  simp only []
  split
  · exact L.cons hs rfl (L.lostMap hb1)
  · have h2 := L.toLift.runCalls (L.post hs hb1) none act.calls
    exact L.cons hs rfl (L.trans hb1 h2)

theorem runLeaf (L : LiftT R P ok) {s : Sess} (hs : P s) (k : Cont) :
    R s (Session.runLeaf s k).2 (Session.runLeaf s k).1 := by
  unfold Session.runLeaf
  split
  · split
    · exact L.out1 hs rfl
    · exact L.refl hs
  · next act =>
    have h1 := L.runHook hs .onJoin 0 act (fun s => (s, [])) (fun h => L.refl h)
    have hp := L.post hs h1
    refine L.trans3 h1 ?_ (L.out1 hp rfl)
    split
    · split <;> exact L.out1 hp rfl
    · exact L.refl hp
  · exact L.out1 hs rfl

theorem deferLeaf (L : LiftT R P ok) {s : Sess} (hs : P s) (k : Cont) :
    R s (Session.deferLeaf s k).2 (Session.deferLeaf s k).1 := by
  unfold Session.deferLeaf
  split
  · exact L.runLeaf hs k
  · exact L.enq k hs

theorem onLeaveDefault (L : LiftT R P ok) {s : Sess} (hs : P s) (reason : Nat) :
    R s (Session.onLeaveDefault s reason).2 (Session.onLeaveDefault s reason).1 := by
  unfold Session.onLeaveDefault
  have h1 := L.rejectAll (.closed reason) hs
  exact L.trans h1 (L.deferLeaf (L.post hs h1) _)

theorem onDisconnectDefault (L : LiftT R P ok) {s : Sess} (hs : P s) :
    R s (Session.onDisconnectDefault s).2 (Session.onDisconnectDefault s).1 :=
  L.rejectAll (.closed 1) hs

theorem leaveHook (L : LiftT R P ok) {s : Sess} (hs : P s) (reason : Nat) (act : HAct) :
    R s (Session.leaveHook s reason act).2 (Session.leaveHook s reason act).1 := by
  unfold Session.leaveHook
  have h1 := L.runHook hs .onLeave reason act (fun s => Session.onLeaveDefault s reason) (fun h => L.onLeaveDefault h reason)
  refine L.trans h1 (L.emit (L.post hs h1) (L.okOf _ ?_))
  split <;> rfl

theorem disconnectHook (L : LiftT R P ok) {s : Sess} (hs : P s) (act : HAct) :
    R s (Session.disconnectHook s act).2 (Session.disconnectHook s act).1 := by
  unfold Session.disconnectHook
  have h1 := L.runHook hs .onDisconnect 0 act Session.onDisconnectDefault (fun h => L.onDisconnectDefault h)
  refine L.trans h1 (L.emit (L.post hs h1) (L.okOf _ ?_))
  split <;> rfl

theorem challengeFail (L : LiftT R P ok) {s : Sess} (hs : P s) (lact : HAct) :
    R s (Session.challengeFail s lact).2 (Session.challengeFail s lact).1 := by
  unfold Session.challengeFail
  split
  · exact L.cons hs rfl (L.out1 hs rfl)
  · exact L.cons hs rfl (L.cons hs rfl (L.lcThen hs (fun h => L.leaveHook h 3 lact) rfl rfl rfl))

/-- `hInv`: the callee continuation (`invDone` sends YIELD / ERROR) is the relation's own business -/
theorem runCont (L : LiftT R P ok)
    (hInv : ∀ {s : Sess} (req : ReqId) (o : EOut), P s → R s (Session.invDone s req o).2 (Session.invDone s req o).1) {s : Sess} (hs : P s) (k : Cont) :
    R s (Session.runCont s k).2 (Session.runCont s k).1 := by
  unfold Session.runCont
  split
  · next act => exact L.runHook hs .onConnect 0 act apiJoin (fun h => L.api .join h)
  · next sid res jact =>
    cases res with
    | deny => simp only []; split <;> exact L.out1 hs rfl
    | raised =>
      simp only []; split
      · exact L.cons hs rfl (L.out1 hs rfl)
      · exact L.out1 hs rfl
    | ok =>
      simp only []
      split
      · exact L.thenLc hs (L.out1 hs rfl) rfl rfl rfl
      · refine L.lcThen (s' := { s with sessionId := some sid }) hs (fun hs1 => ?_) rfl rfl rfl
        exact L.cons hs1 rfl (L.deferLeaf hs1 _)
  · next res lact =>
    cases res with
    | sig =>
      simp only []
      split
      · exact L.out1 hs rfl
      · split
        · exact L.out1 hs rfl
        · exact L.challengeFail hs lact
    | none_ =>
      simp only []
      split
      · exact L.out1 hs rfl
      · exact L.challengeFail hs lact
    | raised => exact L.challengeFail hs lact
  · next req o => exact hInv req o hs
  · exact L.runLeaf hs _

theorem defer (L : LiftT R P ok)
    (hInv : ∀ {s : Sess} (req : ReqId) (o : EOut), P s → R s (Session.invDone s req o).2 (Session.invDone s req o).1) {s : Sess} (hs : P s) (k : Cont) :
    R s (Session.defer s k).2 (Session.defer s k).1 := by
  unfold Session.defer
  split
  · exact L.runCont hInv hs k
  · exact L.enq k hs

theorem preSession (L : LiftT R P ok)
    (hInv : ∀ {s : Sess} (req : ReqId) (o : EOut), P s → R s (Session.invDone s req o).2 (Session.invDone s req o).1) {s : Sess} (hs : P s) (beh : List HAct) (m : InMsg) :
    R s (Session.preSession s beh m).2 (Session.preSession s beh m).1 := by
  unfold Session.preSession
  split
  · exact L.out1 hs rfl
  unfold Session.preSessionOpen
  split
  · have h1 := L.runHook hs .onWelcome 0 (beh.headD {}) (fun s => (s, [])) (fun h => L.refl h)
    exact L.trans h1 (L.defer hInv (L.post hs h1) _)
  · exact L.lcThen hs (fun h => L.leaveHook h 2 _) rfl rfl rfl
  · have h1 := L.runHook hs .onChallenge 0 (beh.headD {}) (fun s => (s, [])) (fun h => L.refl h)
    exact L.trans h1 (L.defer hInv (L.post hs h1) _)
  · exact L.out1 hs rfl

theorem tickList (L : LiftT R P ok)
    (hInv : ∀ {s : Sess} (req : ReqId) (o : EOut), P s → R s (Session.invDone s req o).2 (Session.invDone s req o).1) {s : Sess} (hs : P s) (items : List SOut) (hi : ∀ o ∈ items, ok o = true) :
    R s (Session.tickList s items).2 (Session.tickList s items).1 := by
  induction items generalizing s with
  | nil => exact L.refl hs
  | cons o rest ih =>
    have hrest : ∀ x ∈ rest, ok x = true := fun x hx => hi x (List.mem_cons_of_mem _ hx)
    cases o with
    | later k =>
      simp only [Session.tickList]
      have h1 := L.runCont hInv hs k
      exact L.trans h1 (ih (L.post hs h1) hrest)
    | _ =>
      simp only [Session.tickList]
      exact L.trans (L.out hs (List.forall_mem_singleton.mpr (hi _ List.mem_cons_self))) (ih hs hrest)

theorem tick (L : LiftT R P ok)
    (hInv : ∀ {s : Sess} (req : ReqId) (o : EOut), P s → R s (Session.invDone s req o).2 (Session.invDone s req o).1) {s : Sess} (hs : P s) : R s (Session.tick s).2 (Session.tick s).1 := by
  unfold Session.tick
  have h0 := L.clearQ hs
  exact L.trans h0 (L.tickList hInv (L.post hs h0) s.cbq (L.cbqOk hs))

theorem drain (L : LiftT R P ok)
    (hInv : ∀ {s : Sess} (req : ReqId) (o : EOut), P s → R s (Session.invDone s req o).2 (Session.invDone s req o).1) (n : Nat) {s : Sess} (hs : P s) : R s (Session.drain n s).2 (Session.drain n s).1 := by
  induction n generalizing s with
  | zero => exact L.refl hs
  | succ n ih =>
    unfold Session.drain
    split
    · exact L.refl hs
    · have h1 := L.tick hInv hs
      exact L.trans h1 (ih (L.post hs h1))

/-- the GOODBYE branch of an established session -/
theorem goodbye (L : LiftT R P ok) {s : Sess} (hs : P s) (act : HAct) :
    R s ((if s.goodbyeSent then [] else [SOut.send { typ := .goodbye }]) ++ (Session.leaveHook { s with sessionId := none, ended := true } 0 act).2)
      (Session.leaveHook { s with sessionId := none, ended := true } 0 act).1 := by
  have h1 : R s (if s.goodbyeSent then [] else [SOut.send { typ := .goodbye }]) s := by
    split
    · exact L.refl hs
    · exact L.out1 hs rfl
  exact L.trans h1 (L.lcThen hs (fun h => L.leaveHook h 0 act) rfl rfl rfl)

end LiftT

end Abverif.Session

import Abverif.Model.Handshake
import Abverif.Proofs.Lemmas.C07Str
import Abverif.Proofs.Lemmas.C07Origin
/-!
C07 — the stages of the server / client validation chains, and the chains as their composition (for Proofs/C07.lean).
Every stage is an instance of one statement, `Passes`: it lets the request pass, with a value read from the headers,
exactly when the corresponding conjunct of the Spec holds, and otherwise stops in an outcome of a stated kind.
`Passes.bind` composes stages, so `validate_passes` / `cvalidate_passes` say the same of the whole chains.
First what the stages need of a parsed header table: every key it holds is counted at least once (`HdrsWf`, `parse_wf`).
-/
namespace Abverif.Handshake
open Abverif Abverif.Http Abverif.Url

/-! ### parsed header tables -/

/-- parsed header tables count every key at least once -/
def HdrsWf (hs : List Hdr) : Prop := ∀ h ∈ hs, 1 ≤ h.cnt

theorem hget_mem {hs : List Hdr} {k : Bytes} {h : Hdr} (e : hget hs k = some h) : h ∈ hs := by
  induction hs with
  | nil => simp [hget] at e
  | cons x xs ih =>
    unfold hget at e
    split at e
    · simp at e; simp [e]
    · simp [ih e]

theorem hget_key {hs : List Hdr} {k : Bytes} {h : Hdr} (e : hget hs k = some h) : h.key = k := by
  induction hs with
  | nil => simp [hget] at e
  | cons x xs ih =>
    unfold hget at e
    split at e
    · next hk => simp at e; rw [← e]; exact hk
    · exact ih e

theorem hdrInsert_wf {hs : List Hdr} (wf : HdrsWf hs) (k v : Bytes) : HdrsWf (hdrInsert hs k v) := by
  induction hs with
  | nil => intro h hm; simp [hdrInsert] at hm; simp [hm]
  | cons x xs ih =>
    intro h hm
    unfold hdrInsert at hm
    split at hm
    · simp at hm
      rcases hm with rfl | hm
      · simp
      · exact wf h (by simp [hm])
    · simp at hm
      rcases hm with rfl | hm
      · exact wf _ (by simp)
      · exact ih (fun h hh => wf h (by simp [hh])) h hm

theorem addLines_wf {hs : List Hdr} (wf : HdrsWf hs) (ls : List Bytes) : HdrsWf (addLines hs ls) := by
  induction ls generalizing hs with
  | nil => simpa [addLines] using wf
  | cons l ls ih =>
    unfold addLines
    split
    · exact ih (hdrInsert_wf wf _ _)
    · exact ih wf

theorem parse_wf {data line : Bytes} {hs : List Hdr} (e : parseHttpHeader data = some (line, hs)) : HdrsWf hs := by
  unfold parseHttpHeader at e
  split at e
  · simp at e
  · simp at e
    rw [← e.2]
    exact addLines_wf (by intro h hm; simp at hm) _

theorem count_le_one {hs : List Hdr} (wf : HdrsWf hs) (k : Bytes) :
    count hs k ≤ 1 ↔ ∀ h, hget hs k = some h → ¬ h.cnt > 1 := by
  unfold count
  cases e : hget hs k with
  | none => simp
  | some h => simp

/-! ### a stage -/

/-- `x` passes, with the value `a`, exactly when `P` holds; otherwise it stops in an outcome of kind `Q` -/
structure Passes {ε α : Type} (x : Except ε α) (P : Prop) (a : α) (Q : ε → Prop) : Prop where
  ok : P → x = .ok a
  stop : ¬ P → ∃ e, x = .error e ∧ Q e

namespace Passes
variable {ε α β : Type} {x : Except ε α} {P P' : Prop} {a a' : α} {b : β} {Q : ε → Prop} {e : ε}

theorem ok_iff (h : Passes x P a Q) : x = .ok a' ↔ P ∧ a' = a := by
  by_cases hP : P
  · rw [h.ok hP]
    simp [hP, eq_comm]
  · obtain ⟨e, he, _⟩ := h.stop hP
    simp [he, hP]

theorem error (h : Passes x P a Q) (he : x = .error e) : Q e := by
  by_cases hP : P
  · rw [h.ok hP] at he; cases he
  · obtain ⟨e', he', hQ⟩ := h.stop hP
    rw [he] at he'; cases he'; exact hQ

theorem of_ok (hP : P) : Passes (.ok a : Except ε α) P a Q := ⟨fun _ => rfl, fun h => absurd hP h⟩

theorem of_error (hP : ¬ P) (hQ : Q e) : Passes (.error e : Except ε α) P a Q :=
  ⟨fun h => absurd h hP, fun _ => ⟨e, rfl, hQ⟩⟩

/-- at a leaf of a case analysis the stage is a plain `.ok` or `.error`, and what is left is a proposition -/
@[simp] theorem ok_leaf : Passes (.ok a' : Except ε α) P a Q ↔ P ∧ a' = a :=
  ⟨fun h => h.ok_iff.1 rfl, fun ⟨hP, ha⟩ => ha ▸ of_ok hP⟩

@[simp] theorem error_leaf : Passes (.error e : Except ε α) P a Q ↔ ¬ P ∧ Q e :=
  ⟨fun h => ⟨fun hP => (by cases h.ok hP), h.error rfl⟩, fun ⟨hP, hQ⟩ => of_error hP hQ⟩

theorem iff (h : Passes x P a Q) (hP : P ↔ P') : Passes x P' a Q := propext hP ▸ h

/-- the chain: what follows a stage is looked at only where the stage passes -/
theorem bind {g : α → Except ε β} (hx : Passes x P a Q) (hg : P → Passes (g a) P' b Q) :
    Passes (x >>= g) (P ∧ P') b Q := by
  by_cases hP : P
  · simp only [hx.ok hP, hP, true_and]
    exact hg hP
  · obtain ⟨e, he, hQ⟩ := hx.stop hP
    rw [he]
    exact of_error (fun h => hP h.1) hQ

theorem map {f : α → β} (hx : Passes x P a Q) : Passes (x >>= fun a' => pure (f a')) P (f a) Q :=
  (hx.bind (g := fun a' => pure (f a')) fun _ => of_ok (a := f a) trivial).iff (iff_of_eq (and_true _))

theorem refuseIf {c : Prop} [Decidable c] (hQ : Q e) (h : Passes x P a Q) :
    Passes (if c then .error e else x) (¬ c ∧ P) a Q := by
  by_cases hc : c
  · simp [hc, hQ]
  · simpa [hc] using h

theorem passIf {c : Prop} [Decidable c] (hQ : Q e) : Passes (if c then .ok a else .error e) c a Q := by
  by_cases hc : c <;> simp [hc, hQ]

variable {hs : List Hdr} {f : Hdr → Except ε α} {p : Bytes → Prop} {v : Bytes → α} {e₀ e₁ : ε}

/-- a header that has to occur exactly once -/
theorem once (wf : HdrsWf hs) (k : Bytes) (h₀ : Q e₀) (h₁ : Q e₁) (hf : ∀ h, Passes (f h) (p h.val) (v h.val) Q) :
    Passes (match hget hs k with
      | none => .error e₀
      | some h => if h.cnt > 1 then .error e₁ else f h) (count hs k = 1 ∧ p (value hs k)) (v (value hs k)) Q := by
  unfold count value
  cases e : hget hs k with
  | none => exact of_error (by simp) h₀
  | some h =>
    have := wf h (hget_mem e)
    exact (refuseIf h₁ (hf h)).iff (and_congr_left' (by dsimp only; omega))

/-- a header that has to occur; without it the stage answers `x₀`, which is not a pass -/
theorem present (wf : HdrsWf hs) (k : Bytes) {x₀ : Except ε α} (h₀ : hget hs k = none → Passes x₀ False (v []) Q)
    (hf : ∀ h, Passes (f h) (p h.val) (v h.val) Q) :
    Passes (match hget hs k with
      | none => x₀
      | some h => f h) (count hs k ≥ 1 ∧ p (value hs k)) (v (value hs k)) Q := by
  unfold count value
  cases e : hget hs k with
  | none => exact (h₀ e).iff (by simp)
  | some h =>
    have := wf h (hget_mem e)
    exact (hf h).iff (by simp; omega)

/-- a header that may occur once; without it the stage passes as it does on the empty value -/
theorem atMostOnce (k : Bytes) (h₁ : Q e₁) (hf : ∀ h, Passes (f h) (p h.val) (v h.val) Q) (hp : p []) :
    Passes (match hget hs k with
      | none => .ok (v [])
      | some h => if h.cnt > 1 then .error e₁ else f h) (count hs k ≤ 1 ∧ p (value hs k)) (v (value hs k)) Q := by
  unfold count value
  cases hget hs k with
  | none => exact of_ok ⟨Nat.zero_le _, hp⟩
  | some h => exact (refuseIf h₁ (hf h)).iff (and_congr_left' (by dsimp only; omega))

end Passes

/-! ### server -/

/-- an HTTP error response -/
def Fails (o : SrvOut) : Prop := ∃ c e, o = .fail c e

@[simp] theorem fails_fail (c : Nat) (e : List (Bytes × Bytes)) : Fails (.fail c e) := ⟨c, e, rfl⟩

theorem httpver_iff (ver : Bytes) : splitOn 47 ver = [b!"HTTP", b!"1.1"] ↔ ver = b!"HTTP/1.1" := by
  constructor
  · intro h
    have := splitOn_join 47 ver
    rw [h] at this
    simpa [join] using this.symm
  · intro h; subst h; decide

theorem stageUri_passes (env : SrvEnv) (uri : Bytes) :
    Passes (stageUri env uri) (∃ u, urlsplit env.brOk uri = some u ∧ u.fragment = []) () Fails := by
  unfold stageUri bad
  split
  · next h => simp [h]
  · next u h => exact (Passes.refuseIf (fails_fail _ _) (.of_ok trivial)).iff (by simp [h])

/-- the request line and its URI: the two stages that make up the Spec's `requestLineOk` -/
theorem stageLineUri_passes (env : SrvEnv) (line : Bytes) :
    Passes (stageLine line >>= stageUri env) (requestLineOk env line = true) () Fails := by
  unfold stageLine requestLineOk bad
  split
  · next m uri ver _ =>
    refine ((Passes.refuseIf (fails_fail _ _) (Passes.refuseIf (fails_fail _ _) (.of_ok trivial))).bind
      fun _ => stageUri_passes env uri).iff ?_
    cases urlsplit env.brOk uri <;> simp [httpver_iff, and_assoc]
  · exact .of_error Bool.false_ne_true (fails_fail _ _)

/-- the Spec's digit-by-digit port rule and the model of the code's pattern + `int()` read the same numerals -/
theorem rfcPort_eq (p : Bytes) (acc : Nat) :
    rfcPort p acc = if p.all isDigit then some (p.foldl (fun v c => v * 10 + digitVal c) acc) else none := by
  induction p generalizing acc with
  | nil => simp [rfcPort]
  | cons c r ih =>
    unfold rfcPort
    by_cases hc : (48 ≤ c && c ≤ 57) = true
    · have hd : isDigit c = true := hc
      rw [if_pos hc, ih]
      simp [hd, digitVal]
    · have hd : isDigit c = false := by simpa [isDigit] using hc
      rw [if_neg hc]
      simp [hd]

/-- the code's port reader in the Spec's terms: it reads the numerals of the Spec's grammar (`rfcPort_eq`), takes the empty
one for "no port" and refuses those of more digits than `int()` converts -/
theorem portNumeral_eq (p : Bytes) :
    portNumeral p =
      (rfcPort p 0).bind fun n => if p = [] then some none else if p.length ≤ 4300 then some (some n) else none := by
  rw [rfcPort_eq]
  unfold portNumeral
  split <;> rfl

theorem stageHost_passes {cfg : SrvCfg} {hs : List Hdr} (wf : HdrsWf hs) :
    Passes (stageHost cfg hs) (count hs b!"host" = 1 ∧ hostOk cfg (value hs b!"host") = true) () Fails :=
  Passes.once wf _ (p := (hostOk cfg · = true)) (v := fun _ => ()) (fails_fail _ _) (fails_fail _ _) fun h => by
    unfold hostOk bad
    dsimp only
    split
    · cases rcut 58 (strip h.val) with
      | none => simp
      | some hp =>
        obtain ⟨_, p⟩ := hp
        dsimp only
        rw [portNumeral_eq]
        cases rfcPort p 0 with
        | none => simp
        | some n =>
          by_cases he : p = []
          · simp [he]
          · by_cases hl : p.length ≤ 4300
            · simp only [Option.bind_some, he, hl, if_false, if_true]
              exact (Passes.refuseIf (fails_fail _ _) (.of_ok trivial)).iff (by simp [he]; omega)
            · simp [he, hl]
    · exact .of_ok rfl

/-- how the chain can stop: in an HTTP error, except for the web-status branch of the Upgrade stage, which answers with
the status page or a redirect (a malformed `redirect` / `after` parameter is an HTTP 400) -/
def Stops (cfg : SrvCfg) (hs : List Hdr) (o : SrvOut) : Prop :=
  Fails o ∨ (cfg.webStatus = true ∧ hget hs b!"upgrade" = none ∧
    ((∃ r, o = .statusPage r) ∨ (∃ u, o = .redirect303 u)))

theorem Passes.fails {α : Type} {x : Stage α} {P : Prop} {a : α} {cfg : SrvCfg} {hs : List Hdr}
    (h : Passes x P a Fails) : Passes x P a (Stops cfg hs) :=
  ⟨h.ok, fun hP => (h.stop hP).imp fun _ he => ⟨he.1, .inl he.2⟩⟩

theorem stageUpgrade_passes {cfg : SrvCfg} {env : SrvEnv} {hs : List Hdr} (wf : HdrsWf hs) :
    Passes (stageUpgrade cfg env hs)
      (count hs b!"upgrade" ≥ 1 ∧ hasToken b!"websocket" (value hs b!"upgrade") = true) () (Stops cfg hs) := by
  refine Passes.present wf _ (p := (hasToken b!"websocket" · = true)) (v := fun _ => ()) (fun hnone => ?_)
    fun _ => .passIf (.inl (fails_fail _ _))
  split
  · next hws => split <;> simp [Stops, hws, hnone, bad]
  · exact .of_error id (.inl (fails_fail _ _))

theorem stageConnection_passes {hs : List Hdr} (wf : HdrsWf hs) :
    Passes (stageConnection hs)
      (count hs b!"connection" ≥ 1 ∧ hasToken b!"upgrade" (value hs b!"connection") = true) () Fails :=
  Passes.present wf _ (p := (hasToken b!"upgrade" · = true)) (v := fun _ => ()) (fun _ => .of_error id (fails_fail _ _))
    fun _ => .passIf (fails_fail _ _)

/-- the pattern the code matches the version header against denotes exactly the RFC 6455 `version` production (0–255) -/
theorem versionNumeral_eq_rfcVersion (s : Bytes) : versionNumeral s = rfcVersion s := by
  unfold versionNumeral rfcVersion
  split
  · rfl
  · rfl
  · next a b c =>
    -- `digitVal` is unfolded only after the comparisons have become comparisons of `toNat`s
    simp only [isDigit, Bool.and_eq_true, Bool.or_eq_true, decide_eq_true_eq, beq_iff_eq,
      UInt8.le_iff_toNat_le, ← UInt8.toNat_inj, UInt8.reduceToNat]
    unfold digitVal
    generalize a.toNat = z; generalize b.toNat = x; generalize c.toNat = y
    by_cases hz : z = 49
    · -- `1dd` is at most 199
      subst hz
      simp only [true_and, Nat.reduceEqDiff, false_and, or_false, Nat.reduceSub, Nat.one_mul]
      split
      · rw [if_pos (by omega)]
      · rfl
    · by_cases hz2 : z = 50
      · -- `2[0-4]d` and `25[0-5]` are the numerals `2dd` up to 255
        subst hz2
        simp only [Nat.reduceEqDiff, false_and, false_or, true_and, or_true, Nat.reduceSub]
        by_cases hd : (48 ≤ x ∧ x ≤ 57) ∧ 48 ≤ y ∧ y ≤ 57
        · rw [if_pos hd]
          by_cases hn : 2 * 100 + (x - 48) * 10 + (y - 48) ≤ 255
          · rw [if_pos hn, if_pos (by omega)]
          · rw [if_neg hn, if_neg (by omega)]
        · rw [if_neg hd, if_neg (by omega)]
      · simp only [hz, hz2, false_and, or_self, if_false]
  · rfl

def askedVersion (hs : List Hdr) : Nat := (rfcVersion (value hs b!"sec-websocket-version")).getD 0

theorem stageVersion_passes {cfg : SrvCfg} {hs : List Hdr} (wf : HdrsWf hs) :
    Passes (stageVersion cfg hs)
      (count hs b!"sec-websocket-version" = 1 ∧
        ∃ v ∈ cfg.versions, rfcVersion (value hs b!"sec-websocket-version") = some v) (askedVersion hs) Fails :=
  Passes.once wf _ (p := fun s => ∃ v ∈ cfg.versions, rfcVersion s = some v) (v := fun s => (rfcVersion s).getD 0)
    (fails_fail _ _) (fails_fail _ _) fun h => by
      rw [versionNumeral_eq_rfcVersion]
      cases rfcVersion h.val with
      | none => simp [bad]
      | some v => by_cases hv : v ∈ cfg.versions <;> simp [hv]

/-- the protocols the client announced, as the server reads them -/
def offered (hs : List Hdr) : List Bytes :=
  match hget hs b!"sec-websocket-protocol" with
  | none => []
  | some h => (splitOn 44 h.val).map strip

theorem stageProtocols_passes (hs : List Hdr) :
    Passes (stageProtocols hs) ((splitOn 44 (value hs b!"sec-websocket-protocol")).map strip).Nodup (offered hs)
      Fails := by
  unfold stageProtocols value offered
  cases hget hs b!"sec-websocket-protocol" with
  | none => exact .of_ok (by decide)
  | some h => exact .passIf (fails_fail _ _)

/-- the origin header is the one the asked version names; the allowed-origins policy is whole-string glob matching
(`isSameOrigin_eq_fullMatch`) -/
theorem stageOrigin_passes {cfg : SrvCfg} {env : SrvEnv} {hs : List Hdr} (wf : HdrsWf hs) (ver : Nat) :
    Passes (stageOrigin cfg env hs ver)
      (count hs (originKey ver) = 0 ∨
        (count hs (originKey ver) = 1 ∧ originAllowed cfg env (value hs (originKey ver)) = true)) () Fails := by
  -- none of `once` / `present` / `atMostOnce` fits: without the header the stage passes, but not as it does on the
  -- empty value (`originAllowed cfg env [] = false`), so the Spec says `count = 0 ∨ (count = 1 ∧ …)`; the `iff` below
  -- turns the stage's `¬ cnt > 1` into that, given `1 ≤ cnt`
  unfold stageOrigin value count
  cases e : hget hs (originKey ver) with
  | none => exact .of_ok (.inl rfl)
  | some h =>
    have hpos := wf h (hget_mem e)
    refine (Passes.refuseIf (fails_fail _ _) (P := originAllowed cfg env h.val = true) ?_).iff
      ⟨fun ⟨hc, ha⟩ => .inr ⟨by dsimp only; omega, ha⟩, fun h => h.elim (by dsimp only; omega) fun ⟨hc, ha⟩ =>
        ⟨by dsimp only at hc; omega, ha⟩⟩
    unfold originAllowed
    cases ho : urlToOrigin env.brOk (strip h.val) with
    | none => simp [bad]
    | some o =>
      cases o with
      | null => by_cases hn : cfg.allowNullOrigin = true <;> simp [isSameOrigin, hn, bad]
      | triple s hh p =>
        dsimp only
        rw [isSameOrigin_eq_fullMatch _ ho]
        by_cases ha : (cfg.allowedOrigins.any fun pat => Glob.fullMatch pat (originHeader s hh p)) = true <;>
          simp [ha, bad]

theorem stageKey_passes {hs : List Hdr} (wf : HdrsWf hs) :
    Passes (stageKey hs)
      (count hs b!"sec-websocket-key" = 1 ∧ keyShapeOk (strip (value hs b!"sec-websocket-key")) = true)
      (strip (value hs b!"sec-websocket-key")) Fails :=
  Passes.once wf _ (p := fun v => keyShapeOk (strip v) = true) (v := strip) (fails_fail _ _) (fails_fail _ _) fun _ =>
    (Passes.refuseIf (fails_fail _ _) (Passes.refuseIf (fails_fail _ _) (Passes.refuseIf (fails_fail _ _)
      (.of_ok trivial)))).iff (by simp [keyShapeOk, and_assoc])

theorem stageExtensions_passes (hs : List Hdr) :
    Passes (stageExtensions hs) (count hs b!"sec-websocket-extensions" ≤ 1)
      (parseExtensions (value hs b!"sec-websocket-extensions")) Fails :=
  (Passes.atMostOnce _ (p := fun _ => True) (v := parseExtensions) (fails_fail _ _) (fun _ => .of_ok trivial)
    trivial).iff (iff_of_eq (and_true _))

theorem stageMax_passes (cfg : SrvCfg) (env : SrvEnv) :
    Passes (stageMax cfg env) (cfg.maxConnections = 0 ∨ env.connCount ≤ cfg.maxConnections) () Fails := by
  refine (Passes.refuseIf (c := cfg.maxConnections > 0 ∧ env.connCount > cfg.maxConnections) (fails_fail _ _)
    (.of_ok trivial)).iff ?_
  simp only [and_true]
  omega

/-- what the chain hands on, as read from the headers -/
def validated (hs : List Hdr) : Validated :=
  ⟨askedVersion hs, offered hs, strip (value hs b!"sec-websocket-key"),
    parseExtensions (value hs b!"sec-websocket-extensions")⟩

theorem originOk_iff {cfg : SrvCfg} {env : SrvEnv} {hs : List Hdr}
    (hv : ∃ v ∈ cfg.versions, rfcVersion (value hs b!"sec-websocket-version") = some v) :
    originOk cfg env hs = true ↔
      (count hs (originKey (askedVersion hs)) = 0 ∨
       (count hs (originKey (askedVersion hs)) = 1 ∧
        originAllowed cfg env (value hs (originKey (askedVersion hs))) = true)) := by
  obtain ⟨v, _, hv⟩ := hv
  simp [originOk, askedVersion, hv]

/-- the server chain as one stage: it passes exactly the requests that satisfy `ValidRequest` up to their compression
offers (those are judged by `succeedHandshake`), and hands on `validated hs` -/
theorem validate_passes (cfg : SrvCfg) (env : SrvEnv) (line : Bytes) {hs : List Hdr} (wf : HdrsWf hs) :
    Passes (validate cfg env line hs)
      (requestLineOk env line = true ∧
       (count hs b!"host" = 1 ∧ hostOk cfg (value hs b!"host") = true) ∧
       (count hs b!"upgrade" ≥ 1 ∧ hasToken b!"websocket" (value hs b!"upgrade") = true) ∧
       (count hs b!"connection" ≥ 1 ∧ hasToken b!"upgrade" (value hs b!"connection") = true) ∧
       (count hs b!"sec-websocket-version" = 1 ∧
          ∃ v ∈ cfg.versions, rfcVersion (value hs b!"sec-websocket-version") = some v) ∧
       ((splitOn 44 (value hs b!"sec-websocket-protocol")).map strip).Nodup ∧
       originOk cfg env hs = true ∧
       (count hs b!"sec-websocket-key" = 1 ∧ keyShapeOk (strip (value hs b!"sec-websocket-key")) = true) ∧
       count hs b!"sec-websocket-extensions" ≤ 1 ∧
       (cfg.maxConnections = 0 ∨ env.connCount ≤ cfg.maxConnections))
      (validated hs) (Stops cfg hs) := by
  unfold validate
  -- the line stage and the URI stage together are the first conjunct
  rw [← bind_assoc]
  exact (stageLineUri_passes env line).fails.bind fun _ => (stageHost_passes wf).fails.bind fun _ =>
    (stageUpgrade_passes wf).bind fun _ => (stageConnection_passes wf).fails.bind fun _ =>
    (stageVersion_passes wf).fails.bind fun hv => (stageProtocols_passes hs).fails.bind fun _ =>
    ((stageOrigin_passes wf _).fails.iff (originOk_iff hv.2).symm).bind fun _ =>
    (stageKey_passes wf).fails.bind fun _ => (stageExtensions_passes hs).fails.bind fun _ =>
    (stageMax_passes cfg env).fails.map

/-- the Spec's request predicate in terms of the chain: the chain passes and the compression offers are well-formed -/
theorem validRequest_iff (cfg : SrvCfg) (env : SrvEnv) (line : Bytes) {hs : List Hdr} (wf : HdrsWf hs) :
    ValidRequest cfg env line hs ↔
      validate cfg env line hs = .ok (validated hs) ∧ offersOk (value hs b!"sec-websocket-extensions") = true := by
  rw [(validate_passes cfg env line wf).ok_iff]
  exact ⟨fun v => ⟨⟨⟨v.line, v.host, v.upgrade, v.connection, v.version, v.protocols, v.origin, v.key, v.extensions.1,
      v.capacity⟩, rfl⟩, v.extensions.2⟩,
    fun ⟨⟨⟨line, host, upgrade, connection, version, protocols, origin, key, extensions, capacity⟩, _⟩, offers⟩ =>
      ⟨line, host, upgrade, connection, version, protocols, origin, key, ⟨extensions, offers⟩, capacity⟩⟩

/-! ### client -/

/-- the handshake is failed (the connection dropped) -/
def Dropped (o : CliOut) : Prop := o = .fail

@[simp] theorem dropped_fail : Dropped .fail := rfl

theorem statusCode_101 (s : Bytes) : statusCode s = some 101 ↔ s = b!"101" := by
  constructor
  · intro h
    unfold statusCode at h
    split at h
    · next a b c =>
      simp only [isDigit, Bool.and_eq_true, decide_eq_true_eq, UInt8.le_iff_toNat_le, UInt8.reduceToNat] at h
      unfold digitVal at h
      split at h
      · simp only [Option.some.injEq] at h
        have ha : a = 49 := UInt8.toNat_inj.1 (by simp only [UInt8.toNat_ofNat]; omega)
        have hb : b = 48 := UInt8.toNat_inj.1 (by simp only [UInt8.toNat_ofNat]; omega)
        have hc : c = 49 := UInt8.toNat_inj.1 (by simp only [UInt8.toNat_ofNat]; omega)
        subst ha hb hc
        rfl
      · cases h
    · cases h
  · rintro rfl
    decide

theorem cstageStatus_passes (line : Bytes) :
    Passes (cstageStatus line) (∃ rest, splitWs line = b!"HTTP/1.1" :: b!"101" :: rest) () Dropped := by
  unfold cstageStatus cbad
  split
  · next ver code rest hsp =>
    rw [hsp]
    by_cases hv : ver = b!"HTTP/1.1"
    · cases hp : statusCode code with
      | none => simp [hv, ← statusCode_101, hp]
      | some n => by_cases hn : n = 101 <;> simp [hv, hn, ← statusCode_101, hp]
    · simp [hv]
  · next hne => exact .of_error (fun ⟨r, h⟩ => hne _ _ _ h) rfl

theorem cstageUpgrade_passes {hs : List Hdr} (wf : HdrsWf hs) :
    Passes (cstageUpgrade hs) (count hs b!"upgrade" ≥ 1 ∧ lower (strip (value hs b!"upgrade")) = b!"websocket") ()
      Dropped :=
  Passes.present wf _ (p := fun v => lower (strip v) = b!"websocket") (v := fun _ => ())
    (fun _ => .of_error id dropped_fail) fun _ => .passIf dropped_fail

theorem cstageConnection_passes {hs : List Hdr} (wf : HdrsWf hs) :
    Passes (cstageConnection hs) (count hs b!"connection" ≥ 1 ∧ hasToken b!"upgrade" (value hs b!"connection") = true)
      () Dropped :=
  Passes.present wf _ (p := (hasToken b!"upgrade" · = true)) (v := fun _ => ())
    (fun _ => .of_error id dropped_fail) fun _ => .passIf dropped_fail

theorem cstageAccept_passes {hs : List Hdr} (wf : HdrsWf hs) (key : Bytes) :
    Passes (cstageAccept key hs)
      (count hs b!"sec-websocket-accept" = 1 ∧ strip (value hs b!"sec-websocket-accept") = acceptDigest key) ()
      Dropped :=
  Passes.once wf _ (p := fun v => strip v = acceptDigest key) (v := fun _ => ()) dropped_fail dropped_fail
    fun h => (Passes.refuseIf (c := strip h.val ≠ acceptDigest key) dropped_fail (.of_ok trivial)).iff (by simp)

theorem cextLoop_isSome (cfg : CliCfg) (es : List Ext) :
    (cextLoop cfg es false).isSome =
      (match es with
       | [] => true
       | [e] => isPmce e.name && pmceParamsOk false e && (cfg.accept != .denyAll)
       | _ => false) := by
  -- after one extension no further one is accepted
  have htrue : ∀ es : List Ext, (cextLoop cfg es true).isSome = es.isEmpty := by
    intro es
    cases es with
    | nil => rfl
    | cons e es => unfold cextLoop; split <;> rfl
  match es with
  | [] => rfl
  | e :: es =>
    have : (cextLoop cfg (e :: es) false).isSome =
        (isPmce e.name && pmceParamsOk false e && (cfg.accept != .denyAll) && es.isEmpty) := by
      unfold cextLoop
      by_cases h1 : isPmce e.name = true
      · by_cases h2 : pmceParamsOk false e = true
        · by_cases h3 : cfg.accept = .denyAll
          · simp [h1, h2, h3]
          · simp [h1, h2, h3, htrue]
        · simp [h1, h2]
      · simp [h1]
    rw [this]
    cases es <;> simp

theorem responseExtensionsOk_eq (cfg : CliCfg) (v : Bytes) :
    responseExtensionsOk cfg v = (cextLoop cfg (parseExtensions v) false).isSome := by
  rw [cextLoop_isSome]; rfl

/-- the extensions the client takes from the reply's header value (none when the loop refuses) -/
def granted (cfg : CliCfg) (v : Bytes) : List Bytes := (cextLoop cfg (parseExtensions v) false).getD []

theorem cstageExtensions_passes (cfg : CliCfg) (hs : List Hdr) :
    Passes (cstageExtensions cfg hs)
      (count hs b!"sec-websocket-extensions" ≤ 1 ∧
        responseExtensionsOk cfg (value hs b!"sec-websocket-extensions") = true)
      (granted cfg (value hs b!"sec-websocket-extensions")) Dropped :=
  Passes.atMostOnce _ (p := (responseExtensionsOk cfg · = true))
    (v := granted cfg) dropped_fail
    (fun h => by
      rw [responseExtensionsOk_eq]
      unfold granted
      cases cextLoop cfg (parseExtensions h.val) false <;> simp [cbad])
    rfl

/-- the subprotocol the client reads from the reply: an empty value is no subprotocol -/
def chosen (v : Bytes) : Option Bytes := if strip v = [] then none else some (strip v)

theorem cstageProtocol_passes (cfg : CliCfg) (hs : List Hdr) :
    Passes (cstageProtocol cfg hs)
      (count hs b!"sec-websocket-protocol" ≤ 1 ∧
        (strip (value hs b!"sec-websocket-protocol") = [] ∨
         strip (value hs b!"sec-websocket-protocol") ∈ cfg.protocols))
      (chosen (value hs b!"sec-websocket-protocol")) Dropped :=
  Passes.atMostOnce _ (p := fun v => strip v = [] ∨ strip v ∈ cfg.protocols) (v := chosen) dropped_fail
    (fun h => by
      unfold chosen
      by_cases h0 : strip h.val = []
      · simp [h0]
      · by_cases hm : strip h.val ∈ cfg.protocols <;> simp [h0, hm, cbad])
    (.inl rfl)

/-- the client chain as one stage: it passes exactly the valid responses, and stops only by failing the handshake
(drop), never by an exception -/
theorem cvalidate_passes (cfg : CliCfg) (key line : Bytes) {hs : List Hdr} (wf : HdrsWf hs) :
    Passes (cvalidate cfg key line hs) (ValidResponse cfg key line hs)
      (chosen (value hs b!"sec-websocket-protocol"),
        granted cfg (value hs b!"sec-websocket-extensions")) Dropped := by
  refine Passes.iff (P := _ ∧ _ ∧ _ ∧ _ ∧ _ ∧ _) ?_
    ⟨fun ⟨a, b, c, d, e, f⟩ => ⟨a, b, c, d, e, f⟩, fun ⟨a, b, c, d, e, f⟩ => ⟨a, b, c, d, e, f⟩⟩
  exact (cstageStatus_passes line).bind fun _ => (cstageUpgrade_passes wf).bind fun _ =>
    (cstageConnection_passes wf).bind fun _ => (cstageAccept_passes wf key).bind fun _ =>
    (cstageExtensions_passes cfg hs).bind fun _ => (cstageProtocol_passes cfg hs).map

end Abverif.Handshake

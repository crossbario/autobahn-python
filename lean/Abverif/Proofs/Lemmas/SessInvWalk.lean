import Abverif.Proofs.Lemmas.SessInv
import Abverif.Proofs.Lemmas.SessCallee
/-
The state invariant `Inv` is preserved by every step of the model, no step outputs a double completion
(`alreadyCalled`) or an impossible branch (`internal`), and a `Subscription` that is attached nowhere stays so and is
not invoked: `step_inv`, `run_inv`.
-/
namespace Abverif.Session
open Abverif.SessCodes

theorem occ_le_of {s s' : Sess} (ht : (s'.tbl .subscribe).Sublist (s.tbl .subscribe))
    (ho : ∀ x : Nat, (objsOf s'.subs).count x ≤ (objsOf s.subs).count x) (x : Nat) : occ x s' ≤ occ x s := by
  have := (ht.map (·.2.fut)).count_le x
  have := ho x
  simp only [occ, futsOf]; omega

theorem Inv'.shrink {s s' : Sess} (h : Inv' s) (hi : s'.issued = s.issued)
    (ht : ∀ k, (s'.tbl k).Sublist (s.tbl k)) (ho : ∀ x : Nat, (objsOf s'.subs).count x ≤ (objsOf s.subs).count x)
    (hl : s.futs.length ≤ s'.futs.length) (hc : ∀ x ∈ s'.futs, x.oldIn s ∨ x.ok) (hq : CbqOk s') : Inv' s' :=
  ⟨h.keys.same hi (fun k => (ht k).map _), h.count.of_forall hc, h.subs.of_le hl (occ_le_of (ht .subscribe) ho),
    h.futb.of hl (fun k _ he => Or.inl ((ht k).subset he)), hq⟩

theorem Clean.single {o : SOut} (h1 : o ≠ .raise_ .alreadyCalled) (h2 : o ≠ .caught .alreadyCalled)
    (h3 : o ≠ .raise_ .internal) (h4 : o ≠ .caught .internal) : Clean [o] := by
  intro x hx; simp at hx; subst hx; exact ⟨h1, h2, h3, h4⟩

/-- a step that draws no id, under which tables and attached handlers only shrink, futures are rewritten in place keeping
`Fut.ok` or appended, and whatever is emitted or queued is tame -/
theorem InvRel.of_shrink {s s' : Sess} {o : List SOut} (h : Inv s) (hn : s'.nextId = s.nextId) (hi : s'.issued = s.issued)
    (ht : ∀ k, (s'.tbl k).Sublist (s.tbl k)) (ho : ∀ x : Nat, (objsOf s'.subs).count x ≤ (objsOf s.subs).count x)
    (hl : s.futs.length ≤ s'.futs.length) (hc : ∀ x ∈ s'.futs, x.oldIn s ∨ x.ok) (hq : Tame s'.cbq) (hout : Tame o) :
    InvRel s o s' :=
  ⟨IdRel.of_same h.1 hn hi (fun x hx => (okInv_iff.mp (hq x hx)).1) hout.noIds, h.2.shrink hi ht ho hl hc hq.cbqOk,
    hout.clean, hl, Stays.of_le (fun x _ => occ_le_of (ht .subscribe) ho x) hout.noInv⟩

theorem InvRel.of_same {s s' : Sess} {o : List SOut} (h : Inv s) (hn : s'.nextId = s.nextId) (hi : s'.issued = s.issued)
    (ht : ∀ k, s'.tbl k = s.tbl k) (hs : s'.subs = s.subs) (hf : s'.futs = s.futs) (hq : Tame s'.cbq) (hout : Tame o) :
    InvRel s o s' :=
  InvRel.of_shrink h hn hi (fun k => ht k ▸ List.Sublist.refl _) (fun _ => hs ▸ Nat.le_refl _) (hf ▸ Nat.le_refl _)
    (fun _ hx => Or.inl (Fut.oldIn_of_mem (hf ▸ hx))) hq hout

/-- a silent update of the state under which tables and attached handlers only shrink; the equations default to
`rfl` / `simp`, tried once the target state is known -/
theorem InvRel.silent {s s' : Sess} (h : Inv s) (ht : ∀ k, (s'.tbl k).Sublist (s.tbl k))
    (ho : ∀ x : Nat, (objsOf s'.subs).count x ≤ (objsOf s.subs).count x)
    (e1 : s'.nextId = s.nextId := by first | rfl | simp) (e2 : s'.issued = s.issued := by first | rfl | simp)
    (e3 : s'.cbq = s.cbq := by first | rfl | simp) (e4 : s'.futs = s.futs := by first | rfl | simp) : InvRel s [] s' :=
  InvRel.of_shrink h e1 e2 ht ho (e4 ▸ Nat.le_refl _) (fun _ hx => Or.inl (Fut.oldIn_of_mem (e4 ▸ hx))) (e3 ▸ h.cbq) Tame.nil

theorem out_inv {s : Sess} (h : Inv s) {os : List SOut} (hc : Tame os) : InvRel s os s :=
  InvRel.of_same h rfl rfl (fun _ => rfl) rfl rfl h.cbq hc

theorem raise_inv {s : Sess} (h : Inv s) {e : Exc} (he : cleanB (.raise_ e) = true) : InvRel s [.raise_ e] s :=
  out_inv h (List.forall_mem_singleton.mpr (okInv_iff.mpr ⟨rfl, he, rfl⟩))

theorem emitCb_inv {s : Sess} (h : Inv s) {o : SOut} (ho : okInv o = true) : InvRel s (emitCb s o).2 (emitCb s o).1 := by
  have h1 : Tame [o] := List.forall_mem_singleton.mpr ho
  unfold emitCb
  split
  · exact out_inv h h1
  · exact InvRel.of_same h rfl rfl (fun k => by cases k <;> rfl) rfl rfl (h.cbq.append h1) Tame.nil

theorem okInv_of_lcOut (o : SOut) (ho : lcOut o = true) : okInv o = true := by
  cases o with
  | send m =>
    cases hr : isReqType m.typ with
    | false => simp [okInv, reqIdOf, hr, cleanB, isInvoke]
    | true => rw [lcOut, lcMsg_of_isReqType hr] at ho; cases ho
  | raise_ e => cases e <;> first | rfl | cases ho
  | caught e => cases e <;> first | rfl | cases ho
  | _ => first | rfl | cases ho

/-- an update of fields the invariants do not read, with outputs they tolerate -/
theorem lc_inv {s s' : Sess} {os : List SOut} (h : Inv s) (hc : s'.core = s.core) (ho : Tame os) : InvRel s os s' := by
  obtain ⟨e1, e2, e3, e4, e5⟩ := core_fields hc
  exact InvRel.of_same h e1 e2 (core_tbl hc) e3 e4 (e5 ▸ h.cbq) ho

/-- the cell of an open future is written (`resolve` / `reject` / the user's cancel): its count goes from 0 to 1, so
`Fut.ok` is kept; what is emitted, and what the queue becomes, is tame -/
theorem write_inv {s : Sess} (h : Inv s) {f : Nat} {x : Fut} (hx : s.futs[f]? = some x) (hc : x.cell.isSome = false)
    (o : Outcome) {q os : List SOut} (hq : Tame q) (hout : Tame os) :
    InvRel s os { s with futs := s.futs.set f { x with cell := some o, count := x.count + 1 }, cbq := q } := by
  have hcnt : x.count = 0 := by simpa [Fut.ok, hc] using h.2.count x (List.mem_of_getElem? hx)
  refine InvRel.of_shrink h rfl rfl (fun k => by cases k <;> exact List.Sublist.refl _) (fun _ => Nat.le_refl _) (by simp)
    (fun y hy => ?_) hq hout
  rcases List.mem_or_eq_of_mem_set hy with h1 | h1
  · exact Or.inl (Fut.oldIn_of_mem h1)
  · exact Or.inr (by simp [h1, Fut.ok, hcnt])

theorem settle_inv {s : Sess} (h : Inv s) {f : Nat} (hf : f < s.futs.length) (hc : s.called f = false) (o : Outcome) :
    InvRel s (settle s f o).2 (settle s f o).1 := by
  have hx : s.futs[f]? = some s.futs[f] := by simp [hf]
  rw [called_eq, hx] at hc
  rw [settle_open hx hc]
  -- the cell is written; then the callback is emitted or queued
  have hA : InvRel s [.complete f o]
      { s with futs := s.futs.set f { s.futs[f] with cell := some o, count := s.futs[f].count + 1 } } :=
    write_inv h hx hc o h.cbq (Tame.of_all rfl)
  split
  · exact hA.trans (emitCb_inv hA.post rfl)
  · exact hA

theorem pop_sublist (s : Sess) (kind : Kind) (id : ReqId) (k : Kind) :
    ((s.setTbl kind (adel id (s.tbl kind))).tbl k).Sublist (s.tbl k) := by
  rw [setTbl_tbl]; split
  · next e => subst e; exact adel_sublist _ _
  · exact List.Sublist.refl _

theorem pop_inv {s : Sess} (h : Inv s) (kind : Kind) (id : ReqId) : InvRel s [] (s.setTbl kind (adel id (s.tbl kind))) :=
  InvRel.silent h (pop_sublist s kind id) (fun _ => by simp)

theorem unwatch_inv {s : Sess} (h : Inv s) (f : FutId) : InvRel s [] (s.unwatch f) :=
  InvRel.of_shrink h (by simp) (by simp) (fun k => by simp) (fun _ => by simp) (by simp)
    (fun x hx => (unwatch_futs_ok s f x hx).elim (fun h => .inl (Fut.oldIn_of_mem h))
      fun ⟨y, hy, e⟩ => .inl ⟨y, hy, by rw [e], by rw [e]⟩)
    (by simpa using h.cbq) Tame.nil

/-- Once the message has been handed over (`h0`), `sendReq` returns, or it raises after the future is unwatched and
(`call` / `publish`) the record forgotten: tables only shrink. -/
theorem sendReq_inv {s0 s : Sess} {m : OutMsg} (h0 : InvRel s0 [.send m] s) (k : Kind) (id : ReqId) (f : Option FutId)
    (keep : Bool) (snd : SendRes) : InvRel s0 (sendReq s k id m f keep snd).2 (sendReq s k id m f keep snd).1 := by
  cases snd with
  | ok => exact h0.trans (out_inv h0.post (Tame.of_all (by cases f <;> rfl)))
  | raises =>
    have h1 : InvRel s [] (match f with | some f => s.unwatch f | none => s) := by
      cases f
      · exact InvRel.refl h0.post
      · exact unwatch_inv h0.post _
    refine h0.trans (h1.trans (?_ : InvRel _ ([] ++ [.raise_ .sendFailed]) _))
    cases keep
    · exact (pop_inv h1.post k id).trans (raise_inv (pop_inv h1.post k id).post rfl)
    · exact (InvRel.refl h1.post).trans (raise_inv h1.post rfl)

/-- a request is recorded: an id is drawn, the future created, the record written under the id, the message handed over -/
theorem record_inv {s : Sess} (h : Inv s) (k : Kind) (r : Req) (hr : r.fut = s.futs.length) {m : OutMsg}
    (hm : isReqType m.typ = true) (hq : m.req = s.drawId.2) :
    InvRel s [.send m] ((s.drawId.1.newFut k).1.setTbl k (aset s.drawId.2 r ((s.drawId.1.newFut k).1.tbl k))) := by
  have hid := drawId_id s h.1
  have ht : ∀ k', k' ≠ k →
      ((s.drawId.1.newFut k).1.setTbl k (aset s.drawId.2 r ((s.drawId.1.newFut k).1.tbl k))).tbl k' = s.tbl k' :=
    fun k' hk' => by simp [setTbl_tbl_ne hk']
  -- only the new future can occur once more than before
  have hocc : ∀ x : Nat, occ x ((s.drawId.1.newFut k).1.setTbl k (aset s.drawId.2 r ((s.drawId.1.newFut k).1.tbl k))) ≤
      occ x s + (if x = s.futs.length then 1 else 0) := by
    intro x
    simp only [occ, setTbl_subs, newFut_subs, drawId_subs]
    by_cases hk : k = .subscribe
    · subst hk
      have := count_futsOf_aset x s.drawId.2 r (s.tbl .subscribe)
      rw [hr] at this
      simp only [setTbl_tbl_self, newFut_tbl, drawId_tbl]; omega
    · rw [ht _ (Ne.symm hk)]; omega
  refine ⟨IdRel.of_draw h.1 (by simp) (by simp) (by simpa using h.1.2) (by rw [← hq]; exact reqIds_cons_send hm []),
    ⟨?_, h.2.count.of_forall ?_, h.2.subs.of_new (by simp) hocc, ?_, h.2.cbq.of_eq (by simp)⟩,
    Clean.of_all rfl, by simp, Stays.of_le (fun x hx => ?_) fun _ => NoInv.of_all rfl⟩
  · -- keys: table `k` gains the id just drawn
    refine h.2.keys.draw (by simp) k ?_ (fun k' hk' => by rw [ht k' hk']; exact List.Sublist.refl _)
    rw [setTbl_tbl_self, newFut_tbl, drawId_tbl, ← hid]; exact akeys_aset_sublist _ _ _
  · -- counts: the old futures and one that is new and open
    intro x hx
    rcases List.mem_append.mp (show x ∈ s.futs ++ [{ kind := k }] by simpa using hx) with hx | hx
    · exact .inl (Fut.oldIn_of_mem hx)
    · exact .inr (by simp [List.mem_singleton.mp hx, Fut.ok])
  · -- records hold allocated futures: the new record holds the new future
    intro k' e he
    by_cases hk : k' = k
    · subst hk
      rw [setTbl_tbl_self, newFut_tbl, drawId_tbl] at he
      rcases mem_aset he with h1 | h1
      · exact Nat.lt_of_lt_of_le (h.2.futb k' e h1) (by simp)
      · subst h1; simp [hr]
    · rw [ht k' hk] at he
      exact Nat.lt_of_lt_of_le (h.2.futb k' e he) (by simp)
  · -- a future that existed before is not the new one, so it occurs no more often than before
    have := hocc x
    rwa [if_neg (Nat.ne_of_lt hx), Nat.add_zero] at this

theorem request_inv {s : Sess} (h : Inv s) (k : Kind) (mkReq : FutId → Req) (mkMsg : ReqId → OutMsg)
    (hr : ∀ f, (mkReq f).fut = f) (hm : ∀ id, isReqType (mkMsg id).typ = true ∧ (mkMsg id).req = id)
    (keep : Bool) (snd : SendRes) :
    InvRel s (request s k mkReq mkMsg keep snd).2 (request s k mkReq mkMsg keep snd).1 :=
  sendReq_inv (record_inv h k _ (hr _) (hm _).1 (hm _).2) ..

theorem futureSuccess_inv {s : Sess} (h : Inv s) (k : Kind) (o : Outcome) :
    InvRel s (futureSuccess s k o).2 (futureSuccess s k o).1 := by
  -- the completed future is appended; then the callback is emitted or queued
  have hA : InvRel s [.complete s.futs.length o, .ret s.futs.length]
      { s with futs := s.futs ++ [{ kind := k, cell := some o, count := 1 }] } := by
    refine InvRel.of_shrink h rfl rfl (fun k => by cases k <;> exact List.Sublist.refl _)
      (fun x => Nat.le_refl _) (by simp) (fun x hx => ?_) h.cbq (Tame.of_all rfl)
    rcases List.mem_append.mp hx with hx | hx
    · exact Or.inl (Fut.oldIn_of_mem hx)
    · exact Or.inr (by simp [List.mem_singleton.mp hx, Fut.ok])
  exact hA.trans (emitCb_inv hA.post rfl)

/-- an unacknowledged `publish`: an id is drawn and sent, nothing is recorded (a stale record under the id goes when
`send()` raises) -/
theorem publishNoAck_inv {s : Sess} (h : Inv s) {m : OutMsg} (hm : m.typ = .publish) (hr : m.req = s.drawId.2) (snd : SendRes) :
    InvRel s (sendReq s.drawId.1 .publish s.drawId.2 m none false snd).2 (sendReq s.drawId.1 .publish s.drawId.2 m none false snd).1 := by
  refine sendReq_inv (s := s.drawId.1) ⟨IdRel.of_draw h.1 rfl rfl h.1.2 (by rw [← hr]; exact reqIds_cons_send (by rw [hm]; rfl) []),
    ⟨h.2.keys.draw rfl .publish (List.sublist_append_left _ _) (fun k _ => by simp), h.2.count, h.2.subs, h.2.futb, h.2.cbq⟩,
    Clean.of_all rfl, Nat.le_refl _, Stays.of_le (fun x _ => Nat.le_refl _) fun _ => NoInv.of_all rfl⟩ ..

/-- detaching a handler (`list.remove(subscription)` in `_unsubscribe`) only shrinks the handler lists -/
theorem detach_inv {s : Sess} (h : Inv s) (sid : SubId) (obj : FutId) :
    InvRel s [] { s with subs := aupd sid (removeObj obj ((alookup sid s.subs).getD [])) s.subs } :=
  InvRel.silent h (fun k => by cases k <;> exact List.Sublist.refl _)
    (fun x => count_objsOf_aupd_le x s.subs sid (removeObj_sublist _ _))

theorem cancelMsgs_tame (s : Sess) (f : FutId) (k : Kind) : Tame (cancelMsgs s f k) := by
  unfold cancelMsgs; split
  · split <;> exact Tame.of_all rfl
  · exact Tame.nil

theorem apiCancel_inv {s : Sess} (h : Inv s) (f : FutId) : InvRel s (apiCancel s f).2 (apiCancel s f).1 := by
  unfold apiCancel
  split
  · exact out_inv h (Tame.of_all rfl)
  · next x hx =>
    split
    · exact InvRel.refl h
    · next hc =>
      split
      · exact out_inv h (Tame.of_all rfl)
      · unfold cancelDo
        split
        · exact write_inv h hx (by simpa using hc) _ h.cbq ((cancelMsgs_tame s f x.kind).append (Tame.of_all rfl))
        · exact write_inv h hx (by simpa using hc) _ ((h.cbq.append (cancelMsgs_tame s f x.kind)).append (Tame.of_all rfl))
            (Tame.of_all rfl)

theorem invLiftA : LiftA InvRel Inv where
  trans := InvRel.trans
  post := fun _ r => r.post
  raise := fun _ he h => raise_inv h (by rcases he with rfl | rfl <;> rfl)
  request := fun k mkReq mkMsg keep snd hr hm h => request_inv h k mkReq mkMsg hr hm keep snd
  publishNoAck := fun _ snd hm hr h => publishNoAck_inv h hm hr snd
  detach := fun sid obj h => detach_inv h sid obj
  futureSuccess := fun k o h => futureSuccess_inv h k o
  cancel := fun f h => apiCancel_inv h f

theorem apiStep_inv {s : Sess} (a : Api) (h : Inv s) : InvRel s (apiStep s a).2 (apiStep s a).1 := by
  cases ha : a.isLife with
  | false => exact invLiftA.api a ha h
  | true =>
    exact lifeApi_lift (R := InvRel) (P := Inv) InvRel.trans (fun h' ho => lc_inv h' rfl fun o ho' => okInv_of_lcOut o (lcOut_of_sessOut (ho o ho')))
      (fun h' hc _ _ => lc_inv h' hc Tame.nil) a ha h

theorem mem_objsOf {subs : List (SubId × List SubRec)} {sub : SubId} {l : List SubRec} {r : SubRec}
    (h : alookup sub subs = some l) (hr : r ∈ l) : r.obj ∈ objsOf subs := by
  simp only [objsOf, List.mem_flatMap, List.mem_map]
  exact ⟨(sub, l), alookup_some_mem h, r, hr, rfl⟩

/-- a handler that is called is attached -/
theorem occ_pos_of_attached {s : Sess} {sub : SubId} {obj : FutId}
    (hr : ((alookup sub s.subs).getD []).any (·.obj == obj) = true) : 0 < occ obj s := by
  cases hl : alookup sub s.subs with
  | none => simp [hl] at hr
  | some l =>
    simp only [hl, Option.getD_some, List.any_eq_true, beq_iff_eq] at hr
    obtain ⟨r', hr', e'⟩ := hr
    exact Nat.lt_of_lt_of_le (List.count_pos_iff.mpr (e' ▸ mem_objsOf hl hr')) (Nat.le_add_right _ _)

theorem invLift : Lift InvRel Inv where
  refl := InvRel.refl
  trans := InvRel.trans
  post := fun _ r => r.post
  caught := fun r => ⟨r.ids.map reqIdOf_toCaught, r.inv, r.clean.map cleanB_toCaught, r.len, r.stays.map invokesObj_toCaught⟩
  api := fun a h => apiStep_inv a h
  userError := fun h => emitCb_inv h rfl
  invoke := fun {s sub r} args kw h hr =>
    ⟨IdRel.of_same h.1 rfl rfl h.1.2 rfl, h.2, Clean.of_all rfl, Nat.le_refl _, fun x _ h0 => ⟨h0, fun y hy => by
      rw [List.mem_singleton.mp hy]
      have := occ_pos_of_attached hr
      simp only [invokesObj, beq_eq_false_iff_ne, ne_eq]
      intro e; rw [e, h0] at this; exact absurd this (Nat.lt_irrefl 0)⟩⟩

theorem rejectList_inv {s : Sess} (h : Inv s) (o : Outcome) (fs : List FutId) (hb : ∀ f ∈ fs, (f : Nat) < s.futs.length) :
    InvRel s (rejectList s o fs).2 (rejectList s o fs).1 := by
  induction fs generalizing s with
  | nil => exact InvRel.refl h
  | cons f fs ih =>
    rw [rejectList_cons]
    split
    · exact ih h (fun g hg => hb g (List.mem_cons_of_mem _ hg))
    · next hc =>
      have h1 := settle_inv h (hb f List.mem_cons_self) (by simpa using hc) o
      refine InvRel.trans h1 (ih h1.post (fun g hg => ?_))
      exact Nat.lt_of_lt_of_le (hb g (List.mem_cons_of_mem _ hg)) h1.len

theorem outstanding_bound {s : Sess} (h : Inv s) : ∀ f ∈ s.outstanding, (f : Nat) < s.futs.length := by
  intro f hf
  simp only [Sess.outstanding, List.mem_map, List.mem_flatMap] at hf
  obtain ⟨e, ⟨k, _, he⟩, rfl⟩ := hf
  exact h.2.futb k e he

theorem invLiftX : LiftX InvRel Inv okInv where
  toLift := invLift
  okOf := okInv_of_lcOut
  lc := fun h hc => lc_inv h hc Tame.nil
  out := fun h ho => lc_inv h rfl ho
  emit := fun h ho => emitCb_inv h ho
  enq := fun k h =>
    InvRel.of_same h rfl rfl (fun k => by cases k <;> rfl) rfl rfl (h.cbq.append (Tame.of_all rfl)) Tame.nil
  lostMap := fun r => ⟨r.ids.map reqIdOf_toLost, r.inv, r.clean.map cleanB_toLost, r.len, r.stays.map invokesObj_toLost⟩
  cbqOk := fun h => h.cbq
  clearQ := fun h => InvRel.of_same h rfl rfl (fun k => by cases k <;> rfl) rfl rfl Tame.nil Tame.nil
  rejectAll := fun {s} o h =>
    have h1 : InvRel s [] s.clearTables :=
      InvRel.silent h (fun k => by cases k <;> exact List.nil_sublist _) (fun _ => Nat.le_refl _)
    h1.trans (rejectList_inv h1.post o s.outstanding (outstanding_bound h))

/-- a silent update `s2` of the state (the record popped, handlers or registrations adjusted), then the completion of
the popped record's future -/
theorem reply_inv {s s2 : Sess} {kind : Kind} {id : ReqId} {r : Req} (h : Inv s) (hr : alookup id (s.tbl kind) = some r)
    (hc : s.called r.fut = false) (o : Outcome) (r0 : InvRel s [] s2) (ef : s2.futs = s.futs := by first | rfl | simp) :
    InvRel s (settle s2 r.fut o).2 (settle s2 r.fut o).1 :=
  r0.trans (settle_inv r0.post (Nat.lt_of_lt_of_le (h.2.futb kind _ (alookup_some_mem hr)) r0.len)
    (by rw [called_eq, ef, ← called_eq]; exact hc) o)

/-- popping a subscribe request and attaching its `Subscription` (the handler lists become `S`): the future moves from
the table to the handler lists -/
theorem attach_inv {s : Sess} (h : Inv s) {id : ReqId} {r : Req} (hr : alookup id (s.tbl .subscribe) = some r)
    (S : List (SubId × List SubRec))
    (hS : ∀ x : Nat, (objsOf S).count x = (objsOf s.subs).count x + (if x = r.fut then 1 else 0)) :
    InvRel s [] { s.setTbl .subscribe (adel id (s.tbl .subscribe)) with subs := S } := by
  have ht := fun k => tbl_subs_update (s.setTbl .subscribe (adel id (s.tbl .subscribe))) S k ▸ pop_sublist s .subscribe id k
  have hocc : ∀ x : Nat, occ x { s.setTbl .subscribe (adel id (s.tbl .subscribe)) with subs := S } ≤ occ x s := by
    intro x
    have hpop := count_futsOf_pop x hr
    simp only [occ, tbl_subs_update, setTbl_tbl_self, hS]
    omega
  exact ⟨IdRel.of_same h.1 (by simp) (by simp) (by simpa using h.1.2) rfl,
    ⟨h.2.keys.same (by simp) (fun k => (ht k).map _), fun x hx => h.2.count x (by simpa using hx),
      h.2.subs.of_le (by simp) hocc, h.2.futb.of (by simp) (fun k e he => Or.inl ((ht k).subset he)),
      h.2.cbq.of_eq (by simp)⟩,
    Clean.nil, by simp, Stays.of_le (fun x _ => hocc x) NoInv.nil⟩

/-- the popped record's future is still open and the reply's body completes it; what the body does to handler lists and
registrations before keeps the invariant — SUBSCRIBED moves the request's future from the table to a handler list -/
theorem ReplyBody.inv {m : InMsg} {kind : Kind} {k : Sess → Req → Sess × List SOut} (hb : ReplyBody m kind k) {s : Sess}
    (h : Inv s) {id : ReqId} {r : Req} (hr : alookup id (s.tbl kind) = some r) (hc : s.called r.fut = false) :
    InvRel s (k (s.setTbl kind (adel id (s.tbl kind))) r).2 (k (s.setTbl kind (adel id (s.tbl kind))) r).1 := by
  have regs : ∀ G, InvRel s [] { s.setTbl kind (adel id (s.tbl kind)) with regs := G } := fun G =>
    InvRel.silent h (fun k => tbl_regs_update _ _ k ▸ pop_sublist s _ id k) (fun _ => by simp)
  cases hb with
  | plain => exact reply_inv h hr hc _ (pop_inv h _ _)
  | subscribed id' sub => exact reply_inv h hr hc _ (attach_inv h hr _ fun x => count_objsOf_attach x _ sub _)
  | unsubscribed id' =>
    exact reply_inv h hr hc _
      (InvRel.silent h (fun k => tbl_subs_update _ _ k ▸ pop_sublist s _ id k) (fun x => by simpa using count_objsOf_adel x _ _))
  | registered id' reg =>
    simp only []
    split
    · exact reply_inv h hr hc _ (regs _)
    · exact (pop_inv h .register id).trans (raise_inv (pop_inv h .register id).post rfl)
  | unregistered id' reg => exact reply_inv h hr hc _ (regs _)

theorem replySide_inv {s : Sess} (h : Inv s) (beh : List HAct) (m : InMsg) (hm : m.isReplySide = true) :
    InvRel s (onEstablished s beh m).2 (onEstablished s beh m).1 :=
  onEstablished_elim (C := fun r => InvRel s r.2 r.1) s beh hm
    (reply := fun _ _ _ _ hb hr hc => hb.inv h hr hc) (popped := fun _ _ => pop_inv h _ _)
    (violation := raise_inv h rfl) (ignored := InvRel.refl h)
    (event := fun _ _ _ _ => invLift.dispatch h _ _ _ _ _)
    (progress := fun _ _ => InvRel.trans (out_inv h (os := [_]) (Tame.of_all rfl)) (invLift.runAct h none _))

theorem step_inv {s : Sess} (e : SEv) (h : Inv s) : InvRel s (step s e).2 (step s e).1 :=
  invLiftX.step h e fun m beh _ => replySide_inv h beh m

theorem init_inv (mode : Sched) : Inv (init mode) := by
  refine ⟨init_idinv mode, ?_, ?_, ?_, ?_, ?_⟩
  · intro _
    have he : ∀ k, akeys ((init mode).tbl k) = [] := fun k => by cases k <;> rfl
    refine ⟨fun k id hid => ?_, fun k => ?_, fun k1 k2 id h1 => ?_⟩
    · rw [he] at hid; simp at hid
    · rw [he]; exact List.nodup_nil
    · rw [he] at h1; simp at h1
  · intro x hx; simp [init] at hx
  · constructor <;> intro x <;> simp [occ, init, objsOf, futsOf, Sess.tbl]
  · intro k e he; cases k <;> simp [init, Sess.tbl] at he
  · intro o ho; simp [init] at ho

theorem run_inv {s : Sess} (h : Inv s) (hist : List SEv) : InvRel s (runOuts s hist) (runState s hist) :=
  run_lift invLift (ok := fun _ => True) (fun e _ h => step_inv e h) h fun _ _ => trivial

/-- once detached, never invoked again — for every continuation of the history -/
theorem run_noInv {o : Nat} {s : Sess} (h : Inv s) (hb : o < s.futs.length) (h0 : occ o s = 0) (hist : List SEv) :
    NoInv o (runOuts s hist) :=
  ((run_inv h hist).stays o hb h0).2

end Abverif.Session

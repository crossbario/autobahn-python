import Abverif.Proofs.Lemmas.SessOrder
/-
`callbacks_ordered_once` on Twisted. Between the session model and the ordering part of the trace Spec (`oStep`) stands
the life of a session object as a four-phase automaton (`LStep`: no transport; connected and waiting for the router;
joined; session / join attempt over): the Spec's reader accepts every step of the automaton (`LStep.accepted`, about the
trace language only), and every event of a history in which the transport is used as the transports use it (`onOpen` /
`onClose` alternate, messages only in between) and user code does not call `join()` itself is a step of the automaton
(`step_LStep`, about the model only).
-/
namespace Abverif.Session
open Abverif.SessCodes Abverif.SessTrace

theorem oScan_skip (o : OS) (x : SOut) (hr : ranked x = false) (hh : isHello x = false ∨ o.ended = false) :
    oScan o x = (o, []) := by
  cases x with
  | hook h a =>
    have : hookRank h = 0 := by simpa [ranked] using hr
    simp [oScan, this]
  | fire e => simp [ranked] at hr
  | send m =>
    simp only [oScan]
    split
    · next hm =>
      have he : o.ended = false := by
        rcases hh with hh | hh
        · simp [isHello, hm] at hh
        · exact hh
      cases o; simp_all
    · rfl
  | _ => rfl

theorem oScans_skip (o : OS) (xs : List SOut) (h : ∀ x ∈ xs, ranked x = false ∧ (isHello x = false ∨ o.ended = false)) :
    oScans o xs = (o, []) := by
  induction xs with
  | nil => rfl
  | cons x xs ih =>
    have hx := h x List.mem_cons_self
    simp only [oScans, oScan_skip o x hx.1 hx.2]
    rw [ih (fun y hy => h y (List.mem_cons_of_mem _ hy))]
    rfl

theorem oScans_filter_visible (o : OS) (xs : List SOut) : oScans o (xs.filter visible) = oScans o xs := by
  induction xs generalizing o with
  | nil => rfl
  | cons x xs ih =>
    by_cases hv : visible x = true
    · simp [hv, oScans, ih]
    · have hx : oScan o x = (o, []) := by
        cases x <;> simp [visible] at hv <;> rfl
      simp [hv, oScans, ih, hx]

theorem oScans_skel (o : OS) (xs : List SOut) : oScans o (skel xs) = oScans o xs := by
  induction xs generalizing o with
  | nil => rfl
  | cons x xs ih =>
    by_cases hx : (ranked x || isHello x) = true
    · simp only [skel_mark hx, oScans, ih]
    · simp only [Bool.or_eq_true, not_or, Bool.not_eq_true] at hx
      simp only [skel_skip hx.1 hx.2, oScans, oScan_skip o x hx.1 (Or.inl hx.2)]
      exact ih o

theorem oScan_hook (o : OS) (h : Hook) (a : Nat) (hlt : o.rank < hookRank h) (hne : h ≠ .onLeave) :
    oScan o (.hook h a) = ({ o with rank := hookRank h }, []) := by
  have h0 : hookRank h ≠ 0 := by omega
  have h1 : ¬ hookRank h ≤ o.rank := by omega
  have h2 : max (hookRank h) o.rank = hookRank h := by omega
  simp [oScan, h0, h1, h2, hne]

theorem oScan_onLeave (o : OS) (a n : Nat) (hlt : o.rank < 3) (ho : o.owedLeave = n + 1) :
    oScan o (.hook .onLeave a) = ({ o with rank := 3, ended := true, owedLeave := n }, []) := by
  have h1 : ¬ 3 ≤ o.rank := by omega
  have h2 : max 3 o.rank = 3 := by omega
  simp [oScan, hookRank, h1, h2, ho]

theorem oScan_fire (o : OS) (e : ObsEv) (hlt : o.orank < obsRank e) :
    oScan o (.fire e) = ({ o with orank := obsRank e }, []) := by
  have h1 : ¬ obsRank e ≤ o.orank := by omega
  have h2 : max (obsRank e) o.orank = obsRank e := by omega
  simp [oScan, h1, h2]

def InMsg.obliges : InMsg → Bool
  | .welcome _ | .abort | .challenge | .goodbye => true
  | _ => false

theorem oScans_append (o : OS) (xs ys : List SOut) :
    oScans o (xs ++ ys) = ((oScans (oScans o xs).1 ys).1, (oScans o xs).2 ++ (oScans (oScans o xs).1 ys).2) := by
  induction xs generalizing o with
  | nil => simp [oScans]
  | cons x xs ih => simp [oScans, ih, List.append_assoc]

/-- The reader looks at a step's observations through `skel` only (and, for a message illegal in its phase, at whether
they are the protocol violation and nothing else). Its step once the parts are known: nothing obliged that is not met,
nothing reported. -/
theorem oStep_of {o o1 o2 : OS} {e : SEv} {outs : List SOut} (hpre : oPre o e (outs.filter visible) = (o1, []))
    (hs : oScans o1 (skel outs) = (o2, [])) (h0 : o2.owedLeave = 0) :
    oStep o e outs = ((match e with | .closed _ => { o2 with up := false, welcomed := false } | _ => o2), []) := by
  have e0 : ({ o2 with owedLeave := 0 } : OS) = o2 := by cases o2; simp_all
  rw [oScans_skel] at hs
  simp only [oStep, oScans_filter_visible, hpre, hs, h0, e0]
  cases e <;> rfl

theorem oStep_rejected (o : OS) (m : InMsg) (beh : List HAct) (hill : isIllegal o.welcomed o.ended m = true)
    (ho : o.owedLeave = 0) : oStep o (.msg m beh) [.raise_ .protocolError] = (o, []) := by
  have hv : [SOut.raise_ Exc.protocolError].filter visible = [SOut.raise_ Exc.protocolError] := rfl
  rw [oStep_of (o1 := o) (o2 := o) (by simp only [oPre, hill, hv, ↓reduceIte]) rfl ho]

/-- the notification hung on a callback moves the reader's observer rank at most to its own -/
theorem oScans_mayFire {o : OS} {e : ObsEv} {fs : List SOut} (hf : mayFire e fs) (h : o.orank < obsRank e) :
    ∃ k, o.orank ≤ k ∧ k ≤ obsRank e ∧ oScans o fs = ({ o with orank := k }, []) := by
  rcases hf with rfl | rfl
  · exact ⟨o.orank, Nat.le_refl _, Nat.le_of_lt h, rfl⟩
  · exact ⟨obsRank e, Nat.le_of_lt h, Nat.le_refl _, by simp only [oScans, oScan_fire o e h, List.append_nil]⟩

theorem oScans_leave {o : OS} {a : Nat} {fl : List SOut} (hf : mayFire .leave fl) (hr : o.rank < 3) (hor : o.orank < 4)
    (h1 : o.owedLeave = 1) :
    ∃ k, k ≤ 4 ∧ oScans o (.hook .onLeave a :: fl) = ({ o with rank := 3, ended := true, owedLeave := 0, orank := k }, []) := by
  obtain ⟨k, _, h3, h4⟩ := oScans_mayFire (o := { o with rank := 3, ended := true, owedLeave := 0 }) hf hor
  exact ⟨k, h3, by simp only [oScans, oScan_onLeave o a 0 hr h1, h4, List.append_nil]⟩

theorem oScans_disconnect {o : OS} {fd : List SOut} (hf : mayFire .disconnect fd) (hr : o.rank < 4) (hor : o.orank < 5) :
    ∃ k, oScans o (.hook .onDisconnect 0 :: fd) = ({ o with rank := 4, orank := k }, []) := by
  obtain ⟨k, _, _, h4⟩ := oScans_mayFire (o := { o with rank := hookRank .onDisconnect }) hf hor
  exact ⟨k, by rw [oScans, oScan_hook o .onDisconnect 0 hr (by decide), h4]; rfl⟩

/-- the phases in the life of a session object: no transport; connected and waiting for the router; joined; session or
attempt to join over (until the transport goes) -/
inductive Ph | down | pre | joined | over
deriving DecidableEq

/-- the six fields of the Spec's reader between two events -/
def Ph.os : Ph → OS → Prop
  | .down, o => o.owedLeave = 0
  | .pre, o => o = { up := true, welcomed := false, ended := false, rank := 1, orank := 1, owedLeave := 0 }
  | .joined, o => o = { up := true, welcomed := true, ended := false, rank := 2, orank := 3, owedLeave := 0 }
  | .over, o => ∃ k, k ≤ 4 ∧ o = { up := true, welcomed := false, ended := true, rank := 3, orank := k, owedLeave := 0 }

theorem Ph.os_owed {p : Ph} {o : OS} (h : p.os o) : o.owedLeave = 0 := by
  cases p with
  | down => exact h
  | pre | joined => rw [show o = _ from h]
  | over => obtain ⟨k, _, rfl⟩ := h; rfl

/-- `onWelcome` returned `None`: the session is established -/
def HAct.accepts (a : HAct) : Bool := !a.raises && a.ret == .unit

/-- what ends a session / an attempt to join from inside `onMessage`: router ABORT, a failing `onChallenge`, the GOODBYE
that ends a joined session -/
def ends (p : Ph) (m : InMsg) (beh : List HAct) : Prop :=
  (p = .pre ∧ m = .abort) ∨ (p = .pre ∧ m = .challenge ∧ (beh.headD {}).raises = true) ∨ (p = .joined ∧ m = .goodbye)

/-- a legal message before the session is established that leaves the session waiting for the router -/
def waits (m : InMsg) (beh : List HAct) : Prop :=
  (m = .challenge ∧ (beh.headD {}).raises = false) ∨ ∃ sid, m = .welcome sid ∧ (beh.headD {}).accepts = false

/-- One event in the life of a session object on Twisted, as far as the ordering clauses can see it: the phase before,
the event, its observations (through `skel`, except for a rejected message), the phase after. -/
inductive LStep : Ph → SEv → List SOut → Ph → Prop
  | plain {p e outs} : e.plain = true → skel outs = [] → LStep p e outs p
  | opened {acts outs hs} : skel outs = .fire .connect :: .hook .onConnect 0 :: hs → (∀ x ∈ hs, ranked x = false) →
      LStep .down (.open_ acts) outs .pre
  | lost {p acts outs fd} : p = .pre ∨ p = .over → skel outs = .hook .onDisconnect 0 :: fd → mayFire .disconnect fd →
      LStep p (.closed acts) outs .down
  | lostJoined {acts outs a fl fd} : skel outs = .hook .onLeave a :: (fl ++ .hook .onDisconnect 0 :: fd) → mayFire .leave fl →
      mayFire .disconnect fd → LStep .joined (.closed acts) outs .down
  | rejected {p m beh} : p ≠ .down → isIllegal (p == .joined) (p == .over) m = true →
      LStep p (.msg m beh) [.raise_ .protocolError] p
  | served {m beh outs} : isIllegal true false m = false → m.obliges = false → (∀ x ∈ skel outs, ranked x = false) →
      LStep .joined (.msg m beh) outs .joined
  | waiting {m beh outs} : waits m beh → skel outs = [] → LStep .pre (.msg m beh) outs .pre
  | welcomed {sid beh outs} : (beh.headD {}).accepts = true → skel outs = [.fire .join, .hook .onJoin 0, .fire .ready] →
      LStep .pre (.msg (.welcome sid) beh) outs .joined
  | left {p m beh outs a fl} : ends p m beh → skel outs = .hook .onLeave a :: fl → mayFire .leave fl →
      LStep p (.msg m beh) outs .over

/-- The Spec's reader accepts every step of the automaton: it reports no violation of the ordering clauses, and its
fields are those of the next phase. -/
theorem LStep.accepted {p p' : Ph} {e : SEv} {outs : List SOut} (h : LStep p e outs p') {o : OS} (ho : p.os o) :
    p'.os (oStep o e outs).1 ∧ (oStep o e outs).2 = [] := by
  cases h with
  | plain he hs =>
    rw [oStep_of (o2 := o) (by cases e <;> first | rfl | cases he) (by rw [hs]; rfl) (Ph.os_owed ho)]
    cases e <;> first | exact ⟨ho, rfl⟩ | cases he
  | @opened acts outs hs hsk hh =>
    have h1 : oScans { up := true, welcomed := false, ended := false, rank := 0, orank := 0, owedLeave := 0 }
        (.fire .connect :: .hook .onConnect 0 :: hs) =
        oScans { up := true, welcomed := false, ended := false, rank := 1, orank := 1, owedLeave := 0 } hs := rfl
    rw [oStep_of (o1 := _) (o2 := _) rfl (by rw [hsk, h1]; exact oScans_skip _ _ fun x hx => ⟨hh x hx, Or.inr rfl⟩) rfl]
    exact ⟨rfl, rfl⟩
  | @lost p acts outs fd hp hs hf =>
    have hw : oPre o (.closed acts) (outs.filter visible) = (o, []) ∧ o.rank < 4 ∧ o.orank < 5 ∧ o.owedLeave = 0 := by
      rcases hp with rfl | rfl
      · rw [show o = _ from ho]; exact ⟨rfl, by decide, by decide, rfl⟩
      · obtain ⟨k, hk, rfl⟩ := ho; exact ⟨rfl, Nat.lt_succ_self 3, by show k < 5; omega, rfl⟩
    obtain ⟨k, hd⟩ := oScans_disconnect hf hw.2.1 hw.2.2.1
    rw [oStep_of (o2 := { o with rank := 4, orank := k }) hw.1 (hs ▸ hd) hw.2.2.2]
    exact ⟨hw.2.2.2, rfl⟩
  | @lostJoined acts outs a fl fd hs hl hd =>
    subst ho
    obtain ⟨k, hk, h1⟩ := oScans_leave (o := { up := true, welcomed := true, ended := false, rank := 2, orank := 3, owedLeave := 1 })
      (a := a) hl (by decide) (by decide) rfl
    obtain ⟨k', h2⟩ := oScans_disconnect (o := { up := true, welcomed := true, ended := true, rank := 3, orank := k, owedLeave := 0 })
      hd (Nat.lt_succ_self 3) (by show k < 5; omega)
    rw [oStep_of (o1 := { up := true, welcomed := true, ended := false, rank := 2, orank := 3, owedLeave := 1 }) rfl
      (by rw [hs, ← List.cons_append, oScans_append, h1, h2]; rfl) rfl]
    exact ⟨rfl, rfl⟩
  | @rejected p m beh hp hill =>
    have hi : isIllegal o.welcomed o.ended m = true := by
      cases p with
      | down => exact absurd rfl hp
      | pre | joined => rw [show o = _ from ho]; exact hill
      | over => obtain ⟨k, _, rfl⟩ := ho; exact hill
    rw [oStep_rejected o m beh hi (Ph.os_owed ho)]
    exact ⟨ho, rfl⟩
  | @served m beh outs hleg hob hh =>
    have ho' : o = _ := ho
    -- a legal message that obliges nothing: the reader's `oPre` does nothing
    have hill : isIllegal o.welcomed o.ended m = false := by rw [ho']; exact hleg
    have hpre : oPre o (.msg m beh) (outs.filter visible) = (o, []) := by
      cases m <;> simp [InMsg.obliges] at hob <;> simp [oPre, hill]
    -- nothing ranked among the observations, and HELLO does nothing while the record is clear
    have hs := oScans_skip o (skel outs) fun x hx => ⟨hh x hx, Or.inr (by rw [ho'])⟩
    rw [oStep_of hpre hs (Ph.os_owed ho)]
    exact ⟨ho, rfl⟩
  | @waiting m beh outs hm hs =>
    rw [oStep_of (o1 := o) (o2 := o) ?_ (by rw [hs]; rfl) (Ph.os_owed ho)]
    · exact ⟨ho, rfl⟩
    · rw [show o = _ from ho]
      rcases hm with ⟨rfl, hr⟩ | ⟨sid, rfl, ha⟩
      · simp only [oPre, isIllegal, Bool.or_self, Bool.false_eq_true, ↓reduceIte, hr]
      · simp only [oPre, isIllegal, Bool.or_self, Bool.false_eq_true, ↓reduceIte, Bool.true_and,
          show (!(beh.headD {}).raises && (beh.headD {}).ret == .unit) = false from ha]
  | @welcomed sid beh outs ha hs =>
    subst ho
    rw [oStep_of (o1 := { up := true, welcomed := true, ended := false, rank := 1, orank := 1, owedLeave := 0 }) (o2 := _)
      (by simp only [oPre, isIllegal, Bool.or_self, Bool.false_eq_true, ↓reduceIte, Bool.true_and,
        show (!(beh.headD {}).raises && (beh.headD {}).ret == .unit) = true from ha])
      (by rw [hs]; rfl) rfl]
    exact ⟨rfl, rfl⟩
  | @left p m beh outs a fl he hs hf =>
    have fin : ∀ o1 : OS, oPre o (.msg m beh) (outs.filter visible) = (o1, []) → o1.up = true → o1.welcomed = false →
        o1.rank < 3 → o1.orank < 4 → o1.owedLeave = 1 →
        Ph.over.os (oStep o (.msg m beh) outs).1 ∧ (oStep o (.msg m beh) outs).2 = [] := by
      intro o1 hpre hu hw hr hor h1
      obtain ⟨k, hk, h⟩ := oScans_leave (a := a) hf hr hor h1
      rw [oStep_of hpre (hs ▸ h) rfl]
      exact ⟨⟨k, hk, by rw [← hu, ← hw]⟩, rfl⟩
    rcases he with ⟨rfl, rfl⟩ | ⟨rfl, rfl, hr⟩ | ⟨rfl, rfl⟩
    · subst ho; exact fin _ rfl rfl rfl (by decide) (by decide) rfl
    · subst ho
      exact fin { up := true, welcomed := false, ended := false, rank := 1, orank := 1, owedLeave := 1 }
        (by simp only [oPre, isIllegal, Bool.or_self, Bool.false_eq_true, ↓reduceIte, hr]) rfl rfl (by decide) (by decide) rfl
    · subst ho; exact fin _ rfl rfl rfl (by decide) (by decide) rfl

/-- the session object between two events -/
def Ph.sess : Ph → Sess → Prop
  | .down, s => s.transport = false ∧ s.sessionId = none
  | .pre, s => s.transport = true ∧ s.sessionId = none ∧ s.ended = false
  | .joined, s => s.transport = true ∧ s.sessionId.isSome = true ∧ s.ended = false
  | .over, s => s.transport = true ∧ s.sessionId = none ∧ s.ended = true

theorem Ph.sess_up {p : Ph} {s : Sess} (h : p.sess s) (ht : s.transport = true) : p ≠ .down := by
  rintro rfl
  rw [h.1] at ht; cases ht

theorem Ph.sess_joined {p : Ph} {s : Sess} (h : p.sess s) : s.sessionId.isSome = (p == .joined) := by
  cases p with
  | down => rw [h.2]; rfl
  | pre | over => rw [h.2.1]; rfl
  | joined => exact h.2.1

/-- Twisted scheduling, nothing but plain callbacks queued, and the phase -/
structure MInv (s : Sess) (p : Ph) : Prop where
  mode : s.mode = .sync
  q : ∀ x ∈ s.cbq, lifeOut x = false
  ph : p.sess s

/-- after a calm step from a state like `s` (Twisted, plain queue): what is left to show is the phase -/
theorem Calm.minv {b : Bool} {s s' : Sess} {p : Ph} {outs : List SOut} (c : Calm b s outs s') (hm : s.mode = .sync)
    (hq : ∀ x ∈ s.cbq, lifeOut x = false) (hp : p.sess s') : MInv s' p :=
  ⟨c.mode.trans hm, fun x hx => (c.queue x hx).elim (hq x) id, hp⟩

theorem MInv.calm {b : Bool} {s s' : Sess} {p : Ph} {outs : List SOut} (hi : MInv s p) (c : Calm b s outs s')
    (hb : b = true ∨ s.ended = false) : MInv s' p := by
  refine c.minv hi.mode hi.q ?_
  have he := c.ended hb
  have hp := hi.ph
  cases p with
  | down => exact ⟨c.transport.trans hp.1, c.sid.trans hp.2⟩
  | pre | over => exact ⟨c.transport.trans hp.1, c.sid.trans hp.2.1, he.trans hp.2.2⟩
  | joined => exact ⟨c.transport.trans hp.1, by rw [c.sid]; exact hp.2.1, he.trans hp.2.2⟩

/-- the model's step on `e` from a state `s` in phase `p` refines a step of the automaton: its observations are a step
from `p`, and it leads to a state of the phase that step leads to -/
def Refines (s : Sess) (p : Ph) (e : SEv) : Prop := ∃ p', LStep p e (step s e).2 p' ∧ MInv (step s e).1 p'

/-- … shown on what the step computes to -/
theorem Refines.of_step {s : Sess} {p : Ph} {e : SEv} {r : Sess × List SOut} (h : step s e = r)
    (hr : ∃ p', LStep p e r.2 p' ∧ MInv r.1 p') : Refines s p e := by
  subst h; exact hr

theorem headD_noJoin (l : List HAct) (h : l.all HAct.noJoin = true) :
    (l.headD {}).noJoin = true ∧ l.tail.all HAct.noJoin = true := by
  cases l with
  | nil => exact ⟨rfl, rfl⟩
  | cons a r => simpa using h

theorem open_LStep {s : Sess} (hi : MInv s .down) (acts : List HAct) (hj : acts.all HAct.noJoin = true) :
    Refines s .down (.open_ acts) := by
  have hm0 : ({ s with transport := true, ended := false } : Sess).mode = .sync := hi.mode
  obtain ⟨mid, h1, h2⟩ := runHook_shape false { s with transport := true, ended := false } .onConnect 0 (acts.headD {}) apiJoin
    (apiJoin_calm _) (headD_noJoin acts hj).1
  refine .of_step rfl ?_
  simp only [step, onOpen, defer_sync hm0, runCont, h1]
  exact ⟨.pre, .opened (by rw [skel_mark rfl, skel_mark rfl]) h2.skel_unranked,
    h2.minv hm0 hi.q ⟨h2.transport, h2.sid.trans hi.ph.2, h2.ended (Or.inr rfl)⟩⟩

theorem closed_LStep {s : Sess} {p : Ph} (hi : MInv s p) (ht : s.transport = true) (acts : List HAct)
    (hj : acts.all HAct.noJoin = true) : Refines s p (.closed acts) := by
  have hjb := (headD_noJoin acts.tail (headD_noJoin acts hj).2).1
  have hpj := Ph.sess_joined hi.ph
  refine .of_step rfl ?_
  simp only [step, onClose]
  split
  · -- a session: `onLeave`, then the session id is cleared, then `onDisconnect`
    next hsid =>
    obtain rfl : p = .joined := by rw [show s.sessionId = _ from hsid] at hpj; simpa using hpj.symm
    obtain ⟨⟨fl, h1, h2⟩, c1⟩ := leaveHook_skel (s := { s with transport := false }) hi.mode 1 (acts.headD {}) (headD_noJoin acts hj).1
    generalize leaveHook { s with transport := false } 1 (acts.headD {}) = L at h1 c1 ⊢
    have hi1 : MInv { L.1 with sessionId := none } .down :=
      ⟨c1.mode.trans hi.mode, fun x hx => (c1.queue x hx).elim (hi.q x) id, c1.transport, rfl⟩
    obtain ⟨⟨fd, h3, h4⟩, c2⟩ := disconnectHook_skel hi1.mode (acts.tail.headD {}) hjb
    exact ⟨.down, .lostJoined (by rw [skel_append, h1, h3]; rfl) h2 h4, hi1.calm c2 (Or.inl rfl)⟩
  · -- no session: `onDisconnect` alone
    next hsid =>
    have hp : p = .pre ∨ p = .over := by
      rw [show s.sessionId = _ from hsid] at hpj
      cases p with
      | down => exact absurd rfl (Ph.sess_up hi.ph ht)
      | pre => exact Or.inl rfl
      | over => exact Or.inr rfl
      | joined => cases hpj
    obtain ⟨⟨fd, h1, h2⟩, c⟩ := disconnectHook_skel (s := { s with transport := false }) hi.mode (acts.tail.headD {}) hjb
    exact ⟨.down, .lost hp h1 h2, (show MInv { s with transport := false } .down from ⟨hi.mode, hi.q, rfl, hsid⟩).calm c (Or.inl rfl)⟩

/-- `onLeave` with its notification at the end of a session / an attempt to join, after a beginning `pre` that shows
nothing: afterwards the session / the attempt is over -/
theorem leave_over {s1 : Sess} (hi1 : MInv s1 .over) (pre : List SOut) (hpre : skel pre = []) (reason : Nat) (act : HAct)
    (hj : act.noJoin = true) :
    (∃ fl, skel (pre ++ (leaveHook s1 reason act).2) = .hook .onLeave reason :: fl ∧ mayFire .leave fl) ∧
      MInv (leaveHook s1 reason act).1 .over := by
  obtain ⟨⟨fl, h1, h2⟩, c⟩ := leaveHook_skel hi1.mode reason act hj
  exact ⟨⟨fl, by rw [skel_append, hpre, h1]; rfl, h2⟩, hi1.calm c (Or.inl rfl)⟩

theorem pre_abort_LStep {s : Sess} (hi : MInv s .pre) (beh : List HAct) (hj : beh.all HAct.noJoin = true) :
    Refines s .pre (.msg .abort beh) := by
  obtain ⟨⟨fl, h1, h2⟩, h3⟩ := leave_over (s1 := { s with ended := true }) ⟨hi.mode, hi.q, hi.ph.1, hi.ph.2.1, rfl⟩ [] rfl 2
    (beh.headD {}) (headD_noJoin beh hj).1
  exact .of_step (step_pre hi.ph.2.1 hi.ph.2.2 _ _) ⟨.over, .left (Or.inl ⟨rfl, rfl⟩) h1 h2, h3⟩

theorem joined_goodbye_LStep {s : Sess} (hi : MInv s .joined) (beh : List HAct) (hj : beh.all HAct.noJoin = true) :
    Refines s .joined (.msg .goodbye beh) := by
  obtain ⟨sid, hsid⟩ := Option.isSome_iff_exists.mp hi.ph.2.1
  obtain ⟨⟨fl, h1, h2⟩, h3⟩ := leave_over (s1 := { s with sessionId := none, ended := true }) ⟨hi.mode, hi.q, hi.ph.1, rfl, rfl⟩
    (if s.goodbyeSent then [] else [.send { typ := .goodbye }]) (by split <;> rfl) 0 (beh.headD {}) (headD_noJoin beh hj).1
  refine .of_step (step_est hsid _ _) ?_
  simp only [onEstablished]
  rw [if_neg (by simp [hi.ph.1])]
  exact ⟨.over, .left (Or.inr (Or.inr ⟨rfl, rfl⟩)) h1 h2, h3⟩

/-- a callback without default body, then the continuation hung on its result (at once, on Twisted) -/
theorem hook_then_cont {s : Sess} (hm : s.mode = .sync) (h : Hook) (hh : hookRank h = 0) (act : HAct) (hj : act.noJoin = true) :
    ∃ pre s1, Calm true s pre s1 ∧ ∀ k : Cont,
      ((defer (runHook s h 0 act (fun s => (s, []))).1 k).1,
        (runHook s h 0 act (fun s => (s, []))).2 ++ (defer (runHook s h 0 act (fun s => (s, []))).1 k).2) =
      ((runCont s1 k).1, pre ++ (runCont s1 k).2) := by
  obtain ⟨mid, e1, c1⟩ := runHook_shape true s h 0 act (fun s => (s, [])) (Calm.refl true s) hj
  exact ⟨_, _, Calm.cons (x := .hook h 0) ⟨by simp [ranked, hh], rfl⟩ c1, fun k => by rw [defer_sync (c1.mode.trans hm), e1]⟩

/-- WELCOME while the join attempt is open: `onWelcome`, then the `success` / `error` pair behind it, at once -/
theorem pre_welcome_LStep {s : Sess} (hi : MInv s .pre) (sid : Nat) (beh : List HAct) (hj : beh.all HAct.noJoin = true) :
    Refines s .pre (.msg (.welcome sid) beh) := by
  obtain ⟨pre, s1, c1, e⟩ := hook_then_cont hi.mode .onWelcome rfl (beh.headD {}) (headD_noJoin beh hj).1
  have hi1 := hi.calm c1 (Or.inl rfl)
  have ht := hi1.ph.1
  have hsk : ∀ xs, skel (pre ++ xs) = skel xs := fun xs => by rw [skel_append, c1.skel_nil]; rfl
  refine .of_step ((step_pre hi.ph.2.1 hi.ph.2.2 _ _).trans (e _)) ?_
  by_cases ha : (beh.headD {}).accepts = true
  · -- it returned `None`: the session id, 'join', `onJoin`, 'ready'
    have hr : (beh.headD {}).raises = false ∧ (beh.headD {}).ret = .unit := by simpa [HAct.accepts] using ha
    have hnt : (!s1.transport) = false := by rw [ht]; rfl
    have hms : ({ s1 with sessionId := some sid } : Sess).mode = .sync := hi1.mode
    obtain ⟨mid, e2, c2⟩ := runHook_shape true { s1 with sessionId := some sid } .onJoin 0 (beh.tail.headD {}) (fun s => (s, []))
      (Calm.refl true _) (headD_noJoin beh.tail (headD_noJoin beh hj).2).1
    simp only [runCont, hr.1, hr.2, hnt, Bool.false_eq_true, ↓reduceIte, deferLeaf_sync hms, runLeaf, e2]
    refine ⟨.joined, .welcomed ha ?_, c2.minv hms hi1.q ⟨c2.transport.trans ht, by rw [c2.sid]; rfl, (c2.ended (Or.inl rfl)).trans hi1.ph.2.2⟩⟩
    rw [hsk, skel_mark rfl, skel_append, skel_append, skel_mark rfl, c2.skel_nil]
    split
    · simp only [show s1.mode = .sync from hi1.mode]; rfl
    · rfl
  · -- it raised or returned something else: ABORT, and the session keeps waiting for the router
    have hw : ∀ xs, skel xs = [] → ∃ p', LStep .pre (.msg (.welcome sid) beh) (pre ++ xs) p' ∧ MInv s1 p' := fun xs h =>
      ⟨.pre, .waiting (Or.inr ⟨sid, rfl, by simpa using ha⟩) ((hsk xs).trans h), hi1⟩
    cases hr : (beh.headD {}).raises
    · have hu : (beh.headD {}).ret ≠ .unit := fun hu => ha (by rw [HAct.accepts, hr, hu]; rfl)
      simp only [hu, runCont, if_pos ht, Bool.false_eq_true, ↓reduceIte]
      exact hw _ rfl
    · simp only [runCont, if_pos ht, ↓reduceIte]
      exact hw _ rfl

/-- CHALLENGE while the join attempt is open: `onChallenge`, then the `success` / `error` pair behind it, at once -/
theorem pre_challenge_LStep {s : Sess} (hi : MInv s .pre) (beh : List HAct) (hj : beh.all HAct.noJoin = true) :
    Refines s .pre (.msg .challenge beh) := by
  obtain ⟨pre, s1, c1, e⟩ := hook_then_cont hi.mode .onChallenge rfl (beh.headD {}) (headD_noJoin beh hj).1
  have hi1 := hi.calm c1 (Or.inl rfl)
  have ht := hi1.ph.1
  have hsk : ∀ xs, skel (pre ++ xs) = skel xs := fun xs => by rw [skel_append, c1.skel_nil]; rfl
  refine .of_step ((step_pre hi.ph.2.1 hi.ph.2.2 _ _).trans (e _)) ?_
  cases hr : (beh.headD {}).raises
  · -- a signature (AUTHENTICATE) or `None` (an exception nobody sees): still waiting for the router
    have hw : ∀ xs, skel xs = [] → ∃ p', LStep .pre (.msg .challenge beh) (pre ++ xs) p' ∧ MInv s1 p' := fun xs h =>
      ⟨.pre, .waiting (Or.inl ⟨rfl, hr⟩) ((hsk xs).trans h), hi1⟩
    by_cases hu : (beh.headD {}).ret = .unit
    · simp only [hu, runCont, hi1.mode, Bool.false_eq_true, ↓reduceIte]
      exact hw _ rfl
    · simp only [hu, runCont, if_pos ht, Bool.false_eq_true, ↓reduceIte]
      exact hw _ rfl
  · -- it raised: ABORT, the join attempt is over, `onLeave`
    have hnt : (!s1.transport) = false := by rw [ht]; rfl
    simp only [runCont, challengeFail, hnt, Bool.false_eq_true, ↓reduceIte]
    rw [← List.append_assoc]
    obtain ⟨⟨fl, h1, h2⟩, h3⟩ := leave_over (s1 := { s1 with ended := true }) ⟨hi1.mode, hi1.q, ht, hi1.ph.2.1, rfl⟩
      (pre ++ [.userError, .send { typ := .abort }]) (hsk _) 3 (beh.tail.headD {}) (headD_noJoin beh.tail (headD_noJoin beh hj).2).1
    exact ⟨.over, .left (Or.inr (Or.inl ⟨rfl, rfl, hr⟩)) h1 h2, h3⟩

theorem msg_LStep {s : Sess} {p : Ph} (hi : MInv s p) (ht : s.transport = true) (m : InMsg) (beh : List HAct)
    (hj : beh.all HAct.noJoin = true) : Refines s p (.msg m beh) := by
  have rej : step s (.msg m beh) = (s, [.raise_ .protocolError]) → isIllegal (p == .joined) (p == .over) m = true →
      Refines s p (.msg m beh) := fun h1 h2 => .of_step h1 ⟨p, .rejected (Ph.sess_up hi.ph ht) h2, hi⟩
  cases p with
  | down => exact absurd rfl (Ph.sess_up hi.ph ht)
  | over => exact rej (step_over hi.ph.2.1 hi.ph.2.2 m beh) (by cases m <;> rfl)
  | pre =>
    cases m with
    | welcome sid => exact pre_welcome_LStep hi sid beh hj
    | abort => exact pre_abort_LStep hi beh hj
    | challenge => exact pre_challenge_LStep hi beh hj
    | _ => exact rej (by rw [step_pre hi.ph.2.1 hi.ph.2.2]; rfl) rfl
  | joined =>
    obtain ⟨sid, hsid⟩ := Option.isSome_iff_exists.mp hi.ph.2.1
    have calm : ∀ b : Bool, isIllegal true false m = false → m.obliges = false →
        Calm b s (onEstablished s beh m).2 (onEstablished s beh m).1 → Refines s .joined (.msg m beh) := by
      intro b h1 h2 c
      exact .of_step (step_est hsid m beh) ⟨.joined, .served h1 h2 c.skel_unranked, hi.calm c (Or.inr hi.ph.2.2)⟩
    cases m with
    | goodbye => exact joined_goodbye_LStep hi beh hj
    | welcome _ | abort | challenge | other => exact rej (by rw [step_est hsid]; rfl) rfl
    | invocation req reg p rp => exact calm false rfl rfl (onInvocation_calm hi.mode beh req reg p _)
    | interrupt req => exact calm true rfl rfl ((calmCallee true).settleInv hi.mode req _)
    | _ => exact calm false rfl rfl (calmLiftQ.established trivial beh _ rfl)

/-- the transport's side of the contract: `onOpen` only without a transport, `onClose` and messages only with one -/
def SEv.fits (up : Bool) : SEv → Bool
  | .open_ _ => !up
  | .closed _ => up
  | .msg _ _ => up
  | _ => true

/-- one event of a well-formed history is a step of the automaton -/
theorem step_LStep {s : Sess} {p : Ph} (hi : MInv s p) (e : SEv) (hf : e.fits s.transport = true) (hj : e.noJoin = true) :
    Refines s p e := by
  by_cases hp : e.plain = true
  · have c := plain_calm hi.mode hi.q e hp hj
    exact ⟨p, .plain hp c.skel_nil, hi.calm c (Or.inl rfl)⟩
  · cases e with
    | open_ acts =>
      have ht : s.transport = false := by simpa [SEv.fits] using hf
      cases p with
      | down => exact open_LStep hi acts hj
      | pre | joined | over => rw [hi.ph.1] at ht; cases ht
    | closed acts => exact closed_LStep hi hf acts hj
    | msg m beh => exact msg_LStep hi hf m beh hj
    | _ => simp [SEv.plain] at hp

def wfHist : Bool → List SEv → Bool
  | _, [] => true
  | up, e :: es => e.fits up && e.noJoin && wfHist (e.upAfter up) es

/-- the trace of a well-formed history from a session object in phase `p`, judged by the Spec from a reader in that
phase: no violation of the ordering clauses -/
theorem order_trace {s : Sess} {p : Ph} {σ : Scan} (hi : MInv s p) (ho : p.os σ.os) (h : List SEv)
    (hw : wfHist s.transport h = true) (i : Nat) : ∀ iv ∈ checkFrom .sync i σ (traceOf s h), iv.2.isOrder = false := by
  induction h generalizing s p σ i with
  | nil => intro iv hiv; cases hiv
  | cons e es ih =>
    simp only [wfHist, Bool.and_eq_true] at hw
    obtain ⟨p', hl, hi'⟩ := step_LStep hi e hw.1.1 hw.1.2
    obtain ⟨a1, a2⟩ := hl.accepted ho
    obtain ⟨c1, c2⟩ := stepCheck_order σ e (step s e).2
    intro iv hiv
    simp only [traceOf, checkFrom, List.mem_append, List.mem_map] at hiv
    rcases hiv with ⟨v, hv, rfl⟩ | hiv
    · cases hvo : v.isOrder with
      | false => rfl
      | true => have := c2 v hv hvo; rw [a2] at this; cases this
    · exact ih hi' (c1 ▸ a1) (by rw [step_transport]; exact hw.2) _ iv hiv

theorem init_MInv : MInv (init .sync) .down := ⟨rfl, by simp [init], rfl, rfl⟩

end Abverif.Session

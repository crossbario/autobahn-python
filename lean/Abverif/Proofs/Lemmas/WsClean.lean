import Abverif.Proofs.Lemmas.WsWalk
/-
The invariant behind "reported clean only if close frames travelled in both directions":
`J s`: a connection that is CLOSING, or whose close is (so far) marked clean, has sent its close frame
(history variable `closeSent`, appended by `sendCloseFrame` together with the frame).  `JP a b := J a → J b` holds
across every engine function (`JP.walk`).
-/
namespace Abverif.Ws

def J (s : S) : Prop := (s.st = .closing → s.closeSent ≠ []) ∧ (s.wasClean = true → s.closeSent ≠ [])

def JP (a b : S) : Prop := J a → J b

theorem JP.refl (a : S) : JP a a := id
theorem JP.trans {a b c : S} (h1 : JP a b) (h2 : JP b c) : JP a c := fun h => h2 (h1 h)

theorem JP.of_le {a b : S} (h1 : b.st = .closing → a.st = .closing) (h2 : a.closeSent ≠ [] → b.closeSent ≠ [])
    (h3 : b.wasClean = true → a.wasClean = true) : JP a b :=
  fun j => ⟨fun hc => h2 (j.1 (h1 hc)), fun hw => h2 (j.2 (h3 hw))⟩

theorem JP.of_same {a b : S} (h1 : b.st = a.st) (h2 : b.closeSent = a.closeSent) (h3 : b.wasClean = a.wasClean) :
    JP a b :=
  JP.of_le (fun h => by rw [← h1]; exact h) (fun h => by rw [h2]; exact h) (fun h => by rw [← h3]; exact h)

theorem JP.of_ApiEq {a b : S} (h : ApiEq a b) : JP a b :=
  h ▸ JP.of_same rfl rfl rfl

theorem timer_JP (s : S) (d : Nat) : JP s (s.timer d).1 := JP.of_same rfl rfl rfl
theorem armCloseHs_JP (s : S) : JP s (armCloseHs s) := JP.of_same rfl rfl rfl

theorem sendCloseFrame_opened (s : S) (c : Option Nat) (r : Option Bytes) (i : Bool) (ho : s.st = .opened) :
    (sendCloseFrame s c r i).closeSent ≠ [] := by
  obtain ⟨t, q, e, _⟩ := sendCloseFrame_opened_eq s c r i ho
  rw [e]
  exact List.append_ne_nil_of_right_ne_nil _ (List.cons_ne_nil _ _)

theorem sendCloseFrame_JP (s : S) (c : Option Nat) (r : Option Bytes) (i : Bool) : JP s (sendCloseFrame s c r i) :=
  sendCloseFrame_of (R := JP) JP.trans armCloseHs_JP s c r i (JP.refl s) (JP.of_same rfl rfl rfl)
    fun _ _ _ _ => ⟨fun _ => by simp, fun _ => by simp⟩

theorem JP.base : Walk.Base JP where
  refl := JP.refl
  trans := JP.trans
  parse h := h ▸ JP.of_same rfl rfl rfl
  emit _ _ _ := JP.of_same rfl rfl rfl
  armServerDrop _ := JP.of_same rfl rfl rfl
  armPingNext _ := JP.of_same rfl rfl rfl
  armPingTimeout _ := JP.of_same rfl rfl rfl
  sends h _ := JP.of_ApiEq h.eq.toApiEq
  dropped _ _ _ _ := JP.of_le (fun h => by cases h) id id
  failClose _ _ _ := sendCloseFrame_JP _ _ _ _
  unclean _ _ := JP.of_le id id (fun h => by cases h)
  peerReason _ _ _ := JP.of_same rfl rfl rfl
  tick _ _ := JP.of_same rfl rfl rfl

theorem sendClose_JP (s : S) (c : Option Nat) (r : Option Bytes) : JP s (sendClose s c r) :=
  JP.base.sendClose_of s c r (sendCloseFrame_JP _ _ _ _)

theorem replyClose_JP (s : S) : JP s (replyClose s) :=
  replyClose_of s (sendCloseFrame_JP _ _ _ _) (sendCloseFrame_JP _ _ _ _)

theorem afterCloseHandshake_JP (s : S) (a : Bool) : JP s (afterCloseHandshake s a).1 := JP.base.afterCloseHandshake s a

theorem replyClose_opened (s : S) (ho : s.st = .opened) : (replyClose s).closeSent ≠ [] :=
  replyClose_of (R := fun _ b => b.closeSent ≠ []) s (sendCloseFrame_opened _ _ _ _ ho) (sendCloseFrame_opened _ _ _ _ ho)

theorem afterCloseHandshake_closeSent (s : S) (a : Bool) : (afterCloseHandshake s a).1.closeSent = s.closeSent := by
  rcases afterCloseHandshake_cases s a with e | ⟨_, t, q, e, _⟩ <;> rw [e]
  rcases dropConnection_cases s a with e | ⟨q, l, e⟩ <;> rw [e]

/-- the one place where a close is marked clean: the peer's close frame arrived while we are CLOSING (our close frame
has been sent: `J`) or OPEN (our reply is sent on the spot) -/
theorem closeStateStep_JP (s : S) : JP s (closeStateStep s).1 := by
  intro j
  unfold closeStateStep
  split
  · rename_i hc
    have h : (afterCloseHandshake { s with tCloseHs := none, wasClean := true } s.sendQueue.isEmpty).1.closeSent ≠ [] := by
      rw [afterCloseHandshake_closeSent]; exact j.1 hc
    exact ⟨fun _ => h, fun _ => h⟩
  · rename_i ho
    have h : (afterCloseHandshake (replyClose { s with wasClean := true }) false).1.closeSent ≠ [] := by
      rw [afterCloseHandshake_closeSent]; exact replyClose_opened _ ho
    exact ⟨fun _ => h, fun _ => h⟩
  · rename_i hx
    exact ⟨fun h => by simp [hx] at h, fun h => by simp at h⟩
  · exact j

theorem connectionLost_JP (s : S) : JP s (connectionLost s) :=
  connectionLost_of JP.refl s fun _ _ =>
    JP.of_le (fun h => by cases h) id (fun h => by simp only [Bool.and_eq_true] at h; exact h.1)

theorem JP.walk : Walk JP where
  toBase := JP.base
  onCloseFrame s c r := JP.base.onCloseFrame_of s c r (closeStateStep_JP _)
  cancelAutoPingTimeout := JP.base.cancelAutoPingTimeout_of fun _ => JP.of_same rfl rfl rfl
  onPongFrame := JP.base.onPongFrame_of fun _ => JP.of_same rfl rfl rfl
  buffer _ _ := JP.of_same rfl rfl rfl
  forget _ _ _ := JP.of_same rfl rfl rfl
  timedOut := JP.base.timedOut_of fun _ _ _ _ => JP.of_same rfl rfl rfl
  sendAutoPing := JP.base.sendAutoPing_of fun _ => JP.of_same rfl rfl rfl
  handshakeDone := JP.base.handshakeDone_of fun s hc => JP.of_le (fun h => by cases h) id id

end Abverif.Ws

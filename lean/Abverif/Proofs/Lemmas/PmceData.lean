import Abverif.Model.Pmce
/-
C12 — data path lemmas: the codec contract (H1/H2 as a structure of hypotheses); the shape of the frame trains the
senders emit (`Train`); the receiver does not see fragmentation (`rxAll_merge`), so it reads a train as the one frame
that carries all its chunks (`rx_train`), and to that frame the codec contract applies; one message end to end, then a
sequence of messages under any send limit, with `InStep` holding between them. The last quarter is a concrete codec
that meets the contract: the contract is not vacuous, and C12's examples and negation witnesses run on it.
-/
namespace Abverif.Pmce
open Abverif.DeflateConsts

/-- **The codec contract** (hypotheses of the losslessness theorems, never axioms; `toyLawful` below is a
concrete instance). `Sync we wd c d`: deflater `c` (window 2^we) and inflater `d` (window 2^wd) stand at a message
boundary and `d` has consumed exactly what `c` has emitted since their contexts were last aligned.

* H2 `fresh`: new objects are in sync when the inflater's window is at least the deflater's;
  `enc_reset`: a deflater may always drop its context (its output then references nothing the inflater lacks).
* H1 `message`: from a synced pair, compress a message handed over in any pieces and sync-flush. The flush
  output ends with the empty stored block `00 00 ff ff`; an inflater fed everything before that tail, cut into
  ANY chunks, returns the message; fed the tail it returns to a synced state. -/
structure Codec.Lawful (K : Codec) where
  Sync : Nat → Nat → K.CSt → K.DSt → Prop
  fresh : ∀ we wd m, we ≤ wd → Sync we wd (K.freshC we m) (K.freshD wd)
  enc_reset : ∀ we wd m c d, Sync we wd c d → Sync we wd (K.freshC we m) d
  message : ∀ we wd c d (pieces : List Bytes), Sync we wd c d →
    ∃ body, (K.flush (K.compressAll c pieces).1).2 = body ++ rfcTail ∧
      ∀ chunks : List Bytes, chunks.flatten = (K.compressAll c pieces).2.flatten ++ body →
        ∃ d1, K.feed d chunks = some (d1, pieces.flatten) ∧
          ∃ d2 o, K.decompress d1 rfcTail = some (d2, o) ∧
            Sync we wd (K.flush (K.compressAll c pieces).1).1 d2

variable {K : Codec}

/-- frames after the first one of a fragmented message: continuation frames, RSV clear, FIN on the last only -/
inductive ContTail : List Frame → Prop
  | last (p : Bytes) : ContTail [⟨true, 0, 0, p⟩]
  | cons (p : Bytes) (rest : List Frame) : ContTail rest → ContTail (⟨false, 0, 0, p⟩ :: rest)

/-- one message on the wire: one frame, or a first frame without FIN and a `ContTail`; the first frame carries the
opcode and the RSV bits -/
inductive Train (opcode rsv : Nat) : List Frame → Prop
  | single (p : Bytes) : Train opcode rsv [⟨true, rsv, opcode, p⟩]
  | frags (p : Bytes) (rest : List Frame) : ContTail rest → Train opcode rsv (⟨false, rsv, opcode, p⟩ :: rest)

def payloads (fs : List Frame) : Bytes := (fs.map (·.payload)).flatten

theorem payloads_cons (f : Frame) (fs : List Frame) : payloads (f :: fs) = f.payload ++ payloads fs := rfl

theorem fragLoop_spec (n op rsv : Nat) (first : Bool) (rest : Bytes) :
    (if first then Train op rsv (fragLoop n op rsv first rest) else ContTail (fragLoop n op rsv first rest))
    ∧ payloads (fragLoop n op rsv first rest) = rest := by
  induction first, rest using fragLoop.induct n with
  | case1 first rest h =>
    rw [fragLoop, if_pos h]
    refine ⟨?_, by simp [payloads]⟩
    cases first
    · exact ContTail.last rest
    · exact Train.single rest
  | case2 first rest h ih =>
    simp only [Bool.false_eq_true, if_false] at ih
    rw [fragLoop, if_neg h]
    refine ⟨?_, ?_⟩
    · cases first
      · exact ContTail.cons _ _ ih.1
      · exact Train.frags _ _ ih.1
    · rw [payloads_cons, ih.2, List.take_append_drop]

/-- **RSV1 on the first frame only** (and the opcode; continuation frames carry neither), whatever the
fragment size; the fragments concatenate to the payload. -/
theorem fragment_train (frag : Option Nat) (op rsv : Nat) (payload : Bytes) (fs : List Frame)
    (h : fragment frag op rsv payload = some fs) : Train op rsv fs ∧ payloads fs = payload := by
  unfold fragment at h
  split at h
  · cases h; exact ⟨Train.single payload, by simp [payloads, single]⟩
  · split at h
    · cases h; exact ⟨Train.single payload, by simp [payloads, single]⟩
    · split at h
      · cases h
      · cases h; exact fragLoop_spec _ _ _ true _

theorem contFrames_tail (ps : List Bytes) (last : Bytes) :
    ContTail (contFrames ps ++ [⟨true, 0, 0, last⟩])
    ∧ payloads (contFrames ps ++ [⟨true, 0, 0, last⟩]) = ps.flatten ++ last := by
  induction ps with
  | nil => exact ⟨ContTail.last last, by simp [payloads, contFrames]⟩
  | cons p ps ih =>
    refine ⟨ContTail.cons p _ ih.1, ?_⟩
    show payloads (_ :: (contFrames ps ++ _)) = _
    rw [payloads_cons, ih.2, List.flatten_cons, List.append_assoc]

/-- a streamed message (`beginMessage`, frames, `endMessage`) with at least one frame is a train too -/
theorem stream_train (op rsv : Nat) (o : Bytes) (os : List Bytes) (last : Bytes) :
    Train op rsv ((⟨false, rsv, op, o⟩ :: contFrames os) ++ [⟨true, 0, 0, last⟩])
    ∧ payloads ((⟨false, rsv, op, o⟩ :: contFrames os) ++ [⟨true, 0, 0, last⟩]) = o ++ os.flatten ++ last := by
  have := contFrames_tail os last
  refine ⟨Train.frags o _ this.1, ?_⟩
  rw [List.cons_append, payloads_cons, this.2, List.append_assoc]

theorem ContTail.shape {fs : List Frame} (h : ContTail fs) : ∀ g ∈ fs, g.rsv = 0 ∧ g.opcode = 0 := by
  induction h with
  | last p => intro g hg; simp only [List.mem_singleton] at hg; subst hg; exact ⟨rfl, rfl⟩
  | cons p rest _ ih =>
    intro g hg
    rcases List.mem_cons.1 hg with rfl | hg
    · exact ⟨rfl, rfl⟩
    · exact ih g hg

theorem Train.shape {op rsv : Nat} {fs : List Frame} (h : Train op rsv fs) :
    ∃ f rest, fs = f :: rest ∧ f.rsv = rsv ∧ f.opcode = op ∧ ∀ g ∈ rest, g.rsv = 0 ∧ g.opcode = 0 := by
  cases h with
  | single p => exact ⟨_, [], rfl, rfl, rfl, fun _ hg => nomatch hg⟩
  | frags p rest hct => exact ⟨_, rest, rfl, rfl, rfl, hct.shape⟩

theorem compressAll_ne_nil (c : K.CSt) {ps : List Bytes} (h : ps ≠ []) :
    ∃ o os, (K.compressAll c ps).2 = o :: os := by
  cases ps with
  | nil => exact absurd rfl h
  | cons p ps => exact ⟨_, _, rfl⟩

theorem fragment_isSome (frag : Option Nat) (op rsv : Nat) (p : Bytes) (h : frag ≠ some 0) :
    ∃ fs, fragment frag op rsv p = some fs := by
  unfold fragment
  split
  · exact ⟨_, rfl⟩
  · split
    · exact ⟨_, rfl⟩
    · split
      · exact absurd rfl h
      · exact ⟨_, rfl⟩

theorem opcodeOf_ok (bin : Bool) : opcodeOf bin = 1 ∨ opcodeOf bin = 2 := by cases bin <;> simp [opcodeOf]
theorem opcodeOf_bin (bin : Bool) : (opcodeOf bin == 2) = bin := by cases bin <;> rfl

def WireFrame.toFrame (wf : WireFrame) : Frame := ⟨wf.fin, wf.rsv, wf.opcode, wf.chunks.flatten⟩

/-- every chunk of every frame, in order: what `onFrameData` sees -/
def allChunks (ws : List WireFrame) : List Bytes := ws.flatMap (·.chunks)

theorem allChunks_flatten (ws : List WireFrame) : (allChunks ws).flatten = payloads (ws.map WireFrame.toFrame) := by
  induction ws with
  | nil => rfl
  | cons w ws ih =>
    rw [List.map_cons, payloads_cons, ← ih]
    exact List.flatten_append

theorem rxData_append (cflag : Bool) (dec : Option K.DSt) (acc : Bytes) (cs1 cs2 : List Bytes) :
    rxData cflag dec acc (cs1 ++ cs2) =
      match rxData cflag dec acc cs1 with
      | none => none
      | some (dec', acc') => rxData cflag dec' acc' cs2 := by
  induction cs1 generalizing dec acc with
  | nil => simp [rxData]
  | cons c cs ih =>
    simp only [List.cons_append, rxData]
    cases cflag with
    | false => simp [ih]
    | true =>
      simp only [if_true]
      cases dec with
      | none => rfl
      | some d =>
        simp only
        cases K.decompress d c with
        | none => rfl
        | some r => obtain ⟨d1, o⟩ := r; simp [ih]

theorem rxData_plain (dec : Option K.DSt) (acc : Bytes) (cs : List Bytes) :
    rxData false dec acc cs = some (dec, acc ++ cs.flatten) := by
  induction cs generalizing acc with
  | nil => simp [rxData]
  | cons c cs ih => simp [rxData, ih]

theorem rxData_compressed (d : K.DSt) (acc : Bytes) (cs : List Bytes) :
    rxData true (some d) acc cs =
      match K.feed d cs with
      | none => none
      | some (d', o) => some (some d', acc ++ o) := by
  induction cs generalizing d acc with
  | nil => simp [rxData, Codec.feed]
  | cons c cs ih =>
    simp only [rxData, if_true, Codec.feed]
    cases K.decompress d c with
    | none => rfl
    | some r =>
      obtain ⟨d1, o⟩ := r
      simp only [ih]
      cases K.feed d1 cs <;> simp

theorem headerOk_cont (fin : Bool) : headerOk true true fin 0 0 = true := by cases fin <;> rfl

theorem headerOk_first (fin : Bool) (rsv op : Nat) (ho : op = 1 ∨ op = 2) (hr : rsv = 0 ∨ rsv = 4) :
    headerOk true false fin rsv op = true := by
  rcases ho with rfl | rfl <;> rcases hr with rfl | rfl <;> cases fin <;> rfl

/-- **the receiver does not see fragmentation**: the first frame of a message, sent without FIN, and the
continuation frame after it read as one frame that carries the chunks of both -/
theorem rxAll_merge (b : Pmce) (r : Rx K) (hp : r.pmce = some b) (hi : r.inside = false) (fin : Bool) (rsv op : Nat)
    (ho : op = 1 ∨ op = 2) (hr : rsv = 0 ∨ rsv = 4) (c1 c2 : List Bytes) (ws : List WireFrame) :
    rxAll r (⟨false, rsv, op, c1⟩ :: ⟨fin, 0, 0, c2⟩ :: ws) = rxAll r (⟨fin, rsv, op, c1 ++ c2⟩ :: ws) := by
  obtain ⟨pm, dec, ins, cmp, bn, ac⟩ := r
  simp only at hi hp
  subst hi hp
  have h7 : ¬ (op > 7) := by omega
  have h0 : ¬ (0 > 7) := by omega
  rw [rxAll, rxAll]
  cases h4 : rsv == 4
  all_goals
    -- both sides begin the message alike (`onFrameBegin` looks at RSV1 and the opcode only) and hand `c1` to
    -- `onFrameData`
    simp only [rxFrame, h4, Option.isSome_some, headerOk_first _ rsv op ho hr, h7, rxData_append,
      Bool.not_true, Bool.not_false, Bool.false_eq_true, if_false, if_true]
    generalize rxData _ _ _ c1 = x
    cases x with
    | none => rfl
    | some x =>
      -- the second frame finds the receiver inside the message; the first one delivered nothing, which leaves on
      -- the left a `match` that returns what it is given
      obtain ⟨d, a⟩ := x
      simp only [rxAll, rxFrame, headerOk_cont, h0, Option.isSome_some, Bool.not_true, Bool.false_eq_true, if_false,
        if_true]
      split <;> rename_i h <;> exact h.symm

/-- so the first frame swallows the rest of its train, one frame at a time -/
theorem rx_conttail (b : Pmce) (r : Rx K) (hp : r.pmce = some b) (hi : r.inside = false) (rsv op : Nat)
    (ho : op = 1 ∨ op = 2) (hr : rsv = 0 ∨ rsv = 4) (ws : List WireFrame)
    (h : ContTail (ws.map WireFrame.toFrame)) (ch : List Bytes) :
    rxAll r (⟨false, rsv, op, ch⟩ :: ws) = rxAll r [⟨true, rsv, op, ch ++ allChunks ws⟩] := by
  generalize hfs : ws.map WireFrame.toFrame = fs at h
  induction h generalizing ws ch with
  | last p =>
    obtain ⟨⟨wfin, wrsv, wop, wch⟩, rfl, hw⟩ := List.map_eq_singleton_iff.1 hfs
    cases hw
    rw [rxAll_merge b r hp hi _ _ _ ho hr]
    simp [allChunks]
  | cons p rest _ ih =>
    obtain ⟨⟨wfin, wrsv, wop, wch⟩, ws', rfl, hw, hws⟩ := List.map_eq_cons_iff.1 hfs
    cases hw
    rw [rxAll_merge b r hp hi _ _ _ ho hr, ih ws' _ hws, List.append_assoc]
    rfl

theorem rx_train (b : Pmce) (r : Rx K) (ws : List WireFrame) (op rsv : Nat)
    (hp : r.pmce = some b) (hi : r.inside = false) (ho : op = 1 ∨ op = 2) (hr : rsv = 0 ∨ rsv = 4)
    (h : Train op rsv (ws.map WireFrame.toFrame)) :
    rxAll r ws = rxAll r [⟨true, rsv, op, allChunks ws⟩] := by
  generalize hfs : ws.map WireFrame.toFrame = fs at h
  cases h with
  | single p =>
    obtain ⟨⟨wfin, wrsv, wop, wch⟩, rfl, hw⟩ := List.map_eq_singleton_iff.1 hfs
    cases hw
    simp [allChunks]
  | frags p rest hct =>
    obtain ⟨⟨wfin, wrsv, wop, wch⟩, ws', rfl, hw, rfl⟩ := List.map_eq_cons_iff.1 hfs
    cases hw
    exact rx_conttail b r hp hi _ _ ho hr ws' hct wch

/-- the octets re-appended by `end_decompress_message` are the RFC 7692 tail, and exactly as many octets are
stripped by `end_compress_message` (both read from the source by the translator) -/
theorem tail_strip_consistent : tailBytes = rfcTail ∧ stripLen = rfcTail.length := by decide

theorem strip_tail (body : Bytes) :
    (body ++ rfcTail).take ((body ++ rfcTail).length - stripLen) = body := by
  rw [tail_strip_consistent.2]
  simp

/-- the two halves of one direction are in step: extension objects present, receiver between messages, and the
deflater and the inflater that the next compressed message starts with (kept or new, as each end decides for
itself) are in sync -/
structure InStep (L : K.Lawful) (a b : Pmce) (t : Tx K) (r : Rx K) : Prop where
  tx : t.pmce = some a
  rx : r.pmce = some b
  between : r.inside = false
  sync : L.Sync a.encWbits b.decWbits (startCompress a t.comp) (startDecompress b r.dec)

theorem next_sync (L : K.Lawful) (a b : Pmce) (hc : dirCompatible a b) (c : K.CSt) (d : K.DSt)
    (hs : L.Sync a.encWbits b.decWbits c d) :
    L.Sync a.encWbits b.decWbits (startCompress a (some c)) (startDecompress b (some d)) := by
  simp only [startCompress, startDecompress]
  cases hd : b.decNct with
  | true => simpa [hc.2 hd] using L.fresh _ _ _ hc.1
  | false =>
    cases he : a.encNct with
    | true => simpa using L.enc_reset _ _ _ _ _ hs
    | false => simpa using hs

/-- an uncompressed train, cut into chunks in any way, is delivered verbatim and leaves the inflater alone -/
theorem rx_of_plain (L : K.Lawful) (a b : Pmce) (t : Tx K) (r : Rx K) (hin : InStep L a b t r) (bin : Bool)
    (data : Bytes) (fs : List Frame) (h : Train (opcodeOf bin) 0 fs ∧ payloads fs = data)
    (ws : List WireFrame) (hw : ws.map WireFrame.toFrame = fs) :
    ∃ r', rxAll r ws = some (r', [(bin, data)]) ∧ InStep L a b t r' := by
  obtain ⟨hta, hrb, hri, hs⟩ := hin
  obtain ⟨htr, rfl⟩ := h
  subst hw
  have h7 : ¬ (opcodeOf bin > 7) := by rcases opcodeOf_ok bin with h | h <;> omega
  rw [rx_train b r ws _ 0 hrb hri (opcodeOf_ok bin) (Or.inl rfl) htr]
  simp only [rxAll, rxFrame, hrb, hri, Option.isSome_some, headerOk_first _ _ _ (opcodeOf_ok bin) (Or.inl rfl), h7,
    Nat.reduceBEq, Bool.not_true, Bool.not_false, Bool.false_eq_true, if_false, if_true, rxData_plain, List.nil_append,
    allChunks_flatten, opcodeOf_bin]
  exact ⟨_, rfl, hta, rfl, rfl, hs⟩

/-- receiving what a compressing sender emitted for one message (any API, any fragmentation, any segmentation):
the inflater turns the chunks into the message, the re-appended tail brings it back in sync -/
theorem rx_of_compressed (L : K.Lawful) (a b : Pmce) (hc : dirCompatible a b) (t : Tx K) (r : Rx K)
    (hin : InStep L a b t r) (pieces : List Bytes) (bin : Bool) (fs : List Frame)
    (h : Train (opcodeOf bin) 4 fs ∧ payloads fs =
      (K.compressAll (startCompress a t.comp) pieces).2.flatten
        ++ (endCompress (K.compressAll (startCompress a t.comp) pieces).1).2)
    (ws : List WireFrame) (hw : ws.map WireFrame.toFrame = fs) :
    ∃ r', rxAll r ws = some (r', [(bin, pieces.flatten)])
      ∧ InStep L a b { t with comp := some (endCompress (K.compressAll (startCompress a t.comp) pieces).1).1 } r' := by
  obtain ⟨hta, hrb, hri, hs⟩ := hin
  obtain ⟨htr, hpl⟩ := h
  subst hw
  obtain ⟨body, hfl, hall⟩ := L.message _ _ _ _ pieces hs
  simp only [endCompress, hfl, strip_tail] at hpl
  obtain ⟨d1, hfeed, d2, o, htail, hs2⟩ := hall (allChunks ws) (by rw [allChunks_flatten, hpl])
  have h7 : ¬ (opcodeOf bin > 7) := by rcases opcodeOf_ok bin with h | h <;> omega
  rw [rx_train b r ws _ 4 hrb hri (opcodeOf_ok bin) (Or.inr rfl) htr]
  simp only [rxAll, rxFrame, hrb, hri, Option.isSome_some, headerOk_first _ _ _ (opcodeOf_ok bin) (Or.inr rfl), h7,
    BEq.rfl, Bool.not_true, Bool.not_false, Bool.false_eq_true, if_false, if_true, rxData_compressed, hfeed,
    List.nil_append, tail_strip_consistent.1, htail, opcodeOf_bin]
  exact ⟨_, rfl, hta, rfl, rfl, next_sync L a b hc _ d2 (by simpa [endCompress] using hs2)⟩

/-- a send refused for its size after compression drops the deflater, and the inflater has seen nothing of it: the
next message starts with a new deflater, which is in sync with whatever the inflater starts with (`enc_reset`) -/
theorem InStep.drop {L : K.Lawful} {a b : Pmce} {t : Tx K} {r : Rx K} (h : InStep L a b t r) :
    InStep L a b { t with comp := none } r :=
  ⟨h.tx, h.rx, h.between, L.enc_reset _ _ _ _ _ h.sync⟩

/-- one message, sent through either API under any send limit: it is delivered as sent, or refused and nothing is
delivered; either way the two halves stay in step -/
theorem send_recv_one (L : K.Lawful) (a b : Pmce) (hc : dirCompatible a b)
    (maxPayload : Nat) (t : Tx K) (r : Rx K) (hin : InStep L a b t r)
    (m : Msg) (hwf : m.wf) (ws : List WireFrame)
    (hw : ws.map WireFrame.toFrame = (sendOne t maxPayload m).2.1) :
    ∃ r', rxAll r ws = some (r', if (sendOne t maxPayload m).2.2 then [(m.bin, m.data)] else [])
      ∧ InStep L a b (sendOne t maxPayload m).1 r' := by
  obtain ⟨pm, comp⟩ := t
  obtain rfl : pm = some a := hin.tx
  cases m with
  | whole bin dnc frag payload =>
    simp only [Msg.wf] at hwf
    cases dnc with
    | false =>
      obtain ⟨fs, hfs⟩ := fragment_isSome frag (opcodeOf bin) 4
        ((K.compress (startCompress a comp) payload).2
          ++ (endCompress (K.compress (startCompress a comp) payload).1).2) hwf
      by_cases hlim : 0 < maxPayload ∧ maxPayload <
          ((K.compress (startCompress a comp) payload).2
            ++ (endCompress (K.compress (startCompress a comp) payload).1).2).length
      · simp only [sendOne, sendMessage, hlim, and_self, if_true, List.map_eq_nil_iff] at hw ⊢
        subst hw
        exact ⟨r, by simp [rxAll], hin.drop⟩
      · simp only [sendOne, sendMessage, hlim, if_false, hfs] at hw ⊢
        simpa [Msg.bin, Msg.data, Codec.compressAll] using rx_of_compressed L a b hc _ r hin [payload] bin fs
          (by simpa [Codec.compressAll] using fragment_train _ _ _ _ _ hfs) ws hw
    | true =>
      obtain ⟨fs, hfs⟩ := fragment_isSome frag (opcodeOf bin) 0 payload hwf
      by_cases hlim : 0 < maxPayload ∧ maxPayload < payload.length
      · simp only [sendOne, sendMessage, hlim, and_self, if_true, List.map_eq_nil_iff] at hw ⊢
        subst hw
        exact ⟨r, by simp [rxAll], hin⟩
      · simp only [sendOne, sendMessage, hlim, if_false, hfs] at hw ⊢
        exact rx_of_plain L a b _ r hin bin _ fs (fragment_train _ _ _ _ _ hfs) ws hw
  | stream bin dnc pieces =>
    simp only [Msg.wf] at hwf
    cases dnc with
    | false =>
      obtain ⟨o, os, hout⟩ := compressAll_ne_nil (startCompress a comp) hwf
      simp only [sendOne, sendStream, hout] at hw ⊢
      exact rx_of_compressed L a b hc _ r hin pieces bin _
        (by simpa [hout] using stream_train (opcodeOf bin) 4 o os _) ws hw
    | true =>
      cases pieces with
      | nil => exact absurd rfl hwf
      | cons o os =>
        simp only [sendOne, sendStream] at hw ⊢
        exact rx_of_plain L a b _ r hin bin _ _ (by simpa [Msg.data] using stream_train (opcodeOf bin) 0 o os []) ws hw

theorem rxAll_append (r : Rx K) (w1 w2 : List WireFrame) :
    rxAll r (w1 ++ w2) =
      match rxAll r w1 with
      | none => none
      | some (r1, ms1) =>
        match rxAll r1 w2 with
        | none => none
        | some (r2, ms2) => some (r2, ms1 ++ ms2) := by
  induction w1 generalizing r with
  | nil => cases h : rxAll r w2 <;> simp [rxAll, h]
  | cons w ws ih =>
    simp only [List.cons_append, rxAll, ih]
    cases rxFrame r w with
    | none => rfl
    | some x =>
      obtain ⟨r1, m⟩ := x
      simp only
      cases rxAll r1 ws with
      | none => rfl
      | some y =>
        obtain ⟨r2, ms⟩ := y
        simp only
        cases rxAll r2 w2 <;> simp

/-- any sequence of messages from any pair of halves that are in step, under any send limit and any segmentation:
exactly the messages whose send was not refused are delivered, in order (what C12's `lossless*` rest on) -/
theorem send_recv_all (L : K.Lawful) (a b : Pmce) (hc : dirCompatible a b) (maxPayload : Nat)
    (msgs : List Msg) (t : Tx K) (r : Rx K) (hin : InStep L a b t r) (hwf : ∀ m ∈ msgs, m.wf)
    (ws : List WireFrame) (hw : ws.map WireFrame.toFrame = (sendAll t maxPayload msgs).2.1) :
    ∃ r', rxAll r ws = some (r', (sendAll t maxPayload msgs).2.2) := by
  induction msgs generalizing t r ws with
  | nil =>
    simp only [sendAll, List.map_eq_nil_iff] at hw
    subst hw
    exact ⟨r, rfl⟩
  | cons m ms ih =>
    simp only [sendAll] at hw ⊢
    obtain ⟨w1, w2, rfl, h1, h2⟩ := List.map_eq_append_iff.1 hw
    obtain ⟨r1, hrx1, hin1⟩ := send_recv_one L a b hc maxPayload t r hin m (hwf m List.mem_cons_self) w1 h1
    obtain ⟨r2, hrx2⟩ := ih _ r1 hin1 (fun x hx => hwf x (List.mem_cons_of_mem _ hx)) w2 h2
    refine ⟨r2, ?_⟩
    rw [rxAll_append, hrx1]
    simp only [hrx2]

theorem sendMessage_zero (t : Tx K) (bin dnc : Bool) (frag : Option Nat) (p : Bytes) (hwf : frag ≠ some 0) :
    ∃ t' fs, sendMessage t 0 bin dnc frag p = (t', .sent fs) := by
  unfold sendMessage
  split
  · simp only [Nat.lt_irrefl, false_and, if_false]
    obtain ⟨fs, hfs⟩ := fragment_isSome frag (opcodeOf bin) 4 _ hwf
    exact ⟨_, fs, by rw [hfs]⟩
  · simp only [Nat.lt_irrefl, false_and, if_false]
    obtain ⟨fs, hfs⟩ := fragment_isSome frag (opcodeOf bin) 0 p hwf
    exact ⟨_, fs, by rw [hfs]⟩

theorem sendAll_zero (msgs : List Msg) (hwf : ∀ m ∈ msgs, m.wf) (t : Tx K) :
    (sendAll t 0 msgs).2.2 = msgs.map (fun m => (m.bin, m.data)) := by
  induction msgs generalizing t with
  | nil => rfl
  | cons m ms ih =>
    have hm : (sendOne t 0 m).2.2 = true := by
      cases m with
      | stream => rfl
      | whole bin dnc frag p =>
        obtain ⟨t', fs, h⟩ := sendMessage_zero t bin dnc frag p (hwf _ List.mem_cons_self)
        simp only [sendOne, h]
    simp only [sendAll, hm, if_true, ih (fun x hx => hwf x (List.mem_cons_of_mem _ hx)), List.map_cons,
      List.singleton_append]

/-! ### a concrete lawful codec (non-vacuity of the contract, negation witnesses)

Context = a counter. A fresh deflater (counter 0) emits every octet `b` as `01 b`; a deflater with context `c ≠ 0`
emits `03 (b xor c)` — decodable only by an inflater holding the same counter. A sync flush emits `00 (c+1)`
followed by the RFC tail and moves the counter on; the inflater adopts the announced counter. -/

structure ToyD where
  cnt : UInt8
  phase : Nat
deriving DecidableEq, Repr

def toyEnc1 (c : UInt8) (b : UInt8) : Bytes := if c = 0 then [1, b] else [3, b ^^^ c]

def toyStep (d : ToyD) (x : UInt8) : Option (ToyD × Bytes) :=
  match d.phase with
  | 0 => if x = 1 then some ({ d with phase := 1 }, [])
         else if x = 3 then some ({ d with phase := 3 }, [])
         else if x = 0 then some ({ d with phase := 4 }, [])
         else none
  | 1 => some ({ d with phase := 0 }, [x])
  | 3 => some ({ d with phase := 0 }, [x ^^^ d.cnt])
  | 4 => some (⟨x, 5⟩, [])
  | 5 => if x = 0 then some ({ d with phase := 6 }, []) else none
  | 6 => if x = 0 then some ({ d with phase := 7 }, []) else none
  | 7 => if x = 0xff then some ({ d with phase := 8 }, []) else none
  | 8 => if x = 0xff then some ({ d with phase := 0 }, []) else none
  | _ => none

def toyRun : ToyD → Bytes → Option (ToyD × Bytes)
  | d, [] => some (d, [])
  | d, x :: xs =>
    match toyStep d x with
    | none => none
    | some (d1, o1) =>
      match toyRun d1 xs with
      | none => none
      | some (d2, o2) => some (d2, o1 ++ o2)

def toy : Codec where
  CSt := UInt8
  DSt := ToyD
  freshC := fun _ _ => 0
  freshD := fun _ => ⟨0, 0⟩
  compress := fun c bs => (c, bs.flatMap (toyEnc1 c))
  flush := fun c => (c + 1, [0, c + 1] ++ rfcTail)
  decompress := toyRun

theorem toyRun_append (d : ToyD) (x y : Bytes) :
    toyRun d (x ++ y) =
      match toyRun d x with
      | none => none
      | some (d1, o1) =>
        match toyRun d1 y with
        | none => none
        | some (d2, o2) => some (d2, o1 ++ o2) := by
  induction x generalizing d with
  | nil => cases h : toyRun d y <;> simp [toyRun, h]
  | cons a x ih =>
    simp only [List.cons_append, toyRun, ih]
    cases toyStep d a with
    | none => rfl
    | some r =>
      obtain ⟨d1, o1⟩ := r
      simp only
      cases toyRun d1 x with
      | none => rfl
      | some r2 =>
        obtain ⟨d2, o2⟩ := r2
        simp only
        cases toyRun d2 y <;> simp

theorem toy_feed (d : ToyD) (cs : List Bytes) : toy.feed d cs = toyRun d cs.flatten := by
  induction cs generalizing d with
  | nil => rfl
  | cons c cs ih =>
    simp only [Codec.feed, List.flatten_cons, toyRun_append]
    have hdc : toy.decompress d c = toyRun d c := rfl
    rw [hdc]
    cases toyRun d c with
    | none => rfl
    | some r =>
      obtain ⟨d1, o1⟩ := r
      simp only [ih]
      cases toyRun d1 cs.flatten <;> rfl

theorem toy_decode (c : UInt8) (d : ToyD) (hp : d.phase = 0) (hc : c = 0 ∨ c = d.cnt) (bs : Bytes) :
    toyRun d (bs.flatMap (toyEnc1 c)) = some (d, bs) := by
  induction bs with
  | nil => rfl
  | cons b bs ih =>
    obtain ⟨cnt, ph⟩ := d
    simp only at hp hc
    subst hp
    simp only [List.flatMap_cons, toyRun_append]
    by_cases h0 : c = 0
    · subst h0
      simp [toyEnc1, toyRun, toyStep, ih]
    · have : c = cnt := by rcases hc with h | h; exact absurd h h0; exact h
      subst this
      simp only [toyEnc1, h0, if_false, toyRun, toyStep]
      have h31 : ¬ ((3 : UInt8) = 1) := by decide
      have hx : b ^^^ c ^^^ c = b := by rw [UInt8.xor_assoc, UInt8.xor_self, UInt8.xor_zero]
      simp [h31, ih, hx]

theorem toy_compressAll (c : UInt8) (ps : List Bytes) :
    toy.compressAll c ps = (c, ps.map (fun p => p.flatMap (toyEnc1 c))) := by
  induction ps with
  | nil => rfl
  | cons p ps ih =>
    have hp : toy.compress c p = (c, p.flatMap (toyEnc1 c)) := rfl
    simp only [Codec.compressAll, hp, ih, List.map_cons]
    rfl

theorem flatten_map_flatMap (f : UInt8 → Bytes) (ps : List Bytes) :
    (ps.map (fun p => p.flatMap f)).flatten = ps.flatten.flatMap f := by
  induction ps with
  | nil => rfl
  | cons p ps ih => simp [ih]

/-- the toy codec satisfies the contract (window sizes play no role in it) -/
def toyLawful : toy.Lawful where
  Sync := fun _ _ (c : UInt8) (d : ToyD) => d.phase = 0 ∧ (c = 0 ∨ c = d.cnt)
  fresh := fun _ _ _ _ => ⟨rfl, Or.inl rfl⟩
  enc_reset := fun _ _ _ _ _ h => ⟨h.1, Or.inl rfl⟩
  message := by
    intro we wd (c : UInt8) (d : ToyD) pieces hs
    refine ⟨[0, c + 1], ?_, ?_⟩
    · rw [toy_compressAll]; rfl
    · intro chunks hch
      rw [toy_compressAll] at hch ⊢
      simp only at hch ⊢
      rw [flatten_map_flatMap] at hch
      obtain ⟨cnt, ph⟩ := d
      obtain ⟨hp, hc⟩ := hs
      simp only at hp hc
      subst hp
      refine ⟨⟨c + 1, 5⟩, ?_, ⟨c + 1, 0⟩, [], ?_, rfl, Or.inr rfl⟩
      · rw [toy_feed, hch, toyRun_append, toy_decode c ⟨cnt, 0⟩ rfl hc]
        simp [toyRun, toyStep]
        rfl
      · show toyRun _ _ = _
        simp [rfcTail, toyRun, toyStep]
        rfl

end Abverif.Pmce

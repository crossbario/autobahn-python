import Abverif.Proofs.Lemmas.SchemaBasics
/-
How the functions of the parse model are specified (C03, C08).
`ErrIn P r` = "if `r` is an error, its class satisfies `P`".
`Checks r P` = "`r` succeeds with exactly the values that satisfy `P`, and otherwise raises one of the library's own
errors": the one statement about a check from which round trip (`Checks.of`), strictness (`Checks.ok`) and totality
(`Checks.errIn`) each take their part.
-/
namespace Abverif.Wamp

def ErrIn (P : ErrClass → Prop) (r : Except Err α) : Prop := ∀ e, r = .error e → P e.cls

theorem ErrIn.ok {P : ErrClass → Prop} (a : α) : ErrIn P (.ok a : Except Err α) := by
  intro e h; cases h

theorem ErrIn.fail {P : ErrClass → Prop} {c : ErrClass} (site : Str) (h : P c) : ErrIn P (fail c site : Except Err α) := by
  intro e he
  have he' : (Except.error ⟨c, site⟩ : Except Err α) = .error e := he
  cases he'
  exact h

theorem ErrIn.mono {P Q : ErrClass → Prop} {r : Except Err α} (h : ErrIn P r) (hpq : ∀ c, P c → Q c) : ErrIn Q r :=
  fun e he => hpq _ (h e he)

theorem ErrIn.bind {P : ErrClass → Prop} {x : Except Err α} {f : α → Except Err β}
    (hx : ErrIn P x) (hf : ∀ a, x = .ok a → ErrIn P (f a)) : ErrIn P (x >>= f) := by
  intro e he
  cases hxx : x with
  | error e' =>
    rw [hxx] at he
    have he' : (Except.error e' : Except Err β) = .error e := he
    cases he'
    exact hx _ hxx
  | ok a =>
    rw [hxx] at he
    exact hf a hxx e he

theorem ErrIn.map {P : ErrClass → Prop} {x : Except Err α} (hx : ErrIn P x) (g : α → β) :
    ErrIn P (x >>= fun a => pure (g a)) :=
  hx.bind (fun _ _ => ErrIn.ok _)

theorem ErrIn.ite {P : ErrClass → Prop} {c : Prop} [Decidable c] {a b : Except Err α}
    (ha : ErrIn P a) (hb : ErrIn P b) : ErrIn P (if c then a else b) := by
  split <;> assumption

/-- the library's own errors -/
def Allowed (c : ErrClass) : Prop := c.allowed = true

theorem allowed_protocol : Allowed .protocol := rfl
theorem allowed_invalidUri : Allowed .invalidUri := rfl

structure Checks {α : Type} (r : Except Err α) (P : α → Prop) : Prop where
  ok_iff : ∀ a, r = .ok a ↔ P a
  errIn : ErrIn Allowed r

namespace Checks
variable {α β : Type} {P Q : α → Prop} {r : Except Err α} {a : α}

theorem ok (h : Checks r P) (ha : r = .ok a) : P a := (h.ok_iff a).mp ha

theorem of (h : Checks r P) (ha : P a) : r = .ok a := (h.ok_iff a).mpr ha

theorem congr (h : Checks r P) (hpq : ∀ a, P a ↔ Q a) : Checks r Q :=
  ⟨fun a => (h.ok_iff a).trans (hpq a), h.errIn⟩

/-- a function about which only the error classes are known -/
theorem self (h : ErrIn Allowed r) : Checks r (fun a => r = .ok a) := ⟨fun _ => Iff.rfl, h⟩

theorem pure (a : α) : Checks (.ok a : Except Err α) (fun b => a = b) :=
  ⟨fun _ => ⟨Except.ok.inj, congrArg _⟩, ErrIn.ok a⟩

theorem never {c : ErrClass} {site : Str} (h : Allowed c) (hP : ∀ a, ¬P a) : Checks (fail c site : Except Err α) P :=
  ⟨fun a => ⟨nofun, fun h => (hP a h).elim⟩, ErrIn.fail site h⟩

/-! The next three are stated so that they apply, by `exact`, to a check whose argument is a constructor: the test on
the right has then computed to `true`, to `false`, or is the condition of the `if`. -/

theorem pass : Checks (.ok a : Except Err α) (fun b => a = b ∧ true = true) :=
  (Checks.pure a).congr (fun _ => (and_iff_left rfl).symm)

theorem fails {c : ErrClass} {site : Str} (h : Allowed c) :
    Checks (fail c site : Except Err α) (fun b => Q b ∧ false = true) :=
  never h fun _ h => nomatch h.2

theorem guard {cond : Prop} [Decidable cond] {c : ErrClass} {site : Str} (h : Allowed c) :
    Checks (if cond then .ok a else fail c site) (fun b => a = b ∧ cond) := by
  split
  · exact (Checks.pure a).congr (fun _ => (and_iff_left ‹cond›).symm)
  · exact never h fun _ hb => ‹¬cond› hb.2

theorem guardNot {cond : Prop} [Decidable cond] {c : ErrClass} {site : Str} (h : Allowed c) :
    Checks (if cond then fail c site else .ok a) (fun b => a = b ∧ ¬cond) := by
  split
  · exact never h fun _ hb => hb.2 ‹cond›
  · exact (Checks.pure a).congr (fun _ => (and_iff_left ‹¬cond›).symm)

theorem bind {x : Except Err α} {f : α → Except Err β} {R : α → β → Prop}
    (hx : Checks x P) (hf : ∀ a, P a → Checks (f a) (R a)) : Checks (x >>= f) (fun b => ∃ a, P a ∧ R a b) := by
  refine ⟨fun b => ?_, hx.errIn.bind (fun a ha => (hf a (hx.ok ha)).errIn)⟩
  cases hxa : x with
  | error e => exact ⟨nofun, fun ⟨a, ha, _⟩ => by rw [hx.of ha] at hxa; cases hxa⟩
  | ok a =>
    refine ((hf a (hx.ok hxa)).ok_iff b).trans ⟨fun h => ⟨a, hx.ok hxa, h⟩, fun ⟨a', ha', h⟩ => ?_⟩
    cases Except.ok.inj (hxa.symm.trans (hx.of ha'))
    exact h

theorem map {x : Except Err α} {v : α} {C : Prop} (hx : Checks x (fun a => v = a ∧ C)) (g : α → β) :
    Checks (x >>= fun a => Pure.pure (g a)) (fun b => g v = b ∧ C) :=
  (hx.bind (fun a _ => Checks.pure (g a))).congr fun _ =>
    ⟨fun ⟨_, ⟨rfl, hc⟩, hb⟩ => ⟨hb, hc⟩, fun ⟨hb, hc⟩ => ⟨v, ⟨rfl, hc⟩, hb⟩⟩

end Checks

end Abverif.Wamp

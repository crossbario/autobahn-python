import Abverif.Proofs.Lemmas.WsWalk
/-
The invariant behind "closing is bounded": an armed closing-handshake / server-connection-drop timer has its deadline
no later than now + the configured timeout (`DB`).  `DP a b := DB a → DB b` holds across every engine function
(`DP.walk`): the clock only moves forward, the configuration never changes, and the two timers are only armed by
`armCloseHs` (`batched now T ≤ now + T`) and `armServerDrop` (`now + T`), or cleared.
-/
namespace Abverif.Ws

def DB (s : S) : Prop :=
  (∀ D q, s.tCloseHs = some (D, q) → D ≤ s.now + s.cfg.closeHsTimeout) ∧
  (∀ D q, s.tServerDrop = some (D, q) → D ≤ s.now + s.cfg.serverDropTimeout)

def DP (a b : S) : Prop := DB a → DB b

theorem DP.refl (a : S) : DP a a := id
theorem DP.trans {a b c : S} (h1 : DP a b) (h2 : DP b c) : DP a c := fun h => h2 (h1 h)

theorem DP.of_le {a b : S} (hnow : a.now ≤ b.now) (hcfg : b.cfg = a.cfg) (hclose : b.tCloseHs = a.tCloseHs ∨ b.tCloseHs = none)
    (hdrop : b.tServerDrop = a.tServerDrop ∨ b.tServerDrop = none) : DP a b := by
  intro d
  refine ⟨fun D q h => ?_, fun D q h => ?_⟩
  · rcases hclose with e | e
    · rw [e] at h; have := d.1 D q h; rw [hcfg]; omega
    · rw [e] at h; cases h
  · rcases hdrop with e | e
    · rw [e] at h; have := d.2 D q h; rw [hcfg]; omega
    · rw [e] at h; cases h

theorem DP.of_same {a b : S} (hnow : b.now = a.now) (hcfg : b.cfg = a.cfg) (hclose : b.tCloseHs = a.tCloseHs)
    (hdrop : b.tServerDrop = a.tServerDrop) : DP a b :=
  DP.of_le (by rw [hnow]; exact Nat.le_refl _) hcfg (Or.inl hclose) (Or.inl hdrop)

theorem DP.of_ApiEq {a b : S} (h : ApiEq a b) : DP a b :=
  h ▸ DP.of_same rfl rfl rfl rfl

theorem timer_DP (s : S) (d : Nat) : DP s (s.timer d).1 := DP.of_same rfl rfl rfl rfl

theorem armCloseHs_DP (s : S) : DP s (armCloseHs s) := fun d =>
  ⟨fun D q h => by cases h; exact batched_le _ _, d.2⟩

theorem armServerDrop_DP (s : S) : DP s (armServerDrop s) := fun d =>
  ⟨d.1, fun D q h => by cases h; exact Nat.le_refl _⟩

theorem sendCloseFrame_DP (s : S) (c : Option Nat) (r : Option Bytes) (i : Bool) : DP s (sendCloseFrame s c r i) :=
  sendCloseFrame_of (R := DP) DP.trans armCloseHs_DP s c r i (DP.refl s) (DP.of_same rfl rfl rfl rfl)
    fun _ h _ => (DP.of_ApiEq h.eq.toApiEq).trans (DP.of_same rfl rfl rfl rfl)

theorem DP.base : Walk.Base DP where
  refl := DP.refl
  trans := DP.trans
  parse h := h ▸ DP.of_same rfl rfl rfl rfl
  emit _ _ _ := DP.of_same rfl rfl rfl rfl
  armServerDrop := armServerDrop_DP
  armPingNext _ := DP.of_same rfl rfl rfl rfl
  armPingTimeout _ := DP.of_same rfl rfl rfl rfl
  sends h _ := DP.of_ApiEq h.eq.toApiEq
  dropped _ _ _ _ := DP.of_same rfl rfl rfl rfl
  failClose _ _ _ := sendCloseFrame_DP _ _ _ _
  unclean _ _ := DP.of_same rfl rfl rfl rfl
  peerReason _ _ _ := DP.of_same rfl rfl rfl rfl
  tick _ _ := DP.of_le (Nat.le_max_left _ _) rfl (Or.inl rfl) (Or.inl rfl)

theorem connectionLost_DP (s : S) : DP s (connectionLost s) :=
  connectionLost_of DP.refl s fun _ _ => DP.of_le (Nat.le_refl _) rfl (Or.inl rfl) (Or.inr rfl)

theorem DP.walk : Walk DP :=
  Walk.ofSteps DP.base
    (mark := fun _ keep _ => DP.of_le (Nat.le_refl _) rfl (by cases keep <;> simp) (Or.inl rfl))
    (replyClose := fun s => replyClose_of s (sendCloseFrame_DP _ _ _ _) (sendCloseFrame_DP _ _ _ _))
    (ping := fun _ _ _ _ _ => DP.of_same rfl rfl rfl rfl)
    (opened := fun _ _ => DP.of_same rfl rfl rfl rfl)
    (forget := fun _ _ keepCloseHs keepServerDrop _ =>
      DP.of_le (Nat.le_refl _) rfl (by cases keepCloseHs <;> simp) (by cases keepServerDrop <;> simp))
    (buffer := fun _ _ => DP.of_same rfl rfl rfl rfl)

theorem sendClose_DP (s : S) (c : Option Nat) (r : Option Bytes) : DP s (sendClose s c r) :=
  DP.base.sendClose_of s c r (sendCloseFrame_DP _ _ _ _)

end Abverif.Ws

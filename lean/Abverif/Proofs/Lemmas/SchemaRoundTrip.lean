import Abverif.Proofs.Lemmas.SchemaDict
import Abverif.Proofs.Lemmas.SchemaSteps
/-
Round trip (C03): both stages of `Schema.parse (Schema.marshal m)` succeed with `m`, for every well-formed schema and
every message that is `strict` and `residual` (the theorem itself, `parse_marshal`, is in C03).  What `marshal` writes
where (the options dictionary, the positional values, the tail), and that each part of `parse` reads back, from that
list, the attributes it was written from.
-/
namespace Abverif.Wamp
open Schema

theorem marshalDict_eq (σ : Schema) (m : Msg) :
    σ.marshalDict m = (if σ.custom then (m.get cs!"custom").entries else []) ++
      (σ.opts.flatMap (marshalOpt m) ++ (if σ.tail.isSome then marshalEnc m else [])) := by
  simp [Schema.marshalDict, List.append_assoc]

theorem get?_marshalDict_opt {σ : Schema} {O : Oracles} {m : Msg}
    (hwf : σ.wf = true) (hwfO : σ.wfO O = true) (hst : σ.strict O m = true) {s : OptStep} (hs : s ∈ σ.opts) :
    Dict.get? (σ.marshalDict m) s.key =
      if s.mm.emits (m.get s.field) = true then some (s.ty.encode (m.get s.field)) else none := by
  rw [marshalDict_eq]
  have hcust : s.key ∉ ((if σ.custom then (m.get cs!"custom").entries else [])).map (·.1) := by
    by_cases hc : σ.custom = true
    · simp only [hc, if_true]
      intro hk
      have h1 := custom_keys hst hc _ hk
      rw [wfO_key hwfO hc hs] at h1
      exact Bool.false_ne_true h1
    · simp [hc]
  have htl : Dict.get? (if σ.tail.isSome then marshalEnc m else []) s.key = none := by
    apply Dict.get?_none_of_not_mem
    intro hk
    split at hk
    · rename_i ht
      exact opts_keys_not_enc hwf ht (List.mem_map_of_mem hs) (marshalEnc_keys m _ hk)
    · cases hk
  rw [Dict.get?_append_of_not_mem hcust,
    Dict.get?_flatMap_of_mem (marshalOpt_keys m) _ σ.opts hs (opts_keys_nodup hwf), htl, Option.or_none]
  exact get?_marshalOpt m s

theorem getD_marshalDict_enc {σ : Schema} {m : Msg} (hwf : σ.wf = true) (ht : σ.tail.isSome = true)
    {k : Str} (hk : k ∈ encKeys) :
    (Dict.get? (σ.marshalDict m) k).getD .null = if (m.get cs!"payload").truthy then m.get k else .null := by
  rw [marshalDict_eq]
  have hc : σ.custom = false := by
    have := (wf_parts hwf).noCustomTail
    simpa [ht] using this
  simp only [hc, ht, if_true, Bool.false_eq_true, if_false, List.nil_append]
  rw [Dict.get?_flatMap_of_not_mem (marshalOpt_keys m) _ σ.opts (fun hm => opts_keys_not_enc hwf ht hm hk)]
  exact getD_marshalEnc m hk

theorem custom_filter {σ : Schema} {O : Oracles} {m : Msg}
    (hwf : σ.wf = true) (hwfO : σ.wfO O = true) (hst : σ.strict O m = true) (hc : σ.custom = true) :
    WVal.dict ((σ.marshalDict m).filter (fun kv => O.customAttr kv.1)) = m.get cs!"custom" := by
  have hck := custom_keys hst hc
  have htn : σ.tail.isSome = false := by
    have := (wf_parts hwf).noCustomTail
    simpa [hc] using this
  rw [marshalDict_eq]
  simp only [hc, if_true, htn, Bool.false_eq_true, if_false, List.append_nil, List.filter_append]
  have h1 : ((m.get cs!"custom").entries).filter (fun kv => O.customAttr kv.1) = (m.get cs!"custom").entries := by
    apply List.filter_eq_self.mpr
    intro kv hkv
    exact hck kv.1 (List.mem_map_of_mem hkv)
  have h2 : (σ.opts.flatMap (marshalOpt m)).filter (fun kv => O.customAttr kv.1) = [] := by
    apply List.filter_eq_nil_iff.mpr
    intro kv hkv
    obtain ⟨s, hs, hkvs⟩ := List.mem_flatMap.mp hkv
    rw [marshalOpt_keys m s kv.1 (List.mem_map_of_mem hkvs), wfO_key hwfO hc hs]
    exact Bool.false_ne_true
  rw [h1, h2, List.append_nil]
  obtain ⟨c, hcd, _⟩ := custom_dict hst hc
  rw [hcd]
  rfl

theorem OptStep.parse_marshal {σ : Schema} {O : Oracles} {m : Msg}
    (hwf : σ.wf = true) (hwfO : σ.wfO O = true)
    (hst : σ.strict O m = true) (hres : σ.residual O m = true) {s : OptStep} (hs : s ∈ σ.opts) :
    s.parse O (σ.marshalDict m) = .ok (m.get s.field) := by
  have hswf := (wf_parts hwf).opts s hs
  have hsres := (residual_parts hres).opts s hs
  have hget := get?_marshalDict_opt hwf hwfO hst hs
  unfold OptStep.residual at hsres
  by_cases hem : s.mm.emits (m.get s.field) = true
  · rw [if_pos hem] at hget
    rw [if_pos hem, Bool.and_eq_true] at hsres
    rw [OptStep.parse_present hget]
    exact OTy.check_encode_of_valid O s.field hsres.1
  · rw [if_neg hem] at hget
    rw [if_neg hem, Bool.and_eq_true, Bool.and_eq_true] at hsres
    obtain ⟨⟨hd, habs⟩, _⟩ := hsres
    have hreq : s.required = false := by
      cases hr : s.required
      · rfl
      · exact absurd (OptStep.emits_of_required hswf hr _) hem
    refine (OptStep.parse_absent_iff hget).mpr ⟨(isDflt_eq hd).symm, hreq, fun k hk => ?_⟩
    rw [hk] at habs
    simpa using habs

theorem parseOpts_marshal {σ : Schema} {O : Oracles} {m : Msg}
    (hwf : σ.wf = true) (hwfO : σ.wfO O = true)
    (hst : σ.strict O m = true) (hres : σ.residual O m = true) :
    parseOpts O (σ.marshalDict m) σ.opts = .ok (σ.opts.map (fun s => (s.field, m.get s.field))) := by
  refine parseOpts_spec.of ⟨List.length_map _, fun sk hsk => ?_⟩
  rw [← List.map_prod_left_eq_zip] at hsk
  obtain ⟨s, hs, rfl⟩ := List.mem_map.mp hsk
  exact ⟨rfl, OptStep.parse_marshal hwf hwfO hst hres hs⟩

def Schema.dropped (σ : Schema) (m : Msg) : Bool := σ.optsOptional && (σ.marshalDict m).isEmpty

def Schema.posVals (σ : Schema) (m : Msg) : List WVal := σ.pos.map (σ.marshalPosStep m)

def Schema.tailVals (σ : Schema) (m : Msg) : List WVal := if σ.tail.isSome then marshalTail m else []

theorem marshal_eq (σ : Schema) (m : Msg) :
    σ.marshal m = .int σ.code :: ((if σ.dropped m then (σ.posVals m).dropLast else σ.posVals m) ++ σ.tailVals m) := by
  simp [Schema.marshal, Schema.dropped, Schema.posVals, Schema.tailVals]

theorem posVals_length (σ : Schema) (m : Msg) : (σ.posVals m).length = σ.k := by
  simp [Schema.posVals, Schema.k]

theorem dropped_parts {σ : Schema} {m : Msg} (hwf : σ.wf = true) (hd : σ.dropped m = true) :
    σ.optsOptional = true ∧ (σ.marshalDict m).isEmpty = true ∧ σ.tailVals m = [] ∧
      σ.optsPos = some σ.k ∧ σ.k ≥ 1 := by
  simp only [Schema.dropped, Bool.and_eq_true] at hd
  rcases (wf_parts hwf).optional with h0 | ⟨htl, hk, hk1⟩
  · rw [hd.1] at h0; cases h0
  · refine ⟨hd.1, hd.2, ?_, hk, hk1⟩
    simp only [Schema.tailVals]
    cases hh : σ.tail <;> simp_all

theorem marshalPosStep_opts (σ : Schema) (m : Msg) : σ.marshalPosStep m .opts = .dict (σ.marshalDict m) := rfl

theorem optsAt_marshal {σ : Schema} {m : Msg} (hwf : σ.wf = true) {j : Nat} (h : σ.optsPos = some j) :
    ((σ.marshal m).getD j .null).entries = σ.marshalDict m := by
  obtain ⟨i, rfl, hi, hpi⟩ := optsPos_eq_some h
  rw [marshal_eq, List.getD_cons_succ, List.getD_eq_getElem?_getD]
  by_cases hd : σ.dropped m = true
  · -- optional dictionary, empty: the position is not there at all
    simp only [hd, if_true]
    obtain ⟨_, hemp, htv, hk, _⟩ := dropped_parts hwf hd
    have hik : i + 1 = σ.k := by rw [h] at hk; exact Option.some.inj hk
    rw [htv, List.append_nil]
    have : ((σ.posVals m).dropLast)[i]? = none := by
      apply List.getElem?_eq_none
      simp [posVals_length]
      omega
    rw [this]
    simp only [Option.getD_none, WVal.entries]
    exact (List.isEmpty_iff.mp hemp).symm
  · simp only [hd, Bool.false_eq_true, if_false]
    have hlt : i < (σ.posVals m).length := by rw [posVals_length]; exact hi
    rw [List.getElem?_append_left hlt]
    simp only [Schema.posVals, List.getElem?_map, List.getElem?_eq_getElem hi, Option.map_some, hpi,
      marshalPosStep_opts, Option.getD_some, WVal.entries]

theorem marshalDict_nil_of_no_opts {σ : Schema} {m : Msg} (hwf : σ.wf = true) (h : σ.optsPos = none) :
    σ.marshalDict m = [] := by
  rcases (wf_parts hwf).optsPresent with h0 | h0
  · simp only [Bool.and_eq_true, List.isEmpty_iff, Bool.not_eq_true', Option.isNone_iff_eq_none] at h0
    obtain ⟨⟨ho, ht⟩, hc⟩ := h0
    simp [Schema.marshalDict, ho, ht, hc]
  · rw [h] at h0; cases h0

theorem optsOf_marshal {σ : Schema} {m : Msg} (hwf : σ.wf = true) : σ.optsOf (σ.marshal m) = σ.marshalDict m := by
  cases h : σ.optsPos with
  | none => rw [optsOf_none h, marshalDict_nil_of_no_opts hwf h]
  | some j => rw [optsOf_some h, optsAt_marshal hwf h]

def PosStep.fieldVal (m : Msg) (p : PosStep) : Option (Str × WVal) := p.field?.map (fun f => (f, m.get f))

theorem parsePos_nil_input (O : Oracles) (w : List WVal) : ∀ ps : List PosStep, parsePos O w ps [] = .ok [] := by
  intro ps
  induction ps with
  | nil => rfl
  | cons p t ih => simp only [parsePos, ih]

theorem PosStep.parse_marshal {σ : Schema} {O : Oracles} {m : Msg}
    (hwf : σ.wf = true) (hwfO : σ.wfO O = true)
    (hst : σ.strict O m = true) (hres : σ.residual O m = true) {p : PosStep} (hp : p ∈ σ.pos) :
    p.parse O (σ.marshal m) (σ.marshalPosStep m p) = .ok (p.fieldVal m) := by
  have hps := (strict_parts hst).pos p hp
  refine PosStep.parse_spec.of ⟨by cases p <;> rfl, ?_⟩
  have hopts : ∀ s ∈ σ.opts, s.parse O (σ.optsOf (σ.marshal m)) = .ok (m.get s.field) := fun s hs => by
    rw [optsOf_marshal hwf]
    exact OptStep.parse_marshal hwf hwfO hst hres hs
  cases p with
  | opts => rfl
  | _ => exact (PosStep.accepts_iff_strict hwf hp hopts rfl).mpr hps

theorem marshalPosStep_field (σ : Schema) (m : Msg) (p : PosStep) :
    p.field?.map (fun f => (f, σ.marshalPosStep m p)) = p.field?.map (fun f => (f, m.get f)) := by
  cases p <;> rfl

/-- the values `marshal` writes after the type code are those of a prefix of the positions (all of them, or all but
the optional dictionary), followed by values that pair with no position -/
theorem marshal_tail_split {σ : Schema} (m : Msg) (hwf : σ.wf = true) :
    ∃ ps qs rest, σ.pos = ps ++ qs ∧ (σ.marshal m).tail = ps.map (σ.marshalPosStep m) ++ rest ∧
      qs.zip rest = [] ∧ qs.filterMap PosStep.field? = [] := by
  rw [marshal_eq, List.tail_cons]
  by_cases hd : σ.dropped m = true
  · obtain ⟨hopt, _, htv, _, _⟩ := dropped_parts hwf hd
    refine ⟨σ.pos.dropLast, [.opts], [], pos_last_opts hwf hopt, ?_, rfl, rfl⟩
    simp [hd, htv, Schema.posVals, List.map_dropLast]
  · exact ⟨σ.pos, [], σ.tailVals m, (List.append_nil _).symm, by simp [hd, Schema.posVals], rfl, rfl⟩

theorem parsePos_marshal {σ : Schema} {O : Oracles} {m : Msg}
    (hwf : σ.wf = true) (hwfO : σ.wfO O = true)
    (hst : σ.strict O m = true) (hres : σ.residual O m = true) :
    parsePos O (σ.marshal m) σ.pos (σ.marshal m).tail =
      .ok ((σ.pos.filterMap PosStep.field?).map (fun f => (f, m.get f))) := by
  obtain ⟨ps, qs, rest, hpos, htl, hz, hq⟩ := marshal_tail_split m hwf
  rw [htl, hpos]
  refine parsePos_spec.of ?_
  rw [List.zip_append (List.length_map _).symm, hz, List.append_nil, ← List.map_prod_left_eq_zip]
  constructor
  · rw [List.filterMap_map, List.filterMap_append, hq, List.append_nil, List.map_filterMap]
    exact congrArg (List.filterMap · ps) (funext (marshalPosStep_field σ m))
  · intro pv hpv
    obtain ⟨p, hp, rfl⟩ := List.mem_map.mp hpv
    exact (PosStep.parse_spec.ok (PosStep.parse_marshal hwf hwfO hst hres (hpos ▸ List.mem_append_left _ hp))).2

def tailMsg (m : Msg) : Msg :=
  tailOf (m.get cs!"args") (m.get cs!"kwargs") (m.get cs!"payload") (m.get cs!"enc_algo") (m.get cs!"enc_key")
    (m.get cs!"enc_serializer")

theorem not_dropped_of_tail {σ : Schema} {m : Msg} (hwf : σ.wf = true) (ht : σ.tail.isSome = true) :
    σ.dropped m = false := by
  rcases (wf_parts hwf).optional with h | ⟨h, _⟩
  · simp [Schema.dropped, h]
  · cases hh : σ.tail <;> simp_all

theorem marshal_tail_eq {σ : Schema} {m : Msg} (hwf : σ.wf = true) (ht : σ.tail.isSome = true) :
    σ.marshal m = (.int σ.code :: σ.posVals m) ++ marshalTail m := by
  rw [marshal_eq, not_dropped_of_tail hwf ht]
  simp [Schema.tailVals, ht]

theorem getD_append_pre {k : Nat} {pre : List WVal} (hpre : pre.length = k + 1) (tl : List WVal) (j : Nat) :
    (pre ++ tl).getD (k + 1 + j) .null = tl.getD j .null := by
  rw [List.getD_eq_getElem?_getD, List.getElem?_append_right (by omega), hpre, Nat.add_sub_cancel_left,
    ← List.getD_eq_getElem?_getD]

theorem parseTail_append {O : Oracles} {t : TailSpec} {k : Nat} {d : Dict} {pre : List WVal}
    (hpre : pre.length = k + 1) (tl : List WVal) :
    parseTail O t k d (pre ++ tl) = parseTail O t 0 d (.null :: tl) := by
  have h0 := getD_append_pre hpre tl 0
  have h1 := getD_append_pre hpre tl 1
  have e1 : (k + 1 + tl.length == k + 2) = (tl.length + 1 == 0 + 2) := by
    rw [Bool.eq_iff_iff]; simp only [beq_iff_eq]; omega
  have e2 : (k + 1 + tl.length > k + 1) = (tl.length + 1 > 0 + 1) := by
    apply propext; omega
  have e3 : (k + 1 + tl.length > k + 2) = (tl.length + 1 > 0 + 2) := by
    apply propext; omega
  simp only [parseTail, payloadMode, argsPart, kwargsPart, List.length_append, hpre, List.length_cons, e1, e2, e3,
    h0, h1]
  rfl

theorem checkArgs_list (v : ArgsVariant) (xs : List WVal) : checkArgs v (.list xs) = .ok (.list xs) := by
  cases v <;> rfl

theorem checkKwargs_dict (v : ArgsVariant) (kvs : Dict) : checkKwargs v (.dict kvs) = .ok (.dict kvs) := by
  cases v <;> rfl

theorem parseTail_marshal {σ : Schema} {O : Oracles} {m : Msg} {t : TailSpec}
    (hwf : σ.wf = true) (htl : σ.tail = some t)
    (hst : σ.strict O m = true) (hres : σ.residual O m = true) :
    parseTail O t σ.k (σ.marshalDict m) (σ.marshal m) = .ok (tailMsg m) := by
  have ht : σ.tail.isSome = true := by simp [htl]
  have hts := (strict_parts hst).tail
  rw [htl] at hts
  have htr := (residual_parts hres).tail
  rw [htl] at htr
  obtain ⟨st, skw⟩ := tailStrict_iff.mp hts
  have rs := tailResidual_parts htr
  have hpre : (WVal.int σ.code :: σ.posVals m).length = σ.k + 1 := by simp [posVals_length]
  rw [marshal_tail_eq hwf ht, parseTail_append hpre]
  unfold tailMsg marshalTail
  by_cases hp : (m.get cs!"payload").truthy = true
  · -- a payload: it is `bytes`, args and kwargs are `None`, and the `enc_*` attributes are read from the options
    have hnn : (m.get cs!"payload").isNull = false := by
      cases h : (m.get cs!"payload").isNull
      · rfl
      · rw [WVal.eq_null_of_isNull h] at hp; cases hp
    obtain ⟨b, hb⟩ := WVal.exists_bytes_of_isBytes (st.payload.resolve_left (by simp [hnn]))
    obtain ⟨ha, hk⟩ := st.alone.resolve_left (by simp [hnn])
    have henc : ∀ {key : Str} {valid : WVal → Bool}, key ∈ encKeys →
        ((m.get key).isNull = true ∨ valid (m.get key) = true) →
        encGet (σ.marshalDict m) key valid = .ok (m.get key) :=
      fun hk hv => encGet_spec.of ⟨by rw [getD_marshalDict_enc hwf ht hk, if_pos hp], hv⟩
    have hgate : encTripleGate (m.get cs!"enc_algo") (m.get cs!"enc_key") (m.get cs!"enc_serializer") = .ok () :=
      encTripleGate_spec.of (st.triple.imp_right (·.2))
    rw [if_pos hp, ha, hk, hb]
    simp only [parseTail, payloadMode, List.length_cons, List.length_nil, List.getD_cons_succ, List.getD_cons_zero,
      henc (by decide) st.algo, henc (by decide) st.key, henc (by decide) st.ser, bind, Except.bind, hgate]
    rfl
  · -- no payload: `payload` and the `enc_*` attributes are `None`; args / kwargs are read back as they are
    have hpn := WVal.eq_null_of_isNull (rs.payload.resolve_right hp)
    obtain ⟨ea, ek, es⟩ := st.triple.resolve_right (by simp [hpn, WVal.isNull])
    rw [if_neg hp, hpn, WVal.eq_null_of_isNull ea, WVal.eq_null_of_isNull ek, WVal.eq_null_of_isNull es]
    by_cases hkw : (m.get cs!"kwargs").truthy = true
    · -- [args, kwargs]
      obtain ⟨kvs, hkd⟩ := skw.resolve_left (fun h => by rw [h] at hkw; cases hkw)
      have hargs : checkArgs t.variant (m.get cs!"args") = .ok (m.get cs!"args") := by
        rcases rs.args with h | h
        · cases hvar : t.variant with
          | std => rw [WVal.eq_null_of_isNull h]; rfl
          | publish =>
            obtain ⟨xs, hxs⟩ := WVal.exists_list_of_isList (rs.publish hvar hkw)
            rw [hxs]; rfl
        · obtain ⟨xs, hxs⟩ := WVal.exists_list_of_isList h
          rw [hxs, checkArgs_list]
      rw [if_pos hkw]
      simp only [parseTail, payloadMode, argsPart, kwargsPart, List.length_cons, List.length_nil, List.getD_cons_succ,
        List.getD_cons_zero, hargs, hkd, checkKwargs_dict, bind, Except.bind]
      rfl
    · have hkn := WVal.eq_null_of_isNull (rs.kwargs.resolve_right hkw)
      rw [if_neg hkw, hkn]
      by_cases hat : (m.get cs!"args").truthy = true
      · -- [args]
        obtain ⟨xs, hxs⟩ := WVal.exists_list_of_isList
          (rs.args.resolve_left (fun h => by rw [WVal.eq_null_of_isNull h] at hat; cases hat))
        rw [if_pos hat, hxs]
        simp only [parseTail, payloadMode, argsPart, kwargsPart, List.length_cons, List.length_nil,
          List.getD_cons_succ, List.getD_cons_zero, checkArgs_list, bind, Except.bind]
        rfl
      · -- nothing
        rw [if_neg hat, WVal.eq_null_of_isNull ((rs.written.resolve_left hkw).resolve_right hat)]
        rfl

theorem marshalTail_length_le (m : Msg) : (marshalTail m).length ≤ 2 := by
  unfold marshalTail
  repeat' split
  all_goals simp

theorem lengths_marshal {σ : Schema} {m : Msg} (hwf : σ.wf = true) :
    σ.lengths.contains (σ.marshal m).length = true := by
  rw [lengths_contains]
  split
  · rename_i ht
    have := marshalTail_length_le m
    rw [marshal_tail_eq hwf ht, List.length_append, List.length_cons, posVals_length]
    omega
  · rename_i ht
    have htv : σ.tailVals m = [] := by simp [Schema.tailVals, ht]
    rw [marshal_eq, htv, List.append_nil]
    by_cases hd : σ.dropped m = true
    · obtain ⟨hopt, _, _, _, hk1⟩ := dropped_parts hwf hd
      simp only [hd, if_true, List.length_cons, List.length_dropLast, posVals_length]
      exact Or.inl ⟨hopt, by omega⟩
    · simp only [hd, Bool.false_eq_true, if_false, List.length_cons, posVals_length]
      exact Or.inr trivial

theorem tailPart_marshal {σ : Schema} {O : Oracles} {m : Msg} (hwf : σ.wf = true)
    (hst : σ.strict O m = true) (hres : σ.residual O m = true) :
    σ.tailPart O (σ.marshal m) =
      .ok ((if σ.tail.isSome then tailFields else []).map (fun f => (f, m.get f))) := by
  unfold Schema.tailPart
  rw [optsOf_marshal hwf]
  cases htl : σ.tail with
  | none => rfl
  | some t => exact parseTail_marshal hwf htl hst hres

theorem customPart_marshal {σ : Schema} {O : Oracles} {m : Msg} (hwf : σ.wf = true) (hwfO : σ.wfO O = true)
    (hst : σ.strict O m = true) :
    σ.customPart O (σ.marshal m) = (if σ.custom then [cs!"custom"] else []).map (fun f => (f, m.get f)) := by
  unfold Schema.customPart
  rw [optsOf_marshal hwf]
  by_cases hc : σ.custom = true
  · simp [hc, custom_filter hwf hwfO hst hc]
  · simp [hc]

/-- the field-by-field part of `parse` reads the attributes back: each part returns its share of `fieldNames` with
the values `m` has there, and a message with distinct names is determined by those -/
theorem parseFields_marshal (σ : Schema) (O : Oracles)
    (hwf : σ.wf = true) (hwfO : σ.wfO O = true)
    (m : Msg) (hst : σ.strict O m = true) (hres : σ.residual O m = true) :
    σ.parseFields O (σ.marshal m) = .ok m := by
  have hnames := (strict_parts hst).names
  have hm : σ.fieldNames.map (fun f => (f, Msg.get m f)) = m := by
    rw [← hnames]
    exact Msg.rebuild m (hnames ▸ (wf_parts hwf).names)
  unfold Schema.parseFields
  simp only [lengths_marshal hwf, Bool.not_true, Bool.false_eq_true, if_false]
  rw [parsePos_marshal hwf hwfO hst hres, tailPart_marshal hwf hst hres, optsOf_marshal hwf,
    parseOpts_marshal hwf hwfO hst hres, customPart_marshal hwf hwfO hst]
  simp only [pure, Except.pure, bind, Except.bind]
  congr 1
  conv => rhs; rw [← hm]
  simp [Schema.fieldNames, tailFields, List.map_append, List.map_map, Function.comp_def]

/-- everything before the constructor reads the attributes back: the cross-field checks of `parse` are among the
constructor's assertions (`wf`), which a valid message satisfies -/
theorem parseStage_marshal (σ : Schema) (O : Oracles)
    (hwf : σ.wf = true) (hwfO : σ.wfO O = true)
    (m : Msg) (hst : σ.strict O m = true) (hres : σ.residual O m = true) :
    σ.parseStage O (σ.marshal m) = .ok m := by
  unfold Schema.parseStage
  rw [parseFields_marshal σ O hwf hwfO m hst hres]
  have hpc : ctorCross .protocol O m σ.pcross = .ok () :=
    (ctorCross_ok_iff σ.pcross).mpr (fun c hc => (residual_parts hres).cross c ((wf_parts hwf).pcross c hc))
  simp only [bind, Except.bind, hpc]
  rfl

theorem ctorStage_valid (σ : Schema) (O : Oracles) (m : Msg) (hst : σ.strict O m = true) (hres : σ.residual O m = true) :
    σ.ctorStage O m = .ok () := by
  unfold Schema.ctorStage
  rw [(ctorOpts_ok_iff σ.opts).mpr (fun s hs => (Bool.and_eq_true_iff.mp ((residual_parts hres).opts s hs)).2),
    (ctorCross_ok_iff σ.cross).mpr (residual_parts hres).cross]
  simp only [bind, Except.bind]
  cases htl : σ.tail with
  | none => rfl
  | some t =>
    have hts := (strict_parts hst).tail
    rw [htl] at hts
    simp only [Option.isSome_some, if_true]
    exact kwargsCheck_spec.of (tailStrict_iff.mp hts).2

end Abverif.Wamp

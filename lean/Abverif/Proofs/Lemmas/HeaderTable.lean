import Abverif.Model.WsHeader
/-
The cascade `processData` applies to the first two header octets reports no violation exactly when the RFC predicate
holds (`hvFlags`, `okFlags`: Model/WsHeader.lean), for all 65 536 combinations of flags, reserved bits and opcode
(`flags_table`): 16 masking rows times 4 096 rows of the other rules, each part checked by evaluation.
-/
namespace Abverif.Ws

/-- the two masking rules look only at the role, its two options and the mask bit -/
theorem mask_rows : ∀ isServer requireMasked acceptMasked masked : Bool,
    ((if isServer && requireMasked && !masked then [HV.unmasked] else []) ++
      (if !isServer && !acceptMasked && masked then [HV.masked] else [])).isEmpty
      = (if isServer then (masked || !requireMasked) else (!masked || acceptMasked)) := by
  decide

/-- the other rules look at none of those four: for a client that accepts masked frames, where the masking rules
are silent, 2^5 flag combinations × 8 reserved-bit values × 16 opcodes (4 096 rows), checked by kernel evaluation -/
theorem frame_rows : ∀ (pmce inside fin tooLong isOne : Bool) (rsv : Fin 8) (opcode : Fin 16),
    (hvFlags false false true pmce inside fin rsv.val opcode.val false tooLong isOne).isEmpty
      = okFlags false false true pmce inside fin rsv.val opcode.val false tooLong isOne := by
  decide +kernel

/-- the complete finite table: 2^9 flag combinations × 8 reserved-bit values × 16 opcodes (65 536 rows), as the
product of the 16 rows of `mask_rows` and the 4 096 of `frame_rows` -/
theorem flags_table :
    ∀ (isServer requireMasked acceptMasked pmce inside fin masked tooLong isOne : Bool) (rsv : Fin 8) (opcode : Fin 16),
      (hvFlags isServer requireMasked acceptMasked pmce inside fin rsv.val opcode.val masked tooLong isOne).isEmpty
        = okFlags isServer requireMasked acceptMasked pmce inside fin rsv.val opcode.val masked tooLong isOne := by
  intro isServer requireMasked acceptMasked pmce inside fin masked tooLong isOne rsv opcode
  have split (R U M F : List HV) :
      (R ++ U ++ M ++ F).isEmpty = ((U ++ M).isEmpty && (R ++ [] ++ [] ++ F).isEmpty) := by
    cases R <;> cases U <;> cases M <;> cases F <;> rfl
  -- with the literals of `frame_rows` the two masking entries of the cascade reduce to `[]`
  have hframe : (_ ++ [] ++ [] ++ _).isEmpty = _ := frame_rows pmce inside fin tooLong isOne rsv opcode
  unfold hvFlags
  rw [split, mask_rows, hframe]
  unfold okFlags
  generalize (if isServer then (masked || !requireMasked) else (!masked || acceptMasked)) = maskOk
  cases maskOk <;> simp

end Abverif.Ws

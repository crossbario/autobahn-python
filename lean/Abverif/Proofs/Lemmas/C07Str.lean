import Abverif.Model.Http
/-!
C07 — lemmas about the string layer (`Abverif.Http`): find, strip, lower, split, splitlines, glob, int(), `str(n)`.
-/
namespace Abverif.Http

theorem findGo_shift (pat s : Bytes) (i : Nat) : findGo pat s i = (findGo pat s 0).map (· + i) := by
  induction s generalizing i with
  | nil => simp only [findGo]; split <;> simp
  | cons c rest ih =>
    simp only [findGo]
    split
    · simp
    · rw [ih (i + 1), ih (0 + 1), Option.map_map]
      congr 1; funext k; simp; omega

theorem find_cons (pat : Bytes) (c : UInt8) (rest : Bytes) :
    find pat (c :: rest) = if pat <+: c :: rest then some 0 else (find pat rest).map (· + 1) := by
  unfold find
  simp only [findGo, List.isPrefixOf_iff_prefix, findGo_shift pat rest (0 + 1), Nat.zero_add]

theorem find_some_iff (pat s : Bytes) (i : Nat) :
    find pat s = some i ↔ (i ≤ s.length ∧ pat <+: s.drop i ∧ ∀ j < i, ¬ pat <+: s.drop j) := by
  induction s generalizing i with
  | nil =>
    by_cases hp : pat = []
    · subst hp
      simp [find, findGo]
      exact ⟨fun h => ⟨h.symm, by simp [← h]⟩, fun h => h.1.symm⟩
    · simp [find, findGo, hp]
  | cons c rest ih =>
    rw [find_cons]
    cases i with
    | zero => by_cases hp : pat <+: c :: rest <;> simp [hp]
    | succ k =>
      rw [Nat.forall_lt_succ_left]
      by_cases hp : pat <+: c :: rest
      · simp [hp]
      · simp [hp, ih k]

theorem find_none_iff (pat s : Bytes) : find pat s = none ↔ ∀ j ≤ s.length, ¬ pat <+: s.drop j := by
  constructor
  · intro h j
    -- a position where the pattern starts has a least one below it, and `find` returns that
    induction j using Nat.strongRecOn with
    | _ j ih =>
      intro hj hp
      by_cases hmin : ∀ k < j, ¬ pat <+: s.drop k
      · rw [(find_some_iff pat s j).2 ⟨hj, hp, hmin⟩] at h
        cases h
      · obtain ⟨k, hk⟩ := Classical.not_forall.1 hmin
        obtain ⟨hkj, hpk⟩ := Classical.not_imp.1 hk
        exact ih k hkj (by omega) (Classical.not_not.1 hpk)
  · intro h
    cases hf : find pat s with
    | none => rfl
    | some i =>
      obtain ⟨h1, h2, _⟩ := (find_some_iff pat s i).1 hf
      exact absurd h2 (h i h1)

theorem find_bound {pat s : Bytes} {i : Nat} (h : find pat s = some i) : i + pat.length ≤ s.length := by
  obtain ⟨h1, h2, _⟩ := (find_some_iff pat s i).mp h
  have := h2.length_le
  simp at this; omega

theorem prefix_drop_append {pat s t : Bytes} {j : Nat} (hl : j + pat.length ≤ s.length)
    (h : pat <+: (s ++ t).drop j) : pat <+: s.drop j := by
  rw [List.drop_append] at h
  have h2 : s.drop j <+: s.drop j ++ t.drop (j - s.length) := List.prefix_append _ _
  exact List.prefix_of_prefix_length_le h h2 (by simp; omega)

theorem find_prefix_stable {pat s : Bytes} {i : Nat} (h : find pat s = some i) (t : Bytes) :
    find pat (s ++ t) = some i := by
  have hb := find_bound h
  obtain ⟨h1, h2, h3⟩ := (find_some_iff pat s i).mp h
  rw [find_some_iff]
  refine ⟨by simp; omega, ?_, ?_⟩
  · rw [List.drop_append]
    exact h2.trans (List.prefix_append _ _)
  · intro j hj hp
    exact h3 j hj (prefix_drop_append (by omega) hp)

theorem find_append_new {pat s t : Bytes} {i : Nat} (h0 : find pat s = none) (h : find pat (s ++ t) = some i) :
    s.length < i + pat.length := by
  obtain ⟨h1, h2, h3⟩ := (find_some_iff pat (s ++ t) i).mp h
  apply Nat.lt_of_not_le
  intro hle
  exact (find_none_iff pat s).mp h0 i (by omega) (prefix_drop_append hle h2)

theorem dropWhile_of_head {p : UInt8 → Bool} {s : Bytes}
    (h : ∀ c, s.head? = some c → p c = false) : s.dropWhile p = s := by
  cases s with
  | nil => rfl
  | cons c r => simp [h c rfl]

theorem head_dropWhile (p : UInt8 → Bool) (s : Bytes) :
    ∀ c, (s.dropWhile p).head? = some c → p c = false := by
  intro c hc
  have := List.head?_dropWhile_not p s
  rw [hc] at this; simpa using this

theorem rstripBy_spec (p : UInt8 → Bool) (m : Bytes) :
    ∃ r, m = rstripBy p m ++ r ∧ r.all p = true := by
  refine ⟨(m.reverse.takeWhile p).reverse, ?_, ?_⟩
  · unfold rstripBy
    rw [← List.reverse_append, List.takeWhile_append_dropWhile, List.reverse_reverse]
  · rw [List.all_reverse]; exact List.all_takeWhile

theorem strip_spec (s : Bytes) :
    ∃ l r, s = l ++ strip s ++ r ∧ l.all isSpace = true ∧ r.all isSpace = true := by
  obtain ⟨r, hr, hr2⟩ := rstripBy_spec isSpace (lstripBy isSpace s)
  refine ⟨s.takeWhile isSpace, r, ?_, List.all_takeWhile, hr2⟩
  unfold strip stripBy
  rw [List.append_assoc, ← hr]
  unfold lstripBy
  exact (List.takeWhile_append_dropWhile).symm

theorem strip_last (s : Bytes) : ∀ c, (strip s).getLast? = some c → isSpace c = false := by
  intro c hc
  unfold strip stripBy rstripBy at hc
  rw [List.getLast?_reverse] at hc
  exact head_dropWhile _ _ c hc

theorem strip_head (s : Bytes) : ∀ c, (strip s).head? = some c → isSpace c = false := by
  intro c hc
  obtain ⟨r, hr, _⟩ := rstripBy_spec isSpace (lstripBy isSpace s)
  apply head_dropWhile isSpace s c
  change (lstripBy isSpace s).head? = some c
  rw [hr]
  change (rstripBy isSpace (lstripBy isSpace s)).head? = some c at hc
  cases hx : rstripBy isSpace (lstripBy isSpace s) with
  | nil => rw [hx] at hc; simp at hc
  | cons a t => rw [hx] at hc; simpa using hc

theorem stripBy_of_clean {p : UInt8 → Bool} {s : Bytes} (h1 : ∀ c, s.head? = some c → p c = false)
    (h2 : ∀ c, s.getLast? = some c → p c = false) : stripBy p s = s := by
  unfold stripBy rstripBy lstripBy
  rw [dropWhile_of_head h1, dropWhile_of_head, List.reverse_reverse]
  intro c hc
  rw [List.head?_reverse] at hc
  exact h2 c hc

theorem stripBy_of_none {p : UInt8 → Bool} {s : Bytes} (h : ∀ c ∈ s, p c = false) : stripBy p s = s :=
  stripBy_of_clean (fun c hc => h c (List.mem_of_mem_head? hc)) (fun c hc => h c (List.mem_of_getLast? hc))

theorem strip_idem (s : Bytes) : strip (strip s) = strip s :=
  stripBy_of_clean (strip_head s) (strip_last s)

theorem strip_space_cons (v : Bytes) : strip (32 :: v) = strip v := by
  simp [strip, stripBy, lstripBy, isSpace]

/-- for the facts about single octets, settled by evaluation over all 256 (`local`: a global instance is also found for
`∀ c ∈ l, …`, which `decide` should read as a statement about the elements of `l`) -/
local instance decForallU8 (P : UInt8 → Prop) [DecidablePred P] : Decidable (∀ a, P a) :=
  @decidable_of_iff _ (∀ n, n < 256 → P (UInt8.ofNat n))
    ⟨fun h a => by have := h a.toNat a.toNat_lt; simpa using this, fun h n _ => h _⟩
    (Nat.decidableBallLT 256 (fun n _ => P (UInt8.ofNat n)))

theorem lowerC_idem : ∀ c : UInt8, lowerC (lowerC c) = lowerC c := by decide +kernel

theorem lower_length (s : Bytes) : (lower s).length = s.length := by simp [lower]

theorem lower_idem (s : Bytes) : lower (lower s) = lower s := by
  simp [lower, lowerC_idem]

theorem lower_append (a b : Bytes) : lower (a ++ b) = lower a ++ lower b := by simp [lower]

theorem splitOn_eq (sep : UInt8) (s : Bytes) : splitOn sep s = s.splitOn sep := by
  induction s with
  | nil => rfl
  | cons c r ih =>
    rw [splitOn, ih, List.splitOn_cons_eq_if_modifyHead]
    cases h : r.splitOn sep with
    | nil => exact absurd h (List.splitOn_ne_nil sep r)
    | cons p ps => simp only [beq_iff_eq, List.modifyHead_cons]

theorem join_eq (sep : Bytes) (l : List Bytes) : join sep l = sep.intercalate l := by
  fun_induction join sep l with
  | case1 => rfl
  | case2 x => exact List.intercalate_singleton.symm
  | case3 x y rest ih => rw [ih, List.intercalate_cons_cons]

theorem splitOn_ne_nil (sep : UInt8) (s : Bytes) : splitOn sep s ≠ [] :=
  splitOn_eq sep s ▸ List.splitOn_ne_nil sep s

theorem splitOn_join (sep : UInt8) (s : Bytes) : join [sep] (splitOn sep s) = s := by
  rw [splitOn_eq, join_eq, List.intercalate_splitOn]

theorem splitOn_no_sep (sep : UInt8) (s : Bytes) : ∀ p ∈ splitOn sep s, sep ∉ p := by
  induction s with
  | nil => simp [splitOn]
  | cons c r ih =>
    unfold splitOn
    split
    · rw [List.forall_mem_cons]
      exact ⟨by simp, ih⟩
    · next hne =>
      cases hx : splitOn sep r with
      | nil => exact absurd hx (splitOn_ne_nil _ _)
      | cons y ys =>
        rw [hx, List.forall_mem_cons] at ih
        rw [List.forall_mem_cons]
        exact ⟨by simpa [Ne.symm hne] using ih.1, ih.2⟩

theorem splitOn_of_no_sep {sep : UInt8} {s : Bytes} (h : sep ∉ s) : splitOn sep s = [s] := by
  rw [splitOn_eq, List.splitOn_eq_singleton h]

theorem splitWsGo_tokens (s cur : Bytes) (hc : ∀ c ∈ cur, isSpace c = false) :
    ∀ t ∈ splitWsGo s cur, t ≠ [] ∧ ∀ c ∈ t, isSpace c = false := by
  induction s generalizing cur with
  | nil =>
    unfold splitWsGo
    split
    · simp
    · next hne => simpa using ⟨by simpa using hne, hc⟩
  | cons c r ih =>
    unfold splitWsGo
    split
    · split
      · exact ih [] (by simp)
      · next hne =>
        rw [List.forall_mem_cons]
        exact ⟨by simpa using ⟨by simpa using hne, hc⟩, ih [] (by simp)⟩
    · next hsp => exact ih _ (by simpa [hsp] using hc)

theorem splitWs_tokens (s : Bytes) : ∀ t ∈ splitWs s, t ≠ [] ∧ ∀ c ∈ t, isSpace c = false :=
  splitWsGo_tokens s [] (by simp)

theorem splitWsGo_flatten (s cur : Bytes) :
    (splitWsGo s cur).flatten = cur.reverse ++ s.filter (fun c => !isSpace c) := by
  induction s generalizing cur with
  | nil =>
    simp only [splitWsGo]
    split
    · rename_i h; simp at h; simp [h]
    · simp
  | cons c r ih =>
    simp only [splitWsGo]
    split
    · rename_i hsp
      split
      · rename_i h; simp at h; simp [h, ih, hsp]
      · simp [ih, hsp]
    · rename_i hsp
      simp [ih, hsp]

theorem splitWs_flatten (s : Bytes) : (splitWs s).flatten = s.filter (fun c => !isSpace c) := by
  simp [splitWs, splitWsGo_flatten]

theorem cut_some_iff (c : UInt8) (s a b : Bytes) : cut c s = some (a, b) ↔ (s = a ++ c :: b ∧ c ∉ a) := by
  induction s generalizing a with
  | nil => simp [cut]
  | cons d r ih =>
    unfold cut
    by_cases hd : d = c
    · subst hd
      cases a with
      | nil => simp [eq_comm]
      | cons x xs => simp; intro h _; simp [h]
    · cases a with
      | nil => simp [hd]
      | cons x xs =>
        simp only [hd, if_false, Option.map_eq_some_iff, Prod.mk.injEq, List.cons.injEq, Prod.exists, List.cons_append,
          List.mem_cons, not_or]
        constructor
        · rintro ⟨p, q, hc, ⟨rfl, rfl⟩, rfl⟩
          obtain ⟨rfl, hn⟩ := (ih p).1 hc
          exact ⟨⟨rfl, rfl⟩, fun e => hd e.symm, hn⟩
        · rintro ⟨⟨rfl, rfl⟩, _, hn⟩
          exact ⟨xs, b, (ih xs).2 ⟨rfl, hn⟩, ⟨rfl, rfl⟩, rfl⟩

theorem cut_none_iff (c : UInt8) (s : Bytes) : cut c s = none ↔ c ∉ s := by
  induction s with
  | nil => simp [cut]
  | cons d r ih =>
    simp only [cut]
    split
    · rename_i h; subst h; simp
    · rename_i hne
      simp only [Option.map_eq_none_iff, ih, List.mem_cons, not_or]
      exact ⟨fun h => ⟨fun e => hne e.symm, h⟩, fun h => h.2⟩

theorem rcut_some_iff (c : UInt8) (s a b : Bytes) : rcut c s = some (a, b) ↔ (s = a ++ c :: b ∧ c ∉ b) := by
  unfold rcut
  simp only [Option.map_eq_some_iff, Prod.exists, Prod.mk.injEq]
  constructor
  · rintro ⟨p, q, hc, rfl, rfl⟩
    obtain ⟨hs, hn⟩ := (cut_some_iff c _ p q).1 hc
    exact ⟨by simpa using congrArg List.reverse hs, by simpa using hn⟩
  · rintro ⟨rfl, hn⟩
    exact ⟨b.reverse, a.reverse, (cut_some_iff c _ _ _).2 ⟨by simp, by simpa using hn⟩, by simp, by simp⟩

theorem findB_eq_cut (c : UInt8) (s : Bytes) : findB c s = (cut c s).map (fun p => p.1.length) := by
  induction s with
  | nil => simp [findB, cut]
  | cons d r ih =>
    simp only [findB, cut]
    split
    · simp
    · rw [ih, Option.map_map, Option.map_map]; rfl

theorem splitlinesGo_no_brk (b : Bool) (s cur : Bytes) (hc : ∀ c ∈ cur, isBrk c = false) :
    ∀ l ∈ splitlinesGo b s cur, ∀ c ∈ l, isBrk c = false := by
  induction s generalizing b cur with
  | nil =>
    unfold splitlinesGo
    split
    · simp
    · simpa using hc
  | cons d r ih =>
    unfold splitlinesGo
    split
    · exact ih false cur hc
    · split
      · rw [List.forall_mem_cons]
        exact ⟨by simpa using hc, ih _ [] (by simp)⟩
      · next hb => exact ih _ _ (by simpa [hb] using hc)

theorem splitlines_no_brk (s : Bytes) : ∀ l ∈ splitlines s, ∀ c ∈ l, isBrk c = false :=
  splitlinesGo_no_brk false s [] (by simp)

theorem splitlinesGo_ne_nil (b : Bool) (s cur : Bytes) (hc : cur ≠ []) : splitlinesGo b s cur ≠ [] := by
  induction s generalizing b cur with
  | nil => simp [splitlinesGo, hc]
  | cons d r ih =>
    simp only [splitlinesGo]
    split
    · exact ih false cur hc
    · split
      · simp
      · exact ih false (d :: cur) (by simp)

theorem splitlines_nil_iff (s : Bytes) : splitlines s = [] ↔ s = [] := by
  constructor
  · intro h
    cases s with
    | nil => rfl
    | cons d r =>
      exfalso
      unfold splitlines at h
      simp only [splitlinesGo, Bool.false_and, Bool.false_eq_true, if_false] at h
      split at h
      · simp at h
      · exact splitlinesGo_ne_nil false r [d] (by simp) h
  · intro h; subst h; simp [splitlines, splitlinesGo]

theorem splitlinesGo_line (l rest cur : Bytes) (hl : ∀ c ∈ l, isBrk c = false) :
    splitlinesGo false (l ++ 13 :: 10 :: rest) cur = (cur.reverse ++ l) :: splitlinesGo false rest [] := by
  induction l generalizing cur with
  | nil =>
    simp [splitlinesGo, isBrk]
  | cons c l ih =>
    have hc : isBrk c = false := hl c (by simp)
    have := ih (c :: cur) (fun x hx => hl x (by simp [hx]))
    simp [splitlinesGo, hc, this]

theorem splitlines_line (l rest : Bytes) (hl : ∀ c ∈ l, isBrk c = false) :
    splitlines (l ++ 13 :: 10 :: rest) = l :: splitlines rest := by
  unfold splitlines
  rw [splitlinesGo_line l rest [] hl]
  simp

/-- a readable description of what `splitlines` returns: a line is a maximal break-free run; terminators are CR LF, or
one break character.  `splitlines_spec` shows that the result satisfies it; that nothing else does is not proved. -/
inductive Lines : Bytes → List Bytes → Prop
  | nil : Lines [] []
  | last (l : Bytes) : l ≠ [] → (∀ c ∈ l, isBrk c = false) → Lines l [l]
  | crlf (l rest : Bytes) (ls : List Bytes) : (∀ c ∈ l, isBrk c = false) → Lines rest ls →
      Lines (l ++ 13 :: 10 :: rest) (l :: ls)
  | one (l : Bytes) (b : UInt8) (rest : Bytes) (ls : List Bytes) : (∀ c ∈ l, isBrk c = false) → isBrk b = true →
      ¬ (b = 13 ∧ rest.head? = some 10) → Lines rest ls → Lines (l ++ b :: rest) (l :: ls)

/-- a CR that ended a line swallows an LF that follows it -/
theorem splitlinesGo_flag (b : Bool) (s cur : Bytes) :
    splitlinesGo b s cur =
      if b = true ∧ s.head? = some 10 then splitlinesGo false s.tail cur else splitlinesGo false s cur := by
  cases b with
  | false => simp
  | true =>
    cases s with
    | nil => simp [splitlinesGo]
    | cons d r => by_cases hd : d = 10 <;> simp [splitlinesGo, hd]

/-- by induction on a bound for the length: after CR LF the function continues two octets further on -/
theorem splitlinesGo_spec (n : Nat) (s cur : Bytes) (hn : s.length < n)
    (hc : ∀ c ∈ cur, isBrk c = false) : Lines (cur.reverse ++ s) (splitlinesGo false s cur) := by
  induction n generalizing s cur with
  | zero => exact absurd hn (Nat.not_lt_zero _)
  | succ n ih =>
    have hcr : ∀ c ∈ cur.reverse, isBrk c = false := by simpa using hc
    cases s with
    | nil =>
      simp only [splitlinesGo, List.append_nil]
      split
      · next h => simp at h; subst h; exact Lines.nil
      · next h => exact Lines.last _ (by simpa using h) hcr
    | cons d r =>
      have hr : r.length < n := by simpa using hn
      simp only [splitlinesGo, Bool.false_and, Bool.false_eq_true, if_false]
      split
      · next hb =>
        rw [splitlinesGo_flag]
        by_cases hcrlf : d = 13 ∧ r.head? = some 10
        · obtain ⟨rfl, hh⟩ := hcrlf
          obtain ⟨r', rfl⟩ : ∃ r', r = 10 :: r' := by cases r <;> simp_all
          rw [if_pos ⟨rfl, rfl⟩]
          exact Lines.crlf _ _ _ hcr (by simpa using ih r' [] (by simp at hr; omega) (by simp))
        · rw [if_neg (by simpa using hcrlf)]
          exact Lines.one _ _ _ _ hcr hb hcrlf (by simpa using ih r [] hr (by simp))
      · next hb => simpa using ih r (d :: cur) hr (by simpa [hb] using hc)

theorem splitlines_spec (s : Bytes) : Lines s (splitlines s) := by
  simpa [splitlines] using splitlinesGo_spec (s.length + 1) s [] (Nat.lt_succ_self _) (by simp)

/-- `raw[0]` in `parseHttpHeader` raises on the empty string only -/
theorem parseHttpHeader_eq_none (d : Bytes) : parseHttpHeader d = none ↔ d = [] := by
  rw [← splitlines_nil_iff]
  unfold parseHttpHeader
  split <;> simp [*]

namespace Glob

theorem anySuffix_true_iff (k : Bytes → Bool) (s : Bytes) :
    anySuffix k s = true ↔ ∃ t, t <:+ s ∧ k t = true := by
  induction s with
  | nil =>
    simp only [anySuffix, List.suffix_nil]
    exact ⟨fun h => ⟨[], rfl, h⟩, fun ⟨t, ht, hk⟩ => ht ▸ hk⟩
  | cons c cs ih =>
    simp only [anySuffix, Bool.or_eq_true, ih, List.suffix_cons_iff]
    constructor
    · rintro (h | ⟨t, ht, hk⟩)
      · exact ⟨_, Or.inl rfl, h⟩
      · exact ⟨t, Or.inr ht, hk⟩
    · rintro ⟨t, ht | ht, hk⟩
      · exact Or.inl (ht ▸ hk)
      · exact Or.inr ⟨t, ht, hk⟩

theorem anySuffixNoNl_eq_anySuffix_of (k1 k2 : Bytes → Bool) (s : Bytes) (h : (10 : UInt8) ∉ s)
    (hk : ∀ t, t <:+ s → k1 t = k2 t) : anySuffixNoNl k1 s = anySuffix k2 s := by
  induction s with
  | nil => simp only [anySuffixNoNl, anySuffix]; exact hk [] (List.suffix_refl _)
  | cons c cs ih =>
    have hc : (c != 10) = true := by
      simp only [bne_iff_ne, ne_eq]; exact fun e => h (by simp [e])
    have hcs : (10 : UInt8) ∉ cs := fun e => h (List.mem_cons_of_mem _ e)
    simp only [anySuffixNoNl, anySuffix, hc, Bool.true_and]
    rw [hk _ (List.suffix_refl _), ih hcs (fun t ht => hk t (List.suffix_cons_iff.mpr (Or.inr ht)))]

theorem anySuffixNoNl_eq_anySuffix (k : Bytes → Bool) (s : Bytes) (h : (10 : UInt8) ∉ s) :
    anySuffixNoNl k s = anySuffix k s :=
  anySuffixNoNl_eq_anySuffix_of k k s h (fun _ _ => rfl)

theorem fullMatch_cons_eq (p : UInt8) (ps s : Bytes) :
    fullMatch (p :: ps) s = if p == 42 then anySuffix (fullMatch ps) s else
      match s with
      | [] => false
      | c :: cs => p == c && fullMatch ps cs := by
  cases s <;> rfl

theorem matchNoNl_cons_eq (p : UInt8) (ps s : Bytes) :
    matchNoNl (p :: ps) s = if p == 42 then anySuffixNoNl (matchNoNl ps) s else
      match s with
      | [] => false
      | c :: cs => p == c && matchNoNl ps cs := by
  cases s <;> rfl

theorem fullMatch_nil (s : Bytes) : fullMatch [] s = true ↔ s = [] := by
  simp [fullMatch]

/-- declarative reading of the glob: `*` stands for an arbitrary string -/
theorem fullMatch_star_cons (ps s : Bytes) :
    fullMatch (42 :: ps) s = true ↔ ∃ a b, s = a ++ b ∧ fullMatch ps b = true := by
  have : fullMatch (42 :: ps) s = anySuffix (fullMatch ps) s := by
    rw [fullMatch_cons_eq]; simp
  rw [this, anySuffix_true_iff]
  constructor
  · rintro ⟨t, ⟨a, ha⟩, hk⟩; exact ⟨a, t, ha.symm, hk⟩
  · rintro ⟨a, b, hs, hk⟩; exact ⟨b, ⟨a, hs.symm⟩, hk⟩

theorem fullMatch_char_cons (p : UInt8) (hp : p ≠ 42) (ps s : Bytes) :
    fullMatch (p :: ps) s = true ↔ ∃ cs, s = p :: cs ∧ fullMatch ps cs = true := by
  have hp' : (p == 42) = false := by simpa using hp
  rw [fullMatch_cons_eq]
  cases s with
  | nil => simp [hp']
  | cons c cs =>
    simp only [hp', Bool.false_eq_true, if_false, Bool.and_eq_true, beq_iff_eq, List.cons.injEq]
    constructor
    · rintro ⟨h1, h2⟩; exact ⟨cs, ⟨h1.symm, rfl⟩, h2⟩
    · rintro ⟨cs', ⟨h1, h2⟩, h3⟩; subst h1; subst h2; exact ⟨rfl, h3⟩

theorem fullMatch_star (s : Bytes) : fullMatch [42] s = true :=
  (fullMatch_star_cons [] s).mpr ⟨s, [], by simp, (fullMatch_nil []).mpr rfl⟩

theorem fullMatch_literal (p s : Bytes) (h : 42 ∉ p) : fullMatch p s = true ↔ p = s := by
  induction p generalizing s with
  | nil => rw [fullMatch_nil]; exact ⟨fun h => h.symm, fun h => h.symm⟩
  | cons a ps ih =>
    simp only [List.mem_cons, not_or] at h
    rw [fullMatch_char_cons a (fun e => h.1 e.symm)]
    constructor
    · rintro ⟨cs, hs, hm⟩; rw [hs, (ih cs h.2).mp hm]
    · intro e; exact ⟨ps, e.symm, (ih ps h.2).mpr rfl⟩

theorem fullMatch_not_prefix_witness :
    fullMatch (b!"*good.com") (b!"good.com") = true ∧
    fullMatch (b!"*good.com") (b!"good.com.evil.com") = false := by decide

theorem matchNoNl_eq_fullMatch (p s : Bytes) (h : (10 : UInt8) ∉ s) : matchNoNl p s = fullMatch p s := by
  induction p generalizing s with
  | nil => simp [matchNoNl, fullMatch]
  | cons a ps ih =>
    rw [matchNoNl_cons_eq, fullMatch_cons_eq]
    split
    · exact anySuffixNoNl_eq_anySuffix_of _ _ s h
        (fun t ht => ih t (fun e => h (ht.subset e)))
    · cases s with
      | nil => rfl
      | cons c cs =>
        simp only []
        rw [ih cs (fun e => h (List.mem_cons_of_mem _ e))]

theorem reMatch_eq_fullMatch (p s : Bytes) (h : (10 : UInt8) ∉ s) : reMatch p s = fullMatch p s := by
  unfold reMatch
  rw [matchNoNl_eq_fullMatch p s h]
  split
  · rename_i hl
    exact absurd (List.mem_of_getLast? hl) h
  · simp

/-- the `$` quirk is real on subjects that end in a newline -/
theorem reMatch_trailing_newline_witness :
    reMatch (b!"a") (b!"a" ++ [10]) = true ∧ fullMatch (b!"a") (b!"a" ++ [10]) = false := by decide

end Glob

theorem digit_not_intSpace : ∀ c : UInt8, isDigit c = true → isIntSpace c = false := by decide +kernel
theorem digit_not_sign : ∀ c : UInt8, isDigit c = true → c ≠ 43 ∧ c ≠ 45 := by decide +kernel

theorem digs_digits (need : Bool) (s : Bytes) (v n : Nat) (h : s.all isDigit = true)
    (hn : s ≠ [] ∨ need = false) :
    digs need s v n = some (s.foldl (fun v c => v * 10 + (c.toNat - 48)) v, n + s.length) := by
  induction s generalizing need v n with
  | nil =>
    rcases hn with hn | hn
    · exact absurd rfl hn
    · subst hn; simp [digs]
  | cons c r ih =>
    simp only [List.all_cons, Bool.and_eq_true] at h
    simp only [digs, h.1, if_true]
    rw [ih false _ _ h.2 (Or.inr rfl)]
    simp; omega

theorem pyInt_digits {s : Bytes} (h1 : s ≠ []) (h2 : s.all isDigit = true) (h3 : s.length ≤ 4300) :
    pyInt s = some ((s.foldl (fun v c => v * 10 + (c.toNat - 48)) 0 : Nat) : Int) := by
  have hall : ∀ c ∈ s, isDigit c = true := List.all_eq_true.mp h2
  have hstrip : stripBy isIntSpace s = s := stripBy_of_none fun c hc => digit_not_intSpace c (hall c hc)
  unfold pyInt
  simp only [hstrip]
  -- a digit string carries no sign.  `pyInt.match_1` is the compiled sign `match` inside `pyInt`: a `match` restated
  -- here would be a different constant, and `split` on the goal takes the outer `match` on `digs` first
  have hbody : pyInt.match_1 (fun _ => Bool × Bytes) s (fun r => (false, r)) (fun r => (true, r))
      (fun _ => (false, s)) = (false, s) := by
    split
    · exact absurd rfl (digit_not_sign 43 (hall 43 (by simp))).1
    · exact absurd rfl (digit_not_sign 45 (hall 45 (by simp))).2
    · rfl
  rw [hbody]
  simp only [digs_digits true s 0 0 h2 (Or.inl h1), Nat.zero_add]
  simp [maxStrDigits]; omega

/-- seven `int()` vectors: a sign, single underscores and leading zeros are accepted, doubled underscores, inner
blanks and the separators FS–US are not, NBSP and NEL are stripped -/
theorem pyInt_plus13 : pyInt (b!"+13") = some 13 ∧ pyInt (b!"1_3") = some 13 ∧ pyInt (b!"013") = some 13 ∧
    pyInt (b!"1__3") = none ∧ pyInt (b!"+ 13") = none ∧ pyInt [0x1f, 49] = none ∧
    pyInt [0xa0, 49, 0x85] = some 1 := by decide +kernel

theorem digit_isDigit : ∀ d, d < 10 → isDigit (UInt8.ofNat (48 + d)) = true := by decide

theorem natDigitsGo_digits (fuel n : Nat) (acc : Bytes) (h : ∀ c ∈ acc, isDigit c = true) :
    ∀ c ∈ natDigitsGo fuel n acc, isDigit c = true := by
  induction fuel generalizing n acc with
  | zero => simpa [natDigitsGo] using h
  | succ f ih =>
    unfold natDigitsGo
    split
    · next hn => exact List.forall_mem_cons.2 ⟨digit_isDigit n hn, h⟩
    · exact ih _ _ (List.forall_mem_cons.2 ⟨digit_isDigit _ (Nat.mod_lt _ (by omega)), h⟩)

theorem natDigits_digits (n : Nat) : ∀ c ∈ natDigits n, isDigit c = true :=
  natDigitsGo_digits _ _ _ (by simp)

end Abverif.Http

import Abverif.Proofs.Lemmas.SessLift
/-
Request ids: the k-th id drawn from a session object is ((k-1) mod idMax)+1 and every request message carries the id drawn
for it (`IdInv`, `IdRel`). Also the projections of an output list the property files speak in: `reqIds`, `sends`, `completions`.
-/
namespace Abverif.Session
open Abverif.SessCodes

def reqIdOf : SOut → Option Nat
  | .send m => if isReqType m.typ then some m.req else none
  | _ => none

def reqIds (os : List SOut) : List Nat := os.filterMap reqIdOf

def sends (o : List SOut) : List OutMsg := o.filterMap (fun | .send m => some m | _ => none)

def completions (o : List SOut) : List (FutId × Outcome) :=
  o.filterMap (fun | .complete f v => some (f, v) | _ => none)

/-- id of the k-th (0-based) request drawn from a session object -/
def idOf (k : Nat) : Nat := k % idMax + 1
def idsFrom (a n : Nat) : List Nat := (List.range' a n).map idOf

/-- the generator is in step with the number of ids drawn, and no request message waits in the callback queue -/
def IdInv (s : Sess) : Prop :=
  s.nextId = (if s.issued = 0 then idInit else idOf (s.issued - 1)) ∧ ∀ o ∈ s.cbq, reqIdOf o = none

/-- `IdRel s o s'`: going from s to s' the outputs o carry exactly the ids of the requests drawn -/
def IdRel (s : Sess) (o : List SOut) (s' : Sess) : Prop :=
  IdInv s' ∧ s.issued ≤ s'.issued ∧ reqIds o = idsFrom s.issued (s'.issued - s.issued)

theorem idsFrom_zero (a : Nat) : idsFrom a 0 = [] := rfl

theorem idsFrom_add (a n m : Nat) : idsFrom a (n + m) = idsFrom a n ++ idsFrom (a + n) m := by
  simp only [idsFrom, ← List.map_append]
  congr 1
  exact (List.range'_append_1 ..).symm

theorem reqIds_append (a b : List SOut) : reqIds (a ++ b) = reqIds a ++ reqIds b := by
  simp [reqIds]

theorem IdRel.refl {s : Sess} (h : IdInv s) : IdRel s [] s := ⟨h, Nat.le_refl _, by simp [reqIds, idsFrom]⟩

theorem IdRel.trans {s1 s2 s3 : Sess} {o1 o2 : List SOut} (h1 : IdRel s1 o1 s2) (h2 : IdRel s2 o2 s3) :
    IdRel s1 (o1 ++ o2) s3 := by
  obtain ⟨_, l1, e1⟩ := h1
  obtain ⟨i3, l2, e2⟩ := h2
  refine ⟨i3, Nat.le_trans l1 l2, ?_⟩
  rw [reqIds_append, e1, e2, show s3.issued - s1.issued = (s2.issued - s1.issued) + (s3.issued - s2.issued) by omega,
    idsFrom_add]
  congr 2
  omega

theorem draw_arith (j : Nat) : (if idOf j + 1 > idMax then idReset else idOf j + 1) = idOf (j + 1) := by
  unfold idOf idMax idReset
  split <;> omega

theorem drawId_id (s : Sess) (h : IdInv s) : s.drawId.2 = idOf s.issued := by
  obtain ⟨h, _⟩ := h
  by_cases h0 : s.issued = 0
  · rw [if_pos h0] at h
    simp only [Sess.drawId, h, h0]
    decide
  · rw [if_neg h0] at h
    simp only [Sess.drawId, h]
    have : s.issued = (s.issued - 1) + 1 := by omega
    rw [this]
    exact draw_arith _

theorem IdRel.of_same {s s' : Sess} {o : List SOut} (h : IdInv s) (h1 : s'.nextId = s.nextId) (h2 : s'.issued = s.issued)
    (h3 : ∀ x ∈ s'.cbq, reqIdOf x = none) (h4 : reqIds o = []) : IdRel s o s' := by
  refine ⟨⟨?_, h3⟩, by omega, ?_⟩
  · rw [h1, h2]; exact h.1
  · rw [h4, h2]; simp [idsFrom]

theorem IdRel.of_draw {s s' : Sess} {o : List SOut} (h : IdInv s) (h1 : s'.nextId = s.drawId.2)
    (h2 : s'.issued = s.issued + 1) (h3 : ∀ x ∈ s'.cbq, reqIdOf x = none) (h4 : reqIds o = [s.drawId.2]) : IdRel s o s' := by
  refine ⟨⟨?_, h3⟩, by omega, ?_⟩
  · rw [h1, h2, drawId_id s h]; simp
  · rw [h4, h2, drawId_id s h]; simp [idsFrom]

theorem reqIds_cons_send {m : OutMsg} (hm : isReqType m.typ = true) (os : List SOut) :
    reqIds (.send m :: os) = m.req :: reqIds os :=
  List.filterMap_cons_some (by simp [reqIdOf, hm])

theorem reqIdOf_toCaught (o : SOut) : reqIdOf (toCaught o) = reqIdOf o := by
  cases o <;> rfl

theorem reqIdOf_toLost (o : SOut) : reqIdOf (toLost o) = reqIdOf o := by
  cases o <;> rfl

theorem IdRel.map {s s' : Sess} {o : List SOut} {g : SOut → SOut} (hg : ∀ x, reqIdOf (g x) = reqIdOf x) (r : IdRel s o s') :
    IdRel s (o.map g) s' :=
  ⟨r.1, r.2.1, by rw [reqIds, List.filterMap_map, show reqIdOf ∘ g = reqIdOf from funext hg]; exact r.2.2⟩

theorem init_idinv (mode : Sched) : IdInv (init mode) := ⟨rfl, by simp [init]⟩

end Abverif.Session

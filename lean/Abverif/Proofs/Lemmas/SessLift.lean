import Abverif.Proofs.Lemmas.SessBasic
/-
Generic lifting of a step relation `R s o s'` (from state `s`, emitting `o`, to `s'`; `P` is the invariant it needs)
through the session model: a property is shown for the primitive steps, and a bundle of such facts gives it for every
function built from them. Which bundle is for what:

  Lift        user code run from `onMessage` (`runCalls`, `runAct`, `dispatch`), given the API calls       (here)
  LiftA       the request APIs and `cancel` (A: API), from the six pieces they are made of                  (here)
  LiftQ       the whole request/reply side, for a relation that reads the lifecycle / callee fields only: that side is
              `Quiet` (Q) on them, so three facts about `join()`, `leave()`, `disconnect()` suffice         (SessFrame)
  LiftT       the session lifecycle (hooks, default bodies, continuations, pre-session branch, GOODBYE, the loop), for
              a relation that may read `transport` (T) but tolerates updates of the other lifecycle fields  (SessLiftT)
  LiftS       `LiftT` for a relation that does not read `transport`: `onOpen` / `onClose` as well, i.e. the session
              lifecycle (S) in full                                                                          (SessLiftX)
  LiftX       `LiftS` for a relation that reads the request/reply fields (`Sess.core`) only and tolerates every
              lifecycle / callee output: all of `step` except (X) the established reply side                 (SessLiftX)
  CalleeLift  INVOCATION, INTERRUPT, completion of a pending result, late progress, from what the callee side does by
              itself                                                                                         (SessCallee)

`run_lift` carries a step lemma for the events that satisfy a condition to the histories made of them; `step_lift`
(SessCallee) assembles `step` on the inner events (`SEv.inner`) from `LiftT`, `LiftQ` and `CalleeLift`; `open_`, `closed`
and `fault`, which write `transport` and the plan, are the business of whoever uses `LiftT` (`LiftX.step` has them). The
reply branches of an established session (PUBLISHED … ERROR, EVENT) belong to no bundle: a walk goes through them by
`onEstablished_elim` (SessBasic), which unfolds them once, and says what it needs of the six shapes found there (the
property files, whose theorems are equations about single replies, unfold `onEstablished` where they stand).
Three classes of outputs go with the bundles: `sessOut` (session lifecycle only) ⊆ `lcOut` (lifecycle and callee side,
what `LiftX` tolerates); `lifeOut` (SessFrame) is what the request/reply side never emits by itself. The unfolding equations
of `runCalls`, `rejectList`, `run`, `runOuts`, `runState`, by which the inductions go, are here too.
-/
namespace Abverif.Session
open Abverif.SessCodes

/-- What a step relation `R s o s'` with invariant `P` owes to be carried through user code run from `onMessage`.
`refl`, `trans`: the empty step, and composition, under which outputs concatenate; `post`: a step from a state in `P` ends
in `P`; `caught`: what an API call raises reaches the user code that made it (`raise_` becomes `caught`); `api`: every API
call is a step; `userError`: so is the `onUserError` errback, run now or queued; `invoke`: so is the report that a handler
was called, for a handler that is attached. -/
structure Lift (R : Sess → List SOut → Sess → Prop) (P : Sess → Prop) : Prop where
  refl : ∀ {s}, P s → R s [] s
  trans : ∀ {s1 o1 s2 o2 s3}, R s1 o1 s2 → R s2 o2 s3 → R s1 (o1 ++ o2) s3
  post : ∀ {s o s'}, P s → R s o s' → P s'
  caught : ∀ {s o s'}, R s o s' → R s (o.map toCaught) s'
  api : ∀ {s} a, P s → R s (apiStep s a).2 (apiStep s a).1
  userError : ∀ {s}, P s → R s (emitCb s .userError).2 (emitCb s .userError).1
  invoke : ∀ {s : Sess} {sub : Nat} {r : SubRec} (args : Args) (kw : List (Key × KwVal)), P s →
    ((alookup sub s.subs).getD []).any (·.obj == r.obj) = true → R s [.invoke r.obj r.h args kw] s

variable {R : Sess → List SOut → Sess → Prop} {P : Sess → Prop}

theorem runCalls_nil (s : Sess) (self : Option FutId) : runCalls s self [] = (s, []) := rfl

theorem runCalls_api (s : Sess) (self : Option FutId) (a : Api) (cs : List HCall) :
    runCalls s self (.api a :: cs) =
      ((runCalls (apiStep s a).1 self cs).1, (apiStep s a).2.map toCaught ++ (runCalls (apiStep s a).1 self cs).2) := rfl

theorem runCalls_self_some (s : Sess) (o : FutId) (cs : List HCall) :
    runCalls s (some o) (.unsubSelf :: cs) =
      ((runCalls (apiStep s (.unsubscribe o .ok)).1 (some o) cs).1,
       (apiStep s (.unsubscribe o .ok)).2.map toCaught ++ (runCalls (apiStep s (.unsubscribe o .ok)).1 (some o) cs).2) := rfl

theorem runCalls_self_none (s : Sess) (cs : List HCall) :
    runCalls s none (.unsubSelf :: cs) = runCalls s none cs := rfl

theorem Lift.runCalls (L : Lift R P) {s : Sess} (hs : P s) (self : Option FutId) (cs : List HCall) :
    R s (runCalls s self cs).2 (runCalls s self cs).1 := by
  induction cs generalizing s with
  | nil => exact L.refl hs
  | cons c cs ih =>
    cases c with
    | api a =>
      rw [runCalls_api]
      have h1 := L.api a hs
      exact L.trans (L.caught h1) (ih (L.post hs h1))
    | unsubSelf =>
      cases self with
      | none => rw [runCalls_self_none]; exact ih hs
      | some o =>
        rw [runCalls_self_some]
        have h1 := L.api (.unsubscribe o .ok) hs
        exact L.trans (L.caught h1) (ih (L.post hs h1))

theorem Lift.runAct (L : Lift R P) {s : Sess} (hs : P s) (self : Option FutId) (act : HAct) :
    R s (runAct s self act).2 (runAct s self act).1 := by
  unfold Session.runAct
  have h1 := L.runCalls hs self act.calls
  split
  · exact L.trans h1 (L.userError (L.post hs h1))
  · exact h1

theorem Lift.dispatch (L : Lift R P) {s : Sess} (hs : P s) (sub : SubId) (args : Args)
    (kw : List (Key × KwVal)) (l : List SubRec) (beh : List HAct) :
    R s (dispatch s sub args kw l beh).2 (dispatch s sub args kw l beh).1 := by
  induction l generalizing s beh with
  | nil => exact L.refl hs
  | cons r rest ih =>
    unfold Session.dispatch
    split
    · next hr =>
      have h0 := L.invoke args (handlerKw r kw) hs hr
      have h1 := L.runAct hs (some r.obj) (beh.headD {})
      have h2 := ih (L.post hs h1) beh.tail
      have := L.trans h0 (L.trans h1 h2)
      simpa using this
    · exact ih hs beh

/-- `join()`, `leave()`, `disconnect()`: the API calls that belong to the session lifecycle; the other seven are the
request/reply side, which `LiftA` covers -/
def Api.isLife : Api → Bool
  | .join | .leave | .disconnect => true
  | _ => false

def isReqType : MsgType → Bool
  | .call | .publish | .subscribe | .unsubscribe | .register | .unregister => true
  | _ => false

/-- The request APIs and `cancel` from the pieces they are made of (`LiftA.api`). `raise`: the two refusals (no
transport; "no longer active"); `request`: the tail the six APIs share, for a record that holds its future and a message of
a request type that carries the id drawn; `publishNoAck`: an unacknowledged `publish` (an id drawn, nothing recorded);
`detach`: the rewrite of a handler list in `_unsubscribe`; `futureSuccess`: the completed future returned while handlers
remain; `cancel`: all of `apiCancel`. The context is not handed on: `detach` is asked for every `sid` and `obj`, not only
for an object attached under `sid`, and `request` without `s.transport = true`. -/
structure LiftA (R : Sess → List SOut → Sess → Prop) (P : Sess → Prop) : Prop where
  trans : ∀ {s1 o1 s2 o2 s3}, R s1 o1 s2 → R s2 o2 s3 → R s1 (o1 ++ o2) s3
  post : ∀ {s o s'}, P s → R s o s' → P s'
  raise : ∀ {s} (e : Exc), e = .transportLost ∨ e = .exception → P s → R s [.raise_ e] s
  request : ∀ {s} (k : Kind) (mkReq : FutId → Req) (mkMsg : ReqId → OutMsg) (keep : Bool) (snd : SendRes),
    (∀ f, (mkReq f).fut = f) → (∀ id, isReqType (mkMsg id).typ = true ∧ (mkMsg id).req = id) → P s →
    R s (request s k mkReq mkMsg keep snd).2 (request s k mkReq mkMsg keep snd).1
  publishNoAck : ∀ {s} (m : OutMsg) (snd : SendRes), m.typ = .publish → m.req = s.drawId.2 → P s →
    R s (sendReq s.drawId.1 .publish s.drawId.2 m none false snd).2 (sendReq s.drawId.1 .publish s.drawId.2 m none false snd).1
  detach : ∀ {s} (sid : SubId) (obj : FutId), P s →
    R s [] { s with subs := aupd sid (removeObj obj ((alookup sid s.subs).getD [])) s.subs }
  futureSuccess : ∀ {s} (k : Kind) (o : Outcome), P s → R s (futureSuccess s k o).2 (futureSuccess s k o).1
  cancel : ∀ {s} (f : FutId), P s → R s (apiCancel s f).2 (apiCancel s f).1

theorem LiftA.api (L : LiftA R P) {s : Sess} (a : Api) (ha : a.isLife = false) (hs : P s) :
    R s (apiStep s a).2 (apiStep s a).1 := by
  cases a with
  | call u a k o r =>
    simp only [apiStep, apiCall]
    split
    · exact L.raise _ (.inl rfl) hs
    · exact L.request _ _ _ _ _ (fun _ => rfl) (fun _ => ⟨rfl, rfl⟩) hs
  | publish u a k o r =>
    simp only [apiStep, apiPublish]
    split
    · exact L.raise _ (.inl rfl) hs
    · split
      · exact L.request _ _ _ _ _ (fun _ => rfl) (fun _ => ⟨rfl, rfl⟩) hs
      · exact L.publishNoAck _ r rfl rfl hs
  | subscribe hh t o r =>
    simp only [apiStep, apiSubscribe]
    split
    · exact L.raise _ (.inl rfl) hs
    · exact L.request _ _ _ _ _ (fun _ => rfl) (fun _ => ⟨rfl, rfl⟩) hs
  | register hh t o r =>
    simp only [apiStep, apiRegister]
    split
    · exact L.raise _ (.inl rfl) hs
    · exact L.request _ _ _ _ _ (fun _ => rfl) (fun _ => ⟨rfl, rfl⟩) hs
  | unsubscribe obj r =>
    simp only [apiStep, apiUnsubscribe]
    split
    · exact L.raise _ (.inr rfl) hs
    · next sid _ =>
      split
      · exact L.raise _ (.inl rfl) hs
      · -- the handler is detached; then UNSUBSCRIBE goes out or a completed future is returned
        have h1 := L.detach sid obj hs
        have hp := L.post hs h1
        split
        · exact L.trans (o1 := []) h1 (L.request _ _ _ _ _ (fun _ => rfl) (fun _ => ⟨rfl, rfl⟩) hp)
        · exact L.trans (o1 := []) h1 (L.futureSuccess _ _ hp)
  | unregister obj r =>
    simp only [apiStep, apiUnregister]
    split
    · exact L.raise _ (.inr rfl) hs
    · split
      · exact L.raise _ (.inl rfl) hs
      · exact L.request _ _ _ _ _ (fun _ => rfl) (fun _ => ⟨rfl, rfl⟩) hs
  | cancel f => exact L.cancel f hs
  | join => cases ha
  | leave => cases ha
  | disconnect => cases ha

theorem rejectList_nil (s : Sess) (o : Outcome) : rejectList s o [] = (s, []) := rfl

theorem rejectList_cons (s : Sess) (o : Outcome) (f : FutId) (fs : List FutId) :
    rejectList s o (f :: fs) =
      if s.called f then rejectList s o fs
      else ((rejectList (settle s f o).1 o fs).1, (settle s f o).2 ++ (rejectList (settle s f o).1 o fs).2) := rfl

theorem run_nil (s : Sess) : run s [] = (s, []) := rfl
theorem run_cons (s : Sess) (e : SEv) (es : List SEv) :
    run s (e :: es) = ((run (step s e).1 es).1, (step s e).2 :: (run (step s e).1 es).2) := rfl

theorem runOuts_nil (s : Sess) : runOuts s [] = [] := rfl
theorem runOuts_cons (s : Sess) (e : SEv) (es : List SEv) :
    runOuts s (e :: es) = (step s e).2 ++ runOuts (step s e).1 es := by
  simp [runOuts, run_cons]
theorem runState_nil (s : Sess) : runState s [] = s := rfl
theorem runState_cons (s : Sess) (e : SEv) (es : List SEv) : runState s (e :: es) = runState (step s e).1 es := rfl

theorem runState_append (s : Sess) (h1 h2 : List SEv) : runState s (h1 ++ h2) = runState (runState s h1) h2 := by
  induction h1 generalizing s with
  | nil => rfl
  | cons e es ih => simp [runState_cons, ih]

theorem runOuts_append (s : Sess) (h1 h2 : List SEv) :
    runOuts s (h1 ++ h2) = runOuts s h1 ++ runOuts (runState s h1) h2 := by
  induction h1 generalizing s with
  | nil => rfl
  | cons e es ih => simp [runOuts_cons, runState_cons, ih]

/-- from the events to histories; of the bundle it reads `refl`, `trans` and `post` only -/
theorem run_lift (L : Lift R P) {ok : SEv → Prop} (step_ : ∀ {s} e, ok e → P s → R s (step s e).2 (step s e).1)
    {s : Sess} (hs : P s) {h : List SEv} (hok : ∀ e ∈ h, ok e) : R s (runOuts s h) (runState s h) := by
  induction h generalizing s with
  | nil => exact L.refl hs
  | cons e es ih =>
    rw [runOuts_cons, runState_cons]
    have h1 := step_ e (hok e List.mem_cons_self) hs
    exact L.trans h1 (ih (L.post hs h1) fun e' he' => hok e' (List.mem_cons_of_mem _ he'))

end Abverif.Session

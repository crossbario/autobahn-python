import Abverif.Proofs.Lemmas.C14Step
/-!
C14 — completion polarity: success only after a normal leave / main returned / stop(), error only on exhaustion;
a normal end completes the future before anything else is attempted.  (Histories without a raising main; a raising
main is retried by the code, see Proofs/C14 `main_raises_not_error`.)
-/
namespace Abverif.Comp
open Spec

/-- between steps: the bookkeeping knows whether start()'s future is open and whether stop() was called; no failed
main is pending, and a pending clean end means the future is already complete -/
structure PolInv (done : Option Bool) (stopping : Bool) (k : Core) : Prop where
  done_eq : k.done = done
  raise : k.pendingRaise = false
  clean : k.pendingClean = true → done.isSome = true
  stop : stopping = true → k.stopped = true

/-- The polarity clause on a log that the give-up clause accepts.  The two say the same of a failing completion,
and that is the only place where polarity looks at the transports. -/
def PolM (c : Conf) (k : Core) (l : List Obs) : Prop :=
  specAll chkGiveUp finTrue c k false l = true → specAll chkPolarity finTrue c k false l = true

theorem polarity_monitor (c : Conf) : Monitor c (PolM c) :=
  ⟨fun ha hb h => by
      rw [specAll_append, Bool.and_eq_true] at h
      exact specAll_append_true (ha h.1) (hb h.2),
   fun k l hq _ => specAll_quiet chkPolarity chkPolarity_ad c k l hq⟩

abbrev PolOK (c : Conf) (k : Core) (r : State × List Obs) : Prop :=
  Accepted c (PolM c) (fun s k => PolInv s.done s.stopping k) k r

/-- after a completion nothing is pending -/
theorem PolInv.resolved (c : Conf) {st : Bool} {k : Core} (ok : Bool)
    (hst : st = true → k.stopped = true) : PolInv (some ok) st (k.feed c (.done ok)) :=
  ⟨rfl, rfl, fun h => by simp [Core.feed] at h, hst⟩

theorem attempt_pol {c : Conf} {s : State} {k : Core} (hp : PolInv s.done s.stopping k)
    (i : Nat) (w : Q) : PolOK c k (attemptConnect i w s) := by
  refine ⟨fun _ => ?_, ⟨hp.done_eq, rfl, fun h => by simp [attemptConnect, feedAll, Core.feed] at h, hp.stop⟩⟩
  simp only [attemptConnect, specAll, finTrue, Bool.and_true, chkPolarity, hp.raise, Bool.false_or]
  cases hc : k.pendingClean with
  | false => simp
  | true => have := hp.clean hc; rw [← hp.done_eq] at this; simp [this]

theorem tc_pol {c : Conf} {s : State} {k : Core} (hp : PolInv s.done s.stopping k) :
    PolOK c k (transportCheck s) := by
  have M := polarity_monitor c
  have hcs := tc_cases s
  generalize transportCheck s = r at hcs ⊢
  cases hcs with
  | stopped hs =>
    unfold stopCheck
    split
    · exact ⟨fun _ => by simp [specAll, finTrue, chkPolarity, hp.stop hs], .resolved c true fun _ => hp.stop hs⟩
    · exact .skip M hp
  | giveUp =>
    unfold setDone
    split
    · exact ⟨id, .resolved c false hp.stop⟩
    · exact .cons M _ rfl (.skip M hp)
  | wait => exact .skip M hp
  | now _ i t t' => exact attempt_pol (s := tcState s i t t') hp i _

theorem failRetry_pol {c : Conf} {s : State} {k : Core} (hp : PolInv s.done s.stopping k) (i : Nat) (f : Bool) :
    PolOK c k (failRetry i f s) := by
  unfold failRetry
  split
  · exact (tc_pol (s := { s with trs := updAt Tr.failed s.trs i }) (k := k.feed c (.fatal i))
      ⟨hp.done_eq, hp.raise, hp.clean, hp.stop⟩).cons (polarity_monitor c) _ rfl
  · exact tc_pol hp

/-- `session_done` right after a clean end was observed -/
theorem sessionDone_pol {c : Conf} {s : State} {k : Core} (hd : k.done = s.done)
    (hr : k.pendingRaise = false) (hc : k.pendingClean = true) (hst : s.stopping = true → k.stopped = true)
    (i : Nat) (f : Bool) :
    PolOK c k (sessionDone i f s) := by
  have M := polarity_monitor c
  unfold sessionDone
  split
  · exact ⟨fun _ => by simp [specAll, finTrue, chkPolarity, hc], .resolved c true hst⟩
  · next b hb =>
    have hp : PolInv s.done s.stopping k := ⟨hd, hr, fun _ => by simp [hb], hst⟩
    split
    · exact (failRetry_pol hp i f).cons M _ rfl
    · exact .cons M _ rfl (.skip M hp)

theorem onStop_pol {c : Conf} {s : State} {k : Core} (hp : PolInv s.done s.stopping k) : PolOK c k (onStop s) := by
  have M := polarity_monitor c
  have hps : PolInv s.done true (k.feed c .stop) := ⟨hp.done_eq, hp.raise, hp.clean, fun _ => rfl⟩
  have fin : ∀ s' : State, s'.done = some true → PolOK c (k.feed c .stop) (s', [.done true]) := fun s' hd =>
    ⟨fun _ => by simp [specAll, finTrue, chkPolarity, Core.feed], hd ▸ .resolved c true fun _ => rfl⟩
  unfold onStop
  split
  · exact .skip M hp
  · unfold setDone
    split
    · exact .cons M _ rfl (fin _ rfl)
    · exact .cons M _ rfl (.cons M _ rfl (.skip M hps))
  · split
    · exact .cons M _ rfl (fin _ rfl)
    · exact .cons M _ rfl (.skip M hps)
  · exact .cons M _ rfl (.skip M hps)
  · exact .cons M _ rfl (.skip M hps)

def Event.noRaise : Event → Bool
  | .outcome .mainRaises _ => false
  | _ => true

theorem step_pol {c : Conf} {s : State} {k : Core} (hp : PolInv s.done s.stopping k) (e : Event)
    (hno : e.noRaise = true) : PolOK c k (step s e) := by
  have M := polarity_monitor c
  have hJ : ∀ (joined : Bool) i, PolInv s.done s.stopping (feedAll c k (joinMark joined i)) := fun joined i => by
    cases joined <;> exact ⟨hp.done_eq, hp.raise, hp.clean, hp.stop⟩
  have hcs := step_cases s e
  generalize step s e = r at hcs ⊢
  cases hcs with
  | skip => exact .skip M hp
  | check hph => exact tc_pol hp
  | elapsed i d hph => exact attempt_pol (s := { s with now := s.now.add d }) hp i d
  | stop => exact onStop_pol hp
  | joined i f hph =>
    refine ⟨M.quiet _ _ (joinedPre_quiet _ _ _), ?_⟩
    show PolInv s.done s.stopping (feedAll c k (joinedPre _ _ _))
    rw [feedAll_joinedPre]; exact hJ true i
  | retry i f joined g m pre post hl hg hlog hr =>
    subst hr
    exact (failRetry_pol (s := { s with trs := updAt g s.trs i, nsess := m }) (hJ joined i) i f).around M hlog
  | raised => cases hno
  | finish i f joined g m pre post hl hg hlog hr =>
    subst hr
    have h := hJ joined i
    refine (sessionDone_pol (s := { s with trs := updAt g s.trs i, nsess := m })
      (k := feedAll c k (joinMark joined i ++ [.cleanEnd i])) ?_ ?_ ?_ ?_ i f).around M hlog
    · rw [feedAll_append]; exact h.done_eq
    · rw [feedAll_append]; exact h.raise
    · rw [feedAll_append]; rfl
    · rw [feedAll_append]; exact h.stop

theorem run_pol {c : Conf} {s : State} {k : Core} (hp : PolInv s.done s.stopping k) (es : List Event)
    (hno : ∀ e ∈ es, e.noRaise = true) : PolOK c k (run s es) :=
  run_accepted (polarity_monitor c) es (fun e he _ _ h => step_pol h e (hno e he)) hp

end Abverif.Comp

import Abverif.Model.SessTrace
/-
The ordering part of the trace Spec (`SessTrace.stepCheck`, Twisted scheduling) as a function of six fields of the
reader's state: which violations of the clauses "callbacks and observers in order, each at most once per connection",
"onLeave exactly at session ends / aborted joins" and "a message illegal in the current phase is rejected" an observed
event produces depends on `up`, `welcomed`, `ended`, `rank`, `orank`, `owedLeave` only. `oStep` is that function;
`stepCheck_order` says the real Spec reports no violation of these clauses that `oStep` does not report.
-/
namespace Abverif.SessTrace
open Abverif.Session

/-- violations of the ordering / once-only / leave / gate clauses -/
def Viol.isOrder : Viol → Bool
  | .hookOrder _ | .obsOrder _ | .leaveUnexpected | .leaveMissing | .gate => true
  | _ => false

structure OS where
  up : Bool
  welcomed : Bool
  ended : Bool
  rank : Nat
  orank : Nat
  owedLeave : Nat
deriving DecidableEq, Repr

def Scan.os (σ : Scan) : OS :=
  { up := σ.up, welcomed := σ.welcomed, ended := σ.ended, rank := σ.rank, orank := σ.orank, owedLeave := σ.owedLeave }

/-- the ordering part of `scanOut` -/
def oScan (o : OS) : SOut → OS × List Viol
  | .hook h _ =>
    let r := hookRank h
    if r = 0 then (o, []) else
    let v1 := if r ≤ o.rank then [Viol.hookOrder h] else []
    let o := { o with rank := max r o.rank }
    if h = .onLeave then
      let o := { o with ended := true }
      if o.owedLeave = 0 then (o, v1 ++ [.leaveUnexpected])
      else ({ o with owedLeave := o.owedLeave - 1 }, v1)
    else (o, v1)
  | .fire e =>
    let r := obsRank e
    ({ o with orank := max r o.orank }, if r ≤ o.orank then [Viol.obsOrder e] else [])
  | .send m => if m.typ = .hello then ({ o with ended := false }, []) else (o, [])
  | _ => (o, [])

def oScans (o : OS) : List SOut → OS × List Viol
  | [] => (o, [])
  | x :: xs =>
    let r1 := oScan o x
    let r2 := oScans r1.1 xs
    (r2.1, r1.2 ++ r2.2)

/-- the ordering part of `preCheck` -/
def oPre (o : OS) (e : SEv) (vis : List SOut) : OS × List Viol :=
  match e with
  | .open_ _ => ({ o with up := true, welcomed := false, ended := false, rank := 0, orank := 0, owedLeave := 0 }, [])
  | .closed _ => ({ o with owedLeave := o.owedLeave + (if o.welcomed then 1 else 0) }, [])
  | .msg m beh =>
    if isIllegal o.welcomed o.ended m then (o, if vis = [.raise_ .protocolError] then [] else [.gate]) else
    match m with
    | .welcome _ => ({ o with welcomed := o.up && !(beh.headD {}).raises && (beh.headD {}).ret == .unit }, [])
    | .goodbye => ({ o with owedLeave := o.owedLeave + 1, welcomed := false }, [])
    | .abort => ({ o with owedLeave := o.owedLeave + 1 }, [])
    | .challenge => ({ o with owedLeave := o.owedLeave + (if (beh.headD {}).raises then 1 else 0) }, [])
    | _ => (o, [])
  | _ => (o, [])

/-- the ordering part of `stepCheck .sync` (the loop is idle after every event) -/
def oStep (o : OS) (e : SEv) (outs : List SOut) : OS × List Viol :=
  let vis := outs.filter visible
  let pre := oPre o e vis
  let r := oScans pre.1 vis
  let o2 : OS := { r.1 with owedLeave := 0 }
  let o3 : OS := match e with | .closed _ => { o2 with up := false, welcomed := false } | _ => o2
  (o3, pre.2 ++ r.2 ++ (if r.1.owedLeave > 0 then [.leaveMissing] else []))

def NoOrder (σ : Scan) (r : Scan × List Viol) : Prop := r.1.os = σ.os ∧ ∀ v ∈ r.2, v.isOrder = false

theorem NoOrder.nil {σ σ' : Scan} (h : σ'.os = σ.os) : NoOrder σ (σ', []) := ⟨h, fun _ hv => nomatch hv⟩

theorem NoOrder.one {σ σ' : Scan} {w : Viol} (h : σ'.os = σ.os) (hw : w.isOrder = false) : NoOrder σ (σ', [w]) :=
  ⟨h, fun _ hv => List.mem_singleton.mp hv ▸ hw⟩

theorem NoOrder.unless {σ σ' : Scan} {w : Viol} {c : Prop} [Decidable c] (h : σ'.os = σ.os) (hw : w.isOrder = false) :
    NoOrder σ (σ', if c then [] else [w]) := by
  split
  · exact NoOrder.nil h
  · exact NoOrder.one h hw

theorem NoOrder.when {σ σ' : Scan} {w : Viol} {c : Prop} [Decidable c] (h : σ'.os = σ.os) (hw : w.isOrder = false) :
    NoOrder σ (σ', if c then [w] else []) := by
  split
  · exact NoOrder.one h hw
  · exact NoOrder.nil h

theorem os_ite {c : Prop} [Decidable c] {a b : Scan} {o : OS} (ha : a.os = o) (hb : b.os = o) :
    (if c then a else b).os = o := by
  split <;> assumption

/-- the ordering part `q` covers the judgement `r`: it moves the six fields alike and reports every ordering violation `r` reports -/
def Covers (r : Scan × List Viol) (q : OS × List Viol) : Prop := r.1.os = q.1 ∧ ∀ v ∈ r.2, v.isOrder = true → v ∈ q.2

/-- against an ordering part that does nothing -/
theorem NoOrder.covers {σ : Scan} {r : Scan × List Viol} (h : NoOrder σ r) {q : OS × List Viol} (hq : q = (σ.os, [])) : Covers r q := by
  subst hq
  exact ⟨h.1, fun v hv hvo => by rw [h.2 v hv] at hvo; cases hvo⟩

/-- the same tests made on both sides: the same violations -/
theorem Covers.same {r : Scan × List Viol} {q : OS × List Viol} (h1 : r.1.os = q.1) (h2 : r.2 = q.2) : Covers r q :=
  ⟨h1, fun _ hv _ => h2 ▸ hv⟩

theorem Covers.append {r1 r2 : Scan × List Viol} {q1 q2 : OS × List Viol} (h1 : Covers r1 q1) (h2 : Covers r2 q2) :
    Covers (r2.1, r1.2 ++ r2.2) (q2.1, q1.2 ++ q2.2) :=
  ⟨h2.1, fun v hv hvo => List.mem_append.mpr ((List.mem_append.mp hv).imp (h1.2 v · hvo) (h2.2 v · hvo))⟩

theorem scanOut_send (σ : Scan) (m : OutMsg) (hm : m.typ ≠ .hello) : NoOrder σ (scanOut σ (.send m)) := by
  simp only [scanOut]
  split
  · next h => exact absurd h hm
  · exact NoOrder.when rfl rfl
  · split
    · split
      · exact NoOrder.one rfl rfl
      · exact NoOrder.unless rfl rfl
    · split
      · exact NoOrder.one rfl rfl
      · exact NoOrder.when rfl rfl
  · split
    · exact NoOrder.one rfl rfl
    · exact NoOrder.nil rfl
  · exact NoOrder.nil rfl

theorem scanOut_os (σ : Scan) (x : SOut) : Covers (scanOut σ x) (oScan σ.os x) := by
  cases x with
  | hook h a =>
    simp only [scanOut, oScan, Scan.os]
    by_cases h0 : hookRank h = 0
    · simp only [h0, ↓reduceIte]; exact .same rfl rfl
    · by_cases hl : h = .onLeave
      · by_cases ho : σ.owedLeave = 0 <;> simp only [hl, ho, ↓reduceIte] <;> exact .same rfl rfl
      · simp only [h0, hl, ↓reduceIte]; exact .same rfl rfl
  | fire e =>
    simp only [scanOut, oScan, Scan.os]
    by_cases he : e = .join <;> simp only [he, ↓reduceIte] <;> exact .same rfl rfl
  | send m =>
    by_cases hm : m.typ = .hello
    · simp only [scanOut, oScan, hm, ↓reduceIte]; exact .same rfl rfl
    · exact (scanOut_send σ m hm).covers (by simp only [oScan, hm, ↓reduceIte])
  | complete f o =>
    refine NoOrder.covers ?_ rfl
    simp only [scanOut]
    split
    · split <;> exact NoOrder.nil rfl
    · exact NoOrder.nil rfl
  | _ => exact NoOrder.covers (NoOrder.nil rfl) rfl

theorem scanOuts_os (σ : Scan) (xs : List SOut) : Covers (scanOuts σ xs) (oScans σ.os xs) := by
  induction xs generalizing σ with
  | nil => exact ⟨rfl, fun _ hv => nomatch hv⟩
  | cons x xs ih =>
    have h := (scanOut_os σ x).append (ih (scanOut σ x).1)
    rw [(scanOut_os σ x).1] at h
    exact h

theorem vGoodbye_not_order (wasJoined wasGb replied : Bool) (v : Viol)
    (hv : v ∈ (if !wasJoined then [] else if !wasGb && !replied then [Viol.goodbyeUnanswered]
      else if wasGb && replied then [Viol.goodbyeEchoed] else [])) : v.isOrder = false := by
  split at hv
  · simp at hv
  · split at hv
    · simp at hv; subst hv; rfl
    · split at hv
      · simp at hv; subst hv; rfl
      · simp at hv

theorem noReply_not_order {c : Prop} [Decidable c] (l : List (ReqId × Owed)) (v : Viol)
    (hv : v ∈ if c then l.map (fun x => Viol.noReply x.1) else []) : v.isOrder = false := by
  split at hv
  · simp only [List.mem_map] at hv
    obtain ⟨x, _, rfl⟩ := hv
    rfl
  · simp at hv

/-- a legal INVOCATION: whatever the callee clauses say, the ordering fields stay -/
theorem preCheck_invocation (σ : Scan) (beh : List HAct) (vis : List SOut) (req : ReqId) (reg : RegId) (p : Payload)
    (rp : Option Bool) (hi0 : isIllegal σ.welcomed σ.ended (.invocation req reg p rp) = false) :
    NoOrder σ (preCheck σ (.msg (.invocation req reg p rp) beh) vis) := by
  simp only [preCheck, hi0, Bool.false_eq_true, ↓reduceIte]
  split
  · exact NoOrder.unless rfl rfl
  · split
    · exact NoOrder.unless rfl rfl
    · split
      · exact ⟨os_ite rfl rfl, (NoOrder.unless (σ' := σ) rfl rfl).2⟩
      · exact NoOrder.unless rfl rfl

theorem preCheck_os (σ : Scan) (e : SEv) (vis : List SOut) : Covers (preCheck σ e vis) (oPre σ.os e vis) := by
  cases e with
  | open_ acts => exact .same rfl rfl
  | closed acts => exact .same rfl rfl
  | msg m beh =>
    by_cases hi : isIllegal σ.welcomed σ.ended m = true
    · have h1 : preCheck σ (.msg m beh) vis = (σ, if vis = [.raise_ .protocolError] then [] else [.gate]) := by
        simp only [preCheck, hi, ↓reduceIte]
      have h2 : oPre σ.os (.msg m beh) vis = (σ.os, if vis = [.raise_ .protocolError] then [] else [.gate]) := by
        have : isIllegal σ.os.welcomed σ.os.ended m = true := hi
        simp only [oPre, this, ↓reduceIte]
      rw [h1, h2]
      exact .same rfl rfl
    · have hi0 : isIllegal σ.welcomed σ.ended m = false := by simpa using hi
      have hi' : isIllegal σ.os.welcomed σ.os.ended m = false := hi0
      cases m with
      | invocation req reg p rp => exact (preCheck_invocation σ beh vis req reg p rp hi0).covers (by simp only [oPre, hi']; rfl)
      | interrupt req =>
        refine NoOrder.covers ?_ (by simp only [oPre, hi']; rfl)
        simp only [preCheck, hi0, Bool.false_eq_true, ↓reduceIte]
        split
        · split <;> exact NoOrder.nil rfl
        · exact NoOrder.nil rfl
      | _ =>
        simp only [preCheck, oPre, hi0, hi', Bool.false_eq_true, ↓reduceIte]
        exact .same rfl rfl
  | api a =>
    refine NoOrder.covers ?_ rfl
    simp only [preCheck]
    split
    · exact NoOrder.unless rfl rfl
    · split <;> exact NoOrder.nil rfl
  | resolve req r =>
    refine NoOrder.covers ?_ rfl
    simp only [preCheck]
    split <;> exact NoOrder.nil rfl
  | fail req x =>
    refine NoOrder.covers ?_ rfl
    simp only [preCheck]
    split <;> exact NoOrder.nil rfl
  | _ => exact NoOrder.covers (NoOrder.nil rfl) rfl

theorem stepCheck_order (σ : Scan) (e : SEv) (outs : List SOut) :
    (stepCheck .sync σ e outs).1.os = (oStep σ.os e outs).1 ∧
    ∀ v ∈ (stepCheck .sync σ e outs).2, v.isOrder = true → v ∈ (oStep σ.os e outs).2 := by
  obtain ⟨p1, p2⟩ := preCheck_os σ e (outs.filter visible)
  obtain ⟨s1, s2⟩ := scanOuts_os (preCheck σ e (outs.filter visible)).1 (outs.filter visible)
  rw [p1] at s1 s2
  have hq : quiet .sync e = true := by cases e <;> rfl
  constructor
  · simp only [stepCheck, oStep, hq, Bool.true_and, ↓reduceIte]
    rw [← s1]
    cases e <;> exact os_ite rfl rfl
  · intro v hv hvo
    simp only [stepCheck, hq, Bool.true_and, ↓reduceIte, List.mem_append] at hv
    simp only [oStep, List.mem_append]
    -- the six lists of violations `stepCheck` puts together, in its order
    rcases hv with ((((hv | hv) | hv) | hv) | hv) | hv
    · -- what the event obliges (`preCheck`)
      exact Or.inl (Or.inl (p2 v hv hvo))
    · -- the observations, read in order (`scanOuts`)
      exact Or.inl (Or.inr (s2 v hv hvo))
    · -- the GOODBYE clauses: not ordering clauses
      exfalso
      cases e with
      | msg m beh =>
        cases m with
        | goodbye => have := vGoodbye_not_order _ _ _ v hv; simp [this] at hvo
        | _ => simp at hv
      | _ => simp at hv
    · -- `leaveMissing`: read off `owedLeave`, which both sides hold alike
      right
      have : (scanOuts (preCheck σ e (outs.filter visible)).1 (outs.filter visible)).1.owedLeave =
          (oScans (oPre σ.os e (outs.filter visible)).1 (outs.filter visible)).1.owedLeave := by
        rw [← s1]; rfl
      rw [← this]
      simpa using hv
    · -- requests still pending after the end: not ordering clauses
      exfalso
      have hp : ∀ σ' : Scan, v ∈ stillPending σ' → False := by
        intro σ' h
        simp only [stillPending, List.mem_map] at h
        obtain ⟨f, _, rfl⟩ := h
        simp [Viol.isOrder] at hvo
      cases e with
      | closed acts => exact hp _ hv
      | msg m beh =>
        cases m with
        | goodbye =>
          simp only [] at hv
          split at hv
          · exact hp _ hv
          · simp at hv
        | abort =>
          simp only [] at hv
          split at hv
          · exact hp _ hv
          · simp at hv
        | _ => simp at hv
      | _ => simp at hv
    · -- invocations without reply: not ordering clauses
      have := noReply_not_order _ v hv
      simp [this] at hvo

end Abverif.SessTrace

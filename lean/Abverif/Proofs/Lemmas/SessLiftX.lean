import Abverif.Proofs.Lemmas.SessLiftT
/-
The stronger forms of `LiftT`. `LiftS`: the relation does not read `transport`, so `onOpen` / `onClose` are lifted too.
`LiftX`: it does not read the callee fields either and tolerates the callee outputs (`lcOut`), so the callee functions
and with them the whole of `step` are lifted, given the established-session branch (`LiftX.toCallee`, `LiftX.step` in
SessCallee.lean). Each is used through the weaker one: `LiftX.toLiftS`, `LiftS.toLiftT`.
-/
namespace Abverif.Session
open Abverif.SessCodes

/-- message types of the lifecycle and callee branches: what the session sends outside the six request APIs and `cancel`
(whose CANCEL is not among them) -/
def lcMsg : MsgType → Bool
  | .hello | .goodbye | .abort | .authenticate | .yield_ | .error => true
  | _ => false

theorem lcMsg_of_isReqType {t : MsgType} (h : isReqType t = true) : lcMsg t = false := by
  cases t <;> first | rfl | cases h

/-- outputs of the lifecycle and callee branches (`lc`): `sessOut` plus the endpoint call and YIELD / ERROR, sent or refused -/
def lcOut : SOut → Bool
  | .hook _ _ | .fire _ | .endpoint _ _ _ _ _ | .lost _ | .later _ | .userError | .transportClose | .unmodelled => true
  | .send m => lcMsg m.typ
  | .sendFail m _ => lcMsg m.typ
  | .raise_ e => lcExc e
  | .caught e => lcExc e
  | _ => false

theorem lcOut_of_sessOut {o : SOut} (h : sessOut o = true) : lcOut o = true := by
  cases o with
  | send m =>
    have sub : ∀ t, sessMsg t = true → lcMsg t = true := fun t ht => by cases t <;> first | rfl | cases ht
    exact sub _ h
  | _ => first | exact h | cases h

/-- `LiftT` for a relation that does not read `transport`: `lc` does not ask for it. The other fields are `LiftT`'s. -/
structure LiftS (R : Sess → List SOut → Sess → Prop) (P : Sess → Prop) (ok : SOut → Bool) : Prop extends Lift R P where
  okOf : ∀ o, sessOut o = true → ok o = true
  lc : ∀ {s s' : Sess}, P s → s'.core = s.core → s'.callee = s.callee → R s [] s'
  out : ∀ {s : Sess} {os : List SOut}, P s → (∀ o ∈ os, ok o = true) → R s os s
  emit : ∀ {s : Sess} {o : SOut}, P s → ok o = true → R s (emitCb s o).2 (emitCb s o).1
  enq : ∀ {s : Sess} (k : Cont), P s → R s [] { s with cbq := s.cbq ++ [.later k] }
  lostMap : ∀ {s o s'}, R s o s' → R s (o.map toLost) s'
  cbqOk : ∀ {s : Sess}, P s → ∀ o ∈ s.cbq, ok o = true
  clearQ : ∀ {s : Sess}, P s → R s [] { s with cbq := [] }
  rejectAll : ∀ {s : Sess} (o : Outcome), P s →
    R s (rejectList s.clearTables o s.outstanding).2 (rejectList s.clearTables o s.outstanding).1

/-- `LiftS` for a relation that does not read the callee fields and tolerates the callee outputs: `lc` asks for `Core`
alone, `okOf` is over `lcOut`. The other fields are `LiftT`'s. -/
structure LiftX (R : Sess → List SOut → Sess → Prop) (P : Sess → Prop) (ok : SOut → Bool) : Prop extends Lift R P where
  okOf : ∀ o, lcOut o = true → ok o = true
  lc : ∀ {s s' : Sess}, P s → s'.core = s.core → R s [] s'
  out : ∀ {s : Sess} {os : List SOut}, P s → (∀ o ∈ os, ok o = true) → R s os s
  emit : ∀ {s : Sess} {o : SOut}, P s → ok o = true → R s (emitCb s o).2 (emitCb s o).1
  enq : ∀ {s : Sess} (k : Cont), P s → R s [] { s with cbq := s.cbq ++ [.later k] }
  lostMap : ∀ {s o s'}, R s o s' → R s (o.map toLost) s'
  cbqOk : ∀ {s : Sess}, P s → ∀ o ∈ s.cbq, ok o = true
  clearQ : ∀ {s : Sess}, P s → R s [] { s with cbq := [] }
  rejectAll : ∀ {s : Sess} (o : Outcome), P s →
    R s (rejectList s.clearTables o s.outstanding).2 (rejectList s.clearTables o s.outstanding).1

variable {R : Sess → List SOut → Sess → Prop} {P : Sess → Prop} {ok : SOut → Bool}

namespace LiftS

theorem toLiftT (L : LiftS R P ok) : LiftT R P ok :=
  { L with lc := fun h hc hk _ => L.lc h hc hk }

theorem lcThen (L : LiftS R P ok) {s s' s'' : Sess} {o : List SOut} (hs : P s)
    (h : P s' → R s' o s'') (hc : s'.core = s.core) (hk : s'.callee = s.callee) : R s o s'' := by
  have h0 := L.lc hs hc hk
  exact L.trans h0 (h (L.post hs h0))

theorem trans3 (L : LiftS R P ok) {s s1 s2 s3 : Sess} {a b c : List SOut} (h1 : R s a s1) (h2 : R s1 b s2) (h3 : R s2 c s3) :
    R s ((a ++ b) ++ c) s3 :=
  L.toLiftT.trans3 h1 h2 h3

theorem onClose (L : LiftS R P ok) {s : Sess} (hs : P s) (acts : List HAct) :
    R s (Session.onClose s acts).2 (Session.onClose s acts).1 := by
  unfold Session.onClose
  refine L.lcThen (s' := { s with transport := false }) hs (fun hs0 => ?_) rfl rfl
  simp only []
  split
  · have h1 := L.toLiftT.leaveHook hs0 1 (acts.headD {})
    refine L.trans h1 ?_
    exact L.lcThen (L.post hs0 h1) (fun h => L.toLiftT.disconnectHook h _) rfl rfl
  · exact L.toLiftT.disconnectHook hs0 _

theorem onOpen (L : LiftS R P ok)
    (hInv : ∀ {s : Sess} (req : ReqId) (o : EOut), P s → R s (Session.invDone s req o).2 (Session.invDone s req o).1) {s : Sess} (hs : P s) (acts : List HAct) :
    R s (Session.onOpen s acts).2 (Session.onOpen s acts).1 := by
  unfold Session.onOpen
  refine L.lcThen (s' := { s with transport := true, ended := false }) hs (fun hs0 => ?_) rfl rfl
  exact L.toLiftT.cons hs0 rfl (L.toLiftT.defer hInv hs0 _)

theorem goodbye (L : LiftS R P ok) {s : Sess} (hs : P s) (act : HAct) :
    R s ((if s.goodbyeSent then [] else [SOut.send { typ := .goodbye }]) ++ (Session.leaveHook { s with sessionId := none, ended := true } 0 act).2)
      (Session.leaveHook { s with sessionId := none, ended := true } 0 act).1 :=
  L.toLiftT.goodbye hs act

end LiftS

namespace LiftX

theorem toLiftS (L : LiftX R P ok) : LiftS R P ok :=
  { L with okOf := fun o h => L.okOf o (lcOut_of_sessOut h), lc := fun h hc _ => L.lc h hc }

theorem outs (L : LiftX R P ok) {s : Sess} {os : List SOut} (hs : P s) (ho : ∀ o ∈ os, lcOut o = true) : R s os s :=
  L.out hs (fun o h => L.okOf o (ho o h))

theorem out1 (L : LiftX R P ok) {s : Sess} {o : SOut} (hs : P s) (ho : lcOut o = true) : R s [o] s :=
  L.outs hs (List.forall_mem_singleton.mpr ho)

theorem thenLc (L : LiftX R P ok) {s s' s'' : Sess} {o : List SOut} (hs : P s) (h : R s o s')
    (hc : s''.core = s'.core) : R s o s'' := by
  have := L.trans h (L.lc (L.post hs h) hc)
  rwa [List.append_nil] at this

theorem replySend (L : LiftX R P ok) {s : Sess} (hs : P s) (m : OutMsg) (hm : lcMsg m.typ = true) :
    R s (Session.replySend s m).2.1 (Session.replySend s m).1 := by
  rw [replySend_eq]
  exact L.thenLc (s' := s) hs (by split <;> exact L.out1 hs hm) rfl

theorem onClose (L : LiftX R P ok) {s : Sess} (hs : P s) (acts : List HAct) :
    R s (Session.onClose s acts).2 (Session.onClose s acts).1 :=
  L.toLiftS.onClose hs acts

theorem goodbye (L : LiftX R P ok) {s : Sess} (hs : P s) (act : HAct) :
    R s ((if s.goodbyeSent then [] else [SOut.send { typ := .goodbye }]) ++ (Session.leaveHook { s with sessionId := none, ended := true } 0 act).2)
      (Session.leaveHook { s with sessionId := none, ended := true } 0 act).1 :=
  L.toLiftS.goodbye hs act

end LiftX

end Abverif.Session

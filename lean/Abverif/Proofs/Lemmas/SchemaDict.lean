import Abverif.Proofs.Lemmas.SchemaRoles
/-
Lookups in the options dictionary written by `Schema.marshalDict`.  Both the typed entries (`marshalOpt`) and the
`enc_*` entries (`encEntry`) are written item by item, each item under its own key: one lookup lemma serves both.
-/
namespace Abverif.Wamp
open Schema

section keyed
variable {α : Type} {key : α → Str} {f : α → Dict} (hf : ∀ a, ∀ k ∈ (f a).map (·.1), k = key a)
include hf

theorem Dict.get?_flatMap_of_not_mem (tl : Dict) {k : Str} :
    ∀ l : List α, k ∉ l.map key → Dict.get? (l.flatMap f ++ tl) k = Dict.get? tl k := by
  intro l
  induction l with
  | nil => intro _; rfl
  | cons h t ih =>
    intro hk
    simp only [List.map_cons, List.mem_cons, not_or] at hk
    rw [List.flatMap_cons, List.append_assoc, Dict.get?_append_of_not_mem (fun hm => hk.1 (hf h k hm))]
    exact ih hk.2

theorem Dict.get?_flatMap_of_mem (tl : Dict) {a : α} :
    ∀ l : List α, a ∈ l → (l.map key).Nodup →
      Dict.get? (l.flatMap f ++ tl) (key a) = (Dict.get? (f a) (key a)).or (Dict.get? tl (key a)) := by
  intro l
  induction l with
  | nil => intro ha; cases ha
  | cons h t ih =>
    intro ha hnd
    simp only [List.map_cons, List.nodup_cons] at hnd
    rw [List.flatMap_cons, List.append_assoc]
    rcases List.mem_cons.mp ha with rfl | hat
    · rw [Dict.get?_append, Dict.get?_flatMap_of_not_mem hf tl t hnd.1]
    · have hne : key a ∉ (f h).map (·.1) := fun hm =>
        hnd.1 (hf h _ hm ▸ List.mem_map_of_mem hat)
      rw [Dict.get?_append_of_not_mem hne]
      exact ih hat hnd.2

end keyed

theorem marshalOpt_keys (m : Msg) (s : OptStep) : ∀ k ∈ (marshalOpt m s).map (·.1), k = s.key := by
  intro k hk
  unfold marshalOpt at hk
  split at hk <;> simp_all

theorem get?_marshalOpt (m : Msg) (s : OptStep) :
    Dict.get? (marshalOpt m s) s.key =
      if s.mm.emits (m.get s.field) = true then some (s.ty.encode (m.get s.field)) else none := by
  unfold marshalOpt
  split
  · exact Dict.get?_cons_self _ _ _
  · rfl

theorem encEntry_keys (m : Msg) (f : Str) : ∀ k ∈ (encEntry m f).map (·.1), k = f := by
  intro k hk
  unfold encEntry at hk
  split at hk <;> simp_all

/-- an absent entry reads as `None`, which is what the attribute was -/
theorem getD_encEntry (m : Msg) (f : Str) : (Dict.get? (encEntry m f) f).getD .null = m.get f := by
  unfold encEntry
  split
  · rename_i h; exact (WVal.eq_null_of_isNull h).symm
  · rw [Dict.get?_cons_self]; rfl

theorem marshalEnc_eq (m : Msg) :
    marshalEnc m = if (m.get cs!"payload").truthy then encKeys.flatMap (encEntry m) else [] := by
  simp [marshalEnc, encKeys]

theorem marshalEnc_keys (m : Msg) : ∀ k ∈ (marshalEnc m).map (·.1), k ∈ encKeys := by
  intro k hk
  rw [marshalEnc_eq] at hk
  split at hk
  · simp only [List.map_flatMap, List.mem_flatMap] at hk
    obtain ⟨f, hf, hkf⟩ := hk
    exact encEntry_keys m f k hkf ▸ hf
  · cases hk

theorem getD_marshalEnc (m : Msg) {k : Str} (hk : k ∈ encKeys) :
    (Dict.get? (marshalEnc m) k).getD .null = if (m.get cs!"payload").truthy then m.get k else .null := by
  rw [marshalEnc_eq]
  split
  · have h := Dict.get?_flatMap_of_mem (key := id) (encEntry_keys m) [] encKeys hk (by decide)
    simp only [List.append_nil, Dict.get?_nil, Option.or_none, id] at h
    rw [h]
    exact getD_encEntry m k
  · rfl

end Abverif.Wamp

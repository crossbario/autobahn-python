import Abverif.Model.Uri
import Abverif.Proofs.Lemmas.RxTheory
/-
The regexes of `wamp/message.py` (as generated into `Generated/UriPatterns.lean`) against the intended grammars
of `Model/UriSpec.lean`: every pattern accepts exactly its grammar (`uri_equiv`, `custom_attr_equiv`, `realm_*_equiv`).

The source once ended its patterns in `$` and wrote digits as `\d` (F2: `$` also matches before a trailing "\n", `\d`
matches every Unicode Nd); since /repo 8a098028 it has `\Z` and `0-9`.  The proofs do not depend on which it is:
  1. theorems over the *shape* of a pattern, for an arbitrary character class `C` (`lang_uriShape`, `lang_caShape`,
     `lang_nameShape`, …): language of the shape = generic Spec over `C.contains`;
  2. a class with the same set of items as the intended one, `\d` read as `0-9`, agrees with it on every character
     that is not a non-ASCII decimal digit (`contains_eq_of_sameClass`);
  3. facts about the generated patterns by evaluation: the body has the expected shape around whatever classes it
     contains, and those classes pass `sameClass`.
This gives, per pattern, a `*_guarded` theorem (pattern = grammar on texts with no trailing "\n" while the anchor is `$`
and no non-ASCII digit while the class mentions `\d`), and the full statement follows because the generated patterns
have neither.  For the six URI patterns the two defects are also characterised exactly: `uri_check_exact`, `uri_complete`,
`uri_sound_up_to_f2` hold whatever the source says, and the `f2_*_witness` / `not_*Equiv_*` theorems show that either
defect alone refutes the full statement.
-/
namespace Abverif.Uri
open Abverif.Rx

/-- `chs! "a.b"` is the explicit character list `['a', '.', 'b']` -/
macro:max "chs!" s:str : term => do
  let cs := s.getString.toList
  let elems := cs.toArray.map fun c => Lean.Syntax.mkCharLit c
  `([$elems,*])

theorem char_le_iff (a b : Char) : a ≤ b ↔ a.toNat ≤ b.toNat := by
  rw [Char.le_def]; exact UInt32.le_iff_toNat_le

theorem all_congr_mem {α : Type} {f g : α → Bool} {l : List α} (h : ∀ x ∈ l, f x = g x) : l.all f = l.all g := by
  rw [Bool.eq_iff_iff, List.all_eq_true, List.all_eq_true]
  exact forall₂_congr (fun x hx => by rw [h x hx])

theorem any_congr_mem {α : Type} {f g : α → Bool} {l : List α} (h : ∀ x ∈ l, f x = g x) : l.any f = l.any g := by
  rw [Bool.eq_iff_iff, List.any_eq_true, List.any_eq_true]
  exact exists_congr (fun x => and_congr_right (fun hx => by rw [h x hx]))

theorem not_forall_eq_of_witness {α : Type} {f g : α → Bool} {a : α} (h : f a = true ∧ g a = false) :
    ¬ ∀ x, f x = g x := by
  intro he
  rw [he a, h.2] at h
  cases h.1

theorem pow_cls (C : CClass) : ∀ (k : Nat) (w : List Char),
    Pow (Rx.Lang (.cls C)) k w ↔ (w.length = k ∧ w.all C.contains = true)
  | 0, w => by
    rw [pow_zero]
    constructor
    · rintro rfl; exact ⟨rfl, rfl⟩
    · rintro ⟨h, _⟩; exact List.eq_nil_of_length_eq_zero h
  | k + 1, w => by
    rw [pow_succ]
    constructor
    · rintro ⟨u, v, rfl, hu, hv⟩
      obtain ⟨c, rfl, hc⟩ := lang_cls.1 hu
      obtain ⟨h1, h2⟩ := (pow_cls C k v).1 hv
      refine ⟨by simp only [List.singleton_append, List.length_cons, h1], ?_⟩
      simp only [List.singleton_append, List.all_cons, hc, h2, Bool.and_self]
    · rintro ⟨h1, h2⟩
      cases w with
      | nil => simp at h1
      | cons c cs =>
        simp only [List.all_cons, Bool.and_eq_true] at h2
        simp only [List.length_cons, Nat.add_right_cancel_iff] at h1
        exact ⟨[c], cs, rfl, lang_cls.2 ⟨c, rfl, h2.1⟩, (pow_cls C k cs).2 ⟨h1, h2.2⟩⟩

theorem lang_star_cls {C : CClass} {w : List Char} :
    Rx.Lang (.star (.cls C)) w ↔ w.all C.contains = true := by
  simp only [lang_star, pow_cls, exists_eq_left']

theorem lang_plus_cls {C : CClass} {w : List Char} :
    Rx.Lang (.plus (.cls C)) w ↔ (w ≠ [] ∧ w.all C.contains = true) := by
  cases w <;> simp [lang_plus, pow_cls]

theorem lang_opt_plus_cls {C : CClass} {w : List Char} :
    Rx.Lang (.opt (.plus (.cls C))) w ↔ w.all C.contains = true := by
  cases w <;> simp [lang_opt, lang_plus_cls]

theorem lang_rep_cls {C : CClass} {m n : Nat} {w : List Char} :
    Rx.Lang (.rep (.cls C) m n) w ↔ (m ≤ w.length ∧ w.length ≤ n ∧ w.all C.contains = true) := by
  rw [lang_rep]
  constructor
  · rintro ⟨k, h1, h2, hk⟩
    obtain ⟨h3, h4⟩ := (pow_cls C k w).1 hk
    exact ⟨by omega, by omega, h4⟩
  · rintro ⟨h1, h2, h3⟩
    exact ⟨w.length, h1, h2, (pow_cls C _ w).2 ⟨rfl, h3⟩⟩

theorem lang_cls_seq {A : CClass} {r : Rx} {w : List Char} :
    Rx.Lang (.seq (.cls A) r) w ↔ ∃ c t, w = c :: t ∧ A.contains c = true ∧ Rx.Lang r t := by
  rw [lang_seq]
  constructor
  · rintro ⟨u, v, rfl, hu, hv⟩
    obtain ⟨c, rfl, hc⟩ := lang_cls.1 hu
    exact ⟨c, v, rfl, hc, hv⟩
  · rintro ⟨c, t, rfl, hc, ht⟩
    exact ⟨[c], t, rfl, lang_cls.2 ⟨c, rfl, hc⟩, ht⟩

/-- a literal character, as the translator emits it -/
def lit (c : Char) : Rx := .cls ⟨false, [.ch c]⟩

theorem lang_lit {a : Char} {w : List Char} : Rx.Lang (lit a) w ↔ w = [a] := by
  simp [lit, lang_cls, CClass.contains, CItem.contains]

/-- a literal prefix followed by `r` (right-nested, as the translator emits concatenations) -/
def litThen : List Char → Rx → Rx
  | [], r => r
  | c :: cs, r => .seq (lit c) (litThen cs r)

theorem lang_litThen : ∀ (p : List Char) (r : Rx) (w : List Char),
    Rx.Lang (litThen p r) w ↔ ∃ t, w = p ++ t ∧ Rx.Lang r t
  | [], r, w => by
    constructor
    · intro h; exact ⟨w, rfl, h⟩
    · rintro ⟨t, rfl, h⟩; exact h
  | c :: cs, r, w => by
    rw [litThen, lang_seq]
    constructor
    · rintro ⟨u, v, rfl, hu, hv⟩
      rw [lang_lit] at hu
      subst hu
      obtain ⟨t, rfl, ht⟩ := (lang_litThen cs r v).1 hv
      exact ⟨t, rfl, ht⟩
    · rintro ⟨t, rfl, ht⟩
      exact ⟨[c], cs ++ t, rfl, lang_lit.2 rfl, (lang_litThen cs r _).2 ⟨t, rfl, ht⟩⟩

theorem lang_litThen_rep_cls (p : List Char) (C : CClass) (m n : Nat) (s : List Char) :
    Rx.Lang (litThen p (.rep (.cls C) m n)) s ↔
      s.take p.length = p ∧ m ≤ (s.drop p.length).length ∧ (s.drop p.length).length ≤ n ∧
        (s.drop p.length).all C.contains = true := by
  rw [lang_litThen]
  constructor
  · rintro ⟨t, rfl, ht⟩
    rw [List.take_left' rfl, List.drop_left' rfl]
    exact ⟨rfl, lang_rep_cls.1 ht⟩
  · rintro ⟨h1, h2⟩
    exact ⟨s.drop p.length, (List.take_append_drop p.length s).symm.trans (congrArg (· ++ s.drop p.length) h1),
      lang_rep_cls.2 h2⟩

/-- `c₁ . c₂ . … cₙ . last` -/
def joinDot : List (List Char) → List Char → List Char
  | [], last => last
  | c :: cs, last => c ++ '.' :: joinDot cs last

def NoDot (w : List Char) : Prop := ∀ c ∈ w, c ≠ '.'

theorem noDot_of_all {P : Char → Bool} (hdot : P '.' = false) {w : List Char} (h : w.all P = true) : NoDot w := by
  intro c hc he
  subst he
  rw [List.all_eq_true] at h
  rw [h _ hc] at hdot
  cases hdot

theorem splitDot_eq (s : List Char) : splitDot s = s.splitOn '.' := by
  induction s with
  | nil => rfl
  | cons c cs ih =>
    rw [splitDot, ih, List.splitOn_cons_eq_if_modifyHead]
    cases h : cs.splitOn '.' with
    | nil => exact absurd h (List.splitOn_ne_nil '.' cs)
    | cons p ps => simp only [beq_iff_eq, List.modifyHead_cons, consHead]

theorem splitDot_noDot (w : List Char) (hw : NoDot w) : splitDot w = [w] := by
  rw [splitDot_eq, List.splitOn_eq_singleton (fun h => hw _ h rfl)]

theorem splitDot_comp (comp rest : List Char) (h : NoDot comp) :
    splitDot (comp ++ '.' :: rest) = comp :: splitDot rest := by
  rw [splitDot_eq, splitDot_eq, List.splitOn_append_cons_self_of_not_mem (fun hm => h _ hm rfl)]

theorem splitDot_joinDot : ∀ (cs : List (List Char)) (last : List Char),
    (∀ comp ∈ cs, NoDot comp) → NoDot last → splitDot (joinDot cs last) = cs ++ [last]
  | [], last, _, hl => by simp only [joinDot, splitDot_noDot last hl, List.nil_append]
  | c :: cs, last, h, hl => by
    obtain ⟨hc, hcs⟩ := List.forall_mem_cons.1 h
    rw [joinDot, splitDot_comp c _ hc,
      splitDot_joinDot cs last hcs hl]
    rfl

theorem exists_joinDot : ∀ (s : List Char),
    ∃ cs last, s = joinDot cs last ∧ (∀ comp ∈ cs, NoDot comp) ∧ NoDot last
  | [] => ⟨[], [], rfl, List.forall_mem_nil _, List.forall_mem_nil _⟩
  | c :: s => by
    obtain ⟨cs, last, rfl, h1, h2⟩ := exists_joinDot s
    by_cases hc : c = '.'
    · subst hc
      exact ⟨[] :: cs, last, rfl, List.forall_mem_cons.2 ⟨List.forall_mem_nil _, h1⟩, h2⟩
    · cases cs with
      | nil => exact ⟨[], c :: last, rfl, h1, List.forall_mem_cons.2 ⟨hc, h2⟩⟩
      | cons d ds =>
        obtain ⟨hd, hds⟩ := List.forall_mem_cons.1 h1
        exact ⟨(c :: d) :: ds, last, rfl, List.forall_mem_cons.2 ⟨List.forall_mem_cons.2 ⟨hc, hd⟩, hds⟩, h2⟩

theorem okWith_joinDot (P : Char → Bool) (md : Mode) {cs : List (List Char)} {last : List Char}
    (hcs : ∀ c ∈ cs, NoDot c) (hl : NoDot last) :
    Spec.okWith P md (joinDot cs last) = true ↔
      (∀ c ∈ cs, (md = .empty ∨ c ≠ []) ∧ c.all P = true) ∧ (md = .nonEmpty → last ≠ []) ∧ last.all P = true := by
  unfold Spec.okWith
  rw [splitDot_joinDot cs last hcs hl]
  cases md <;>
    simp only [List.all_append, List.all_cons, List.all_nil, List.dropLast_concat, Bool.and_true, Bool.and_eq_true,
      List.all_eq_true, Bool.not_eq_true', List.isEmpty_eq_false_iff, reduceCtorEq, false_or, true_or, forall_const,
      false_implies, true_and, forall_and]
  -- `.empty` has no emptiness condition and is closed; in the other two the conjuncts are left in the Spec's order
  -- (all characters, then all emptiness conditions) against the order by component
  case nonEmpty => exact and_comm.trans and_and_and_comm
  case lastEmpty => exact and_comm.trans and_assoc.symm

/-- the character condition of the Spec, read off the text itself: every character is a dot or satisfies `P` -/
theorem all_splitDot (P : Char → Bool) : ∀ (s : List Char),
    (splitDot s).all (fun comp => comp.all P) = s.all (fun c => decide (c = '.') || P c)
  | [] => rfl
  | c :: cs => by
    rw [List.all_cons, ← all_splitDot P cs, splitDot]
    by_cases hc : c = '.'
    · rw [if_pos hc, decide_eq_true hc]
      rfl
    · rw [if_neg hc, decide_eq_false hc, Bool.false_or]
      cases splitDot cs with
      | nil => simp only [consHead, List.all_cons, List.all_nil, Bool.and_true]
      | cons h t => simp only [consHead, List.all_cons, Bool.and_assoc]

theorem okWith_congr {P P' : Char → Bool} (md : Mode) {s : List Char} (h : ∀ c ∈ s, P c = P' c) :
    Spec.okWith P md s = Spec.okWith P' md s := by
  unfold Spec.okWith
  simp only [all_splitDot, all_congr_mem (fun c hc => congrArg (decide (c = '.') || ·) (h c hc))]

def dotR : Rx := lit '.'

/-- the AST shapes of `^(C+\.)*(C+)$`, `^(C+\.)*(C*)$`, `^((C+\.)|\.)*(C+)?$` -/
def uriShape : Mode → CClass → Rx
  | .nonEmpty, C => .seq (.star (.seq (.plus (.cls C)) dotR)) (.plus (.cls C))
  | .lastEmpty, C => .seq (.star (.seq (.plus (.cls C)) dotR)) (.star (.cls C))
  | .empty, C => .seq (.star (.alt (.seq (.plus (.cls C)) dotR) dotR)) (.opt (.plus (.cls C)))

theorem lang_compStar_seq {X Y : Rx} {Q : List Char → Prop}
    (hX : ∀ x, Rx.Lang X x ↔ ∃ comp, x = comp ++ ['.'] ∧ Q comp) (s : List Char) :
    Rx.Lang (.seq (.star X) Y) s ↔
      ∃ (cs : List (List Char)) (last : List Char), s = joinDot cs last ∧ (∀ c ∈ cs, Q c) ∧ Rx.Lang Y last := by
  rw [lang_seq]
  constructor
  · rintro ⟨u, v, rfl, ⟨k, hk⟩, hv⟩
    induction k generalizing u with
    | zero => exact ⟨[], v, congrArg (· ++ v) hk, List.forall_mem_nil _, hv⟩
    | succ k ih =>
      obtain ⟨x, u, rfl, hx, hu⟩ := hk
      obtain ⟨comp, rfl, hq⟩ := (hX x).1 hx
      obtain ⟨cs, last, h, hcs, hl⟩ := ih u hu
      exact ⟨comp :: cs, last, by simp only [joinDot, List.append_assoc, List.cons_append, List.nil_append, h],
        List.forall_mem_cons.2 ⟨hq, hcs⟩, hl⟩
  · rintro ⟨cs, last, rfl, hcs, hl⟩
    induction cs with
    | nil => exact ⟨[], last, rfl, ⟨0, rfl⟩, hl⟩
    | cons comp cs ih =>
      obtain ⟨hq, hcs⟩ := List.forall_mem_cons.1 hcs
      obtain ⟨u, v, h, ⟨k, hk⟩, hv⟩ := ih hcs
      exact ⟨comp ++ ['.'] ++ u, v, by simp only [joinDot, List.append_assoc, List.cons_append, List.nil_append, h],
        ⟨k + 1, _, u, rfl, (hX _).2 ⟨comp, rfl, hq⟩, hk⟩, hv⟩

theorem lang_compNE (C : CClass) (x : List Char) :
    Rx.Lang (.seq (.plus (.cls C)) dotR) x ↔
      ∃ comp, x = comp ++ ['.'] ∧ (comp ≠ [] ∧ comp.all C.contains = true) := by
  rw [lang_seq]
  constructor
  · rintro ⟨u, v, rfl, hu, hv⟩
    rw [dotR, lang_lit] at hv
    subst hv
    exact ⟨u, rfl, lang_plus_cls.1 hu⟩
  · rintro ⟨comp, rfl, h⟩
    exact ⟨comp, ['.'], rfl, lang_plus_cls.2 h, lang_lit.2 rfl⟩

theorem lang_compAny (C : CClass) (x : List Char) :
    Rx.Lang (.alt (.seq (.plus (.cls C)) dotR) dotR) x ↔
      ∃ comp, x = comp ++ ['.'] ∧ comp.all C.contains = true := by
  rw [lang_alt, lang_compNE]
  constructor
  · rintro (⟨comp, rfl, _, h⟩ | h)
    · exact ⟨comp, rfl, h⟩
    · rw [dotR, lang_lit] at h
      subst h
      exact ⟨[], rfl, rfl⟩
  · rintro ⟨comp, rfl, h⟩
    cases comp with
    | nil => exact .inr (lang_lit.2 rfl)
    | cons c cs => exact .inl ⟨c :: cs, rfl, by simp, h⟩

/-- **shape theorem**: for any class not containing '.', the language of a URI shape is the generic Spec -/
theorem lang_uriShape (md : Mode) (C : CClass) (hdot : C.contains '.' = false) (s : List Char) :
    Rx.Lang (uriShape md C) s ↔ Spec.okWith C.contains md s = true := by
  have hL : Rx.Lang (uriShape md C) s ↔ ∃ cs last, s = joinDot cs last ∧
      (∀ c ∈ cs, (md = .empty ∨ c ≠ []) ∧ c.all C.contains = true) ∧
      (md = .nonEmpty → last ≠ []) ∧ last.all C.contains = true := by
    cases md
    · rw [uriShape, lang_compStar_seq (lang_compNE C)]
      simp only [lang_plus_cls, reduceCtorEq, false_or, forall_const]
    · rw [uriShape, lang_compStar_seq (lang_compNE C)]
      simp only [lang_star_cls, reduceCtorEq, false_or, false_implies, true_and]
    · rw [uriShape, lang_compStar_seq (lang_compAny C)]
      simp only [lang_opt_plus_cls, true_or, reduceCtorEq, false_implies, true_and]
  rw [hL]
  constructor
  · rintro ⟨cs, last, rfl, hcs, hl⟩
    exact (okWith_joinDot _ md (fun c hc => noDot_of_all hdot (hcs c hc).2) (noDot_of_all hdot hl.2)).2 ⟨hcs, hl⟩
  · intro h
    obtain ⟨cs, last, rfl, h1, h2⟩ := exists_joinDot s
    exact ⟨cs, last, rfl, (okWith_joinDot _ md h1 h2).1 h⟩

example : Rx.Lang (uriShape .lastEmpty ⟨false, [.range 'a' 'z']⟩) (chs! "ab.c.") :=
  (lang_uriShape .lastEmpty ⟨false, [.range 'a' 'z']⟩ (by decide +kernel) _).2 (by decide +kernel)

def _root_.Abverif.Rx.CItem.isDigitItem : CItem → Bool
  | .digit => true
  | _ => false

/-- does the class mention `\d`? (no generated class does since the `[0-9]` repair) -/
def _root_.Abverif.Rx.CClass.usesDigit (C : CClass) : Bool := C.items.any CItem.isDigitItem

/-- the `\d` half of F2 does not arise for the text `s`: needed only while `C` mentions `\d`, and then `s` has no
non-ASCII decimal digit -/
abbrev DigitOk (C : CClass) (s : List Char) : Prop :=
  C.usesDigit = true → ∀ c ∈ s, isDigit c = true → c.toNat < 128

/-- `\d` is `[0-9]` on every character that is not a non-ASCII decimal digit: "0".."9" is the first range of the
table and every other range starts above 127 -/
theorem isDigit_eq_asciiDigit {c : Char} (h : isDigit c = true → c.toNat < 128) : isDigit c = asciiDigit c := by
  have htab : ∀ r ∈ digitRanges.tail, 128 ≤ r.1 := by decide +kernel
  have hd : isDigit c = (decide (48 ≤ c.toNat) && decide (c.toNat ≤ 57) || inRanges digitRanges.tail c.toNat) := rfl
  have ha : asciiDigit c = (decide (48 ≤ c.toNat) && decide (c.toNat ≤ 57)) := by
    simp only [asciiDigit, char_le_iff]
    rfl
  rw [ha]
  rw [hd] at h ⊢
  cases hr : inRanges digitRanges.tail c.toNat with
  | false => rw [Bool.or_false]
  | true =>
    rw [hr, Bool.or_true] at h
    obtain ⟨r, hmem, hle⟩ := List.any_eq_true.1 hr
    simp only [Bool.and_eq_true, decide_eq_true_eq] at hle
    have := htab r hmem
    have := h rfl
    omega

def _root_.Abverif.Rx.CItem.ascii : CItem → CItem
  | .digit => .range '0' '9'
  | i => i

/-- decidable sufficient condition for "`C` is `S` up to non-ASCII `\d` digits": same polarity and, with `\d` read
as `[0-9]`, the same *set* of items (order and duplicates do not matter) -/
def sameClass (C S : CClass) : Bool :=
  C.neg == S.neg && (C.items.map CItem.ascii).all (fun i => decide (i ∈ S.items)) &&
    S.items.all (fun i => decide (i ∈ C.items.map CItem.ascii))

theorem any_eq_of_subsets {f : CItem → Bool} {l1 l2 : List CItem}
    (h12 : l1.all (fun i => decide (i ∈ l2)) = true) (h21 : l2.all (fun i => decide (i ∈ l1)) = true) :
    l1.any f = l2.any f := by
  simp only [List.all_eq_true, decide_eq_true_eq] at h12 h21
  rw [Bool.eq_iff_iff, List.any_eq_true, List.any_eq_true]
  constructor
  · rintro ⟨x, hx, hf⟩; exact ⟨x, h12 x hx, hf⟩
  · rintro ⟨x, hx, hf⟩; exact ⟨x, h21 x hx, hf⟩

theorem contains_eq_of_sameClass {C S : CClass} (h : sameClass C S = true) (c : Char)
    (hd : C.usesDigit = true → isDigit c = true → c.toNat < 128) : C.contains c = S.contains c := by
  unfold sameClass at h
  simp only [Bool.and_eq_true, beq_iff_eq] at h
  obtain ⟨⟨hneg, h12⟩, h21⟩ := h
  have hitems : C.items.any (·.contains c) = S.items.any (·.contains c) := by
    rw [← any_eq_of_subsets h12 h21, List.any_map]
    refine any_congr_mem (fun i hi => ?_)
    cases i with
    | digit => exact isDigit_eq_asciiDigit (hd (List.any_eq_true.2 ⟨_, hi, rfl⟩))
    | _ => rfl
  unfold CClass.contains
  rw [hneg, hitems]

/-- the same for all characters of a text, in the form the pattern theorems state their `\d` hypothesis -/
theorem contains_eq_spec {C S : CClass} {spec : Char → Bool} (hsame : sameClass C S = true)
    (hS : ∀ c, S.contains c = spec c) {s : List Char}
    (hdg : DigitOk C s) : ∀ c ∈ s, C.contains c = spec c :=
  fun c hc => (contains_eq_of_sameClass hsame c (fun hu hdc => hdg hu c hc hdc)).trans (hS c)

/-! the classes the source is meant to use, each with the predicate of `Model/UriSpec.lean` it denotes -/

def asciiStrictClass : CClass := ⟨false, [.range '0' '9', .range 'a' 'z', .ch '_']⟩
def looseClass : CClass := ⟨true, [.space, .ch '.', .ch '#']⟩
def lowerClass : CClass := ⟨false, [.range 'a' 'z']⟩
def alphaClass : CClass := ⟨false, [.range 'A' 'Z', .range 'a' 'z']⟩
def realmClass : CClass :=
  ⟨false, [.range 'A' 'Z', .range 'a' 'z', .range '0' '9', .ch '_', .ch '-', .ch '@', .ch '.']⟩
def hexClass : CClass := ⟨false, [.range 'A' 'F', .range 'a' 'f', .range '0' '9']⟩
def ensCharClass : CClass := ⟨false, [.range 'a' 'z', .range '0' '9', .ch '_', .ch '-', .ch '@', .ch '.']⟩

theorem asciiStrictClass_contains (c : Char) : asciiStrictClass.contains c = strictChar c := by
  simp [asciiStrictClass, CClass.contains, CItem.contains, strictChar, asciiDigit, lowerChar, Bool.or_assoc]

theorem looseClass_contains (c : Char) : looseClass.contains c = looseChar c := by
  simp [looseClass, CClass.contains, CItem.contains, looseChar, Bool.and_assoc]

theorem lowerClass_contains (c : Char) : lowerClass.contains c = lowerChar c := by
  simp [lowerClass, CClass.contains, CItem.contains, lowerChar]

theorem alphaClass_contains (c : Char) : alphaClass.contains c = alphaChar c := by
  simp [alphaClass, CClass.contains, CItem.contains, alphaChar, upperChar, lowerChar]

theorem realmClass_contains (c : Char) : realmClass.contains c = realmChar c := by
  simp [realmClass, CClass.contains, CItem.contains, realmChar, alphaChar, upperChar, lowerChar, asciiDigit,
    punctChar, Bool.or_assoc]

theorem hexClass_contains (c : Char) : hexClass.contains c = hexChar c := by
  simp [hexClass, CClass.contains, CItem.contains, hexChar, asciiDigit, Bool.or_assoc]

theorem ensCharClass_contains (c : Char) : ensCharClass.contains c = ensChar c := by
  simp [ensCharClass, CClass.contains, CItem.contains, ensChar, lowerChar, asciiDigit, punctChar, Bool.or_assoc]

example : (⟨false, [.ch '_', .digit, .range 'a' 'z']⟩ : CClass).contains 'q' = strictChar 'q' :=
  (contains_eq_of_sameClass (S := asciiStrictClass) (by decide +kernel) 'q' (fun _ _ => by decide +kernel)).trans
    (asciiStrictClass_contains 'q')

example : (⟨true, [.ch '#', .space, .ch '.', .ch '#']⟩ : CClass).contains 'é' = looseChar 'é' :=
  (contains_eq_of_sameClass (S := looseClass) (by decide +kernel) 'é' (fun h => absurd h (by decide +kernel))).trans
    (looseClass_contains 'é')

/-- both anchors at once: `$` adds the texts that are accepted once a final "\n" is dropped -/
theorem matches_eq (p : Pat) (s : List Char) :
    p.matches s = (p.body.matchesFull s ||
      (decide (p.anchor = .dollar) && (s.getLast? == some '\n') && p.body.matchesFull s.dropLast)) := by
  unfold Pat.matches
  cases p.anchor with
  | absEnd => rw [decide_eq_false (fun h => nomatch h), Bool.false_and, Bool.false_and, Bool.or_false]
  | dollar => rw [decide_eq_true rfl, Bool.true_and]

theorem matches_of_no_trailing_newline {p : Pat} {s : List Char}
    (h : p.anchor = .dollar → s.getLast? ≠ some '\n') : p.matches s = p.body.matchesFull s := by
  rw [matches_eq]
  by_cases ha : p.anchor = .dollar
  · rw [beq_eq_false_iff_ne.2 (h ha), Bool.and_false, Bool.false_and, Bool.or_false]
  · rw [decide_eq_false ha, Bool.false_and, Bool.false_and, Bool.or_false]

/-- a pattern whose body denotes `spec` accepts exactly `spec`, on texts without a trailing newline (or with `\Z`) -/
theorem matches_eq_of_lang {p : Pat} {spec : List Char → Bool} {s : List Char}
    (hnl : p.anchor = .dollar → s.getLast? ≠ some '\n') (hlang : Rx.Lang p.body s ↔ spec s = true) :
    p.matches s = spec s := by
  rw [matches_of_no_trailing_newline hnl, matchesFull_eq_of_lang hlang]

/-- `^(C+\.)*(C+)\Z` etc. *is* the generic grammar over `C`, for every class without '.' and every text -/
theorem uriShape_pattern_correct (md : Mode) (C : CClass) (hdot : C.contains '.' = false) (s : List Char) :
    (⟨uriShape md C, .absEnd⟩ : Pat).matches s = Spec.okWith C.contains md s :=
  matches_eq_of_lang (fun h => nomatch h) (lang_uriShape md C hdot s)

/-- with `C = [0-9a-z_]` it *is* the strict grammar, for every text -/
theorem fixed_strict_pattern_correct (md : Mode) (s : List Char) :
    (⟨uriShape md asciiStrictClass, .absEnd⟩ : Pat).matches s = Spec.okWith strictChar md s := by
  rw [← okWith_congr md (fun c _ => asciiStrictClass_contains c)]
  exact uriShape_pattern_correct md _ (by decide) s

/-- with `C = [^\s.#]` and `\Z` it *is* the loose grammar, for every text -/
theorem fixed_loose_pattern_correct (md : Mode) (s : List Char) :
    (⟨uriShape md looseClass, .absEnd⟩ : Pat).matches s = Spec.okWith looseChar md s := by
  rw [← okWith_congr md (fun c _ => looseClass_contains c)]
  exact uriShape_pattern_correct md _ (by decide) s

def classes : Rx → List CClass
  | .eps => []
  | .cls C => [C]
  | .seq a b => classes a ++ classes b
  | .alt a b => classes a ++ classes b
  | .star a => classes a
  | .plus a => classes a
  | .opt a => classes a
  | .rep a _ _ => classes a

def nthClass (r : Rx) (i : Nat) : CClass := (classes r).getD i ⟨false, []⟩

/-- the component class of the selected URI pattern (whatever the source says it is) -/
def uriClass (strict ae ale : Bool) : CClass := nthClass (pat strict ae ale).body 0

/-- the class the source is meant to use -/
def uriSpecClass (strict : Bool) : CClass := if strict then asciiStrictClass else looseClass

theorem uriSpecClass_contains (strict : Bool) (c : Char) : (uriSpecClass strict).contains c = charPred strict c := by
  cases strict
  · exact looseClass_contains c
  · exact asciiStrictClass_contains c

theorem pat_shape (strict ae ale : Bool) :
    (pat strict ae ale).body = uriShape (mode ae ale) (uriClass strict ae ale) := by
  cases strict <;> cases ae <;> cases ale <;> rfl

theorem uriClass_noDot (strict ae ale : Bool) : (uriClass strict ae ale).contains '.' = false := by
  cases strict <;> cases ae <;> cases ale <;> decide

theorem uriClass_same (strict ae ale : Bool) : sameClass (uriClass strict ae ale) (uriSpecClass strict) = true := by
  cases strict <;> cases ae <;> cases ale <;> decide +kernel

theorem uriClass_loose_noDigit (ae ale : Bool) : (uriClass false ae ale).usesDigit = false := by
  cases ae <;> cases ale <;> decide

theorem strictChar_ascii {c : Char} (h : strictChar c = true) : c.toNat < 128 := by
  simp only [strictChar, asciiDigit, lowerChar, Bool.or_eq_true, Bool.and_eq_true, decide_eq_true_eq, char_le_iff,
    Char.reduceToNat] at h
  rcases h with (h | h) | rfl
  · omega
  · omega
  · decide

theorem body_matchesFull_eq_spec (strict ae ale : Bool) (s : List Char)
    (hdg : DigitOk (uriClass strict ae ale) s) :
    (pat strict ae ale).body.matchesFull s = Spec.ok strict ae ale s := by
  apply matchesFull_eq_of_lang
  rw [pat_shape, lang_uriShape _ _ (uriClass_noDot strict ae ale), Spec.ok,
    okWith_congr _ (contains_eq_spec (uriClass_same strict ae ale) (uriSpecClass_contains strict) hdg)]

/-- **full statement**; proved as `uri_equiv`, and it holds only if the generated pattern ends in `\Z` and, in strict
mode, its class has no `\d` (`not_uriEquiv_of_dollar`, `not_uriEquiv_of_digit`) -/
def UriEquiv (strict ae ale : Bool) : Prop :=
  ∀ s : List Char, check strict ae ale s = Spec.ok strict ae ale s

/-- **partial**: the generated pattern equals the intended grammar on every input that does not hit F2:
no trailing "\n" (needed only while the anchor is `$`) and no non-ASCII decimal digit (needed only while the
class mentions `\d`; never needed in loose mode). -/
theorem uri_equiv_guarded (strict ae ale : Bool) (s : List Char)
    (hnl : (pat strict ae ale).anchor = .dollar → s.getLast? ≠ some '\n')
    (hdg : DigitOk (uriClass strict ae ale) s) :
    check strict ae ale s = Spec.ok strict ae ale s := by
  unfold check
  rw [matches_of_no_trailing_newline hnl]
  exact body_matchesFull_eq_spec strict ae ale s hdg

example : check true false false (chs! "com.example.topic_1") = Spec.ok true false false (chs! "com.example.topic_1") :=
  uri_equiv_guarded true false false _ (by decide +kernel) (by decide +kernel)

example : check false true false (chs! "com..é٣.x") = Spec.ok false true false (chs! "com..é٣.x") :=
  uri_equiv_guarded false true false _ (by decide +kernel) (by intro h; revert h; decide)

/-- exact characterisation including the `$` quirk: with `$`, a text is accepted iff it, or it minus one trailing
"\n", is in the intended grammar (still up to non-ASCII `\d` digits). -/
theorem uri_check_exact (strict ae ale : Bool) (s : List Char)
    (hdg : (uriClass strict ae ale).usesDigit = true → ∀ c ∈ s, isDigit c = true → c.toNat < 128) :
    check strict ae ale s =
      (Spec.ok strict ae ale s ||
        (decide ((pat strict ae ale).anchor = .dollar) && (s.getLast? == some '\n') &&
          Spec.ok strict ae ale s.dropLast)) := by
  unfold check
  rw [matches_eq, body_matchesFull_eq_spec strict ae ale s hdg, body_matchesFull_eq_spec strict ae ale s.dropLast
    (fun hu c hc hdc => hdg hu c (List.dropLast_subset _ hc) hdc)]

example : check true false false (chs! "a.b") = true ∧ check true false false (chs! "a..b") = false := by
  rw [uri_check_exact true false false _ (by decide +kernel), uri_check_exact true false false _ (by decide +kernel)]; decide +kernel

theorem okWith_mono {P P' : Char → Bool} (hP : ∀ c, P c = true → P' c = true) {md : Mode} {s : List Char}
    (h : Spec.okWith P md s = true) : Spec.okWith P' md s = true := by
  unfold Spec.okWith at h ⊢
  simp only [all_splitDot, Bool.and_eq_true, List.all_eq_true, Bool.or_eq_true] at h ⊢
  exact ⟨fun c hc => (h.1 c hc).imp_right (hP c), h.2⟩

/-- **completeness, no hypotheses**: every text of the intended grammar is accepted by the generated pattern
(F2 only ever makes the implementation accept *more*). -/
theorem uri_complete (strict ae ale : Bool) (s : List Char) (h : Spec.ok strict ae ale s = true) :
    check strict ae ale s = true := by
  have hb : (pat strict ae ale).body.matchesFull s = true := by
    rw [matchesFull_iff, pat_shape, lang_uriShape _ _ (uriClass_noDot strict ae ale)]
    refine okWith_mono (fun c hc => ?_) h
    rw [contains_eq_of_sameClass (uriClass_same strict ae ale) c, uriSpecClass_contains, hc]
    intro hu _
    cases strict with
    | false => rw [uriClass_loose_noDigit] at hu; cases hu
    | true => exact strictChar_ascii hc
  unfold check
  rw [matches_eq, hb, Bool.true_or]

/-- **soundness up to F2, no hypotheses on the text**: an accepted text is in the grammar, or ends in "\n" while
the anchor is `$`, or contains a non-ASCII decimal digit while the class mentions `\d` -/
theorem uri_sound_up_to_f2 (strict ae ale : Bool) (s : List Char) (h : check strict ae ale s = true) :
    Spec.ok strict ae ale s = true ∨
      ((pat strict ae ale).anchor = .dollar ∧ s.getLast? = some '\n') ∨
      ((uriClass strict ae ale).usesDigit = true ∧ ∃ c ∈ s, isDigit c = true ∧ 128 ≤ c.toNat) := by
  by_cases hnl : (pat strict ae ale).anchor = .dollar → s.getLast? ≠ some '\n'
  · by_cases hdg : DigitOk (uriClass strict ae ale) s
    · rw [uri_equiv_guarded strict ae ale s hnl hdg] at h
      exact .inl h
    · simp only [DigitOk, Classical.not_imp, Classical.not_forall, Nat.not_lt] at hdg
      exact .inr (.inr hdg)
  · simp only [Classical.not_imp, Classical.not_not] at hnl
    exact .inr (.inl hnl)

example : check false false true (chs! "com.myapp.") = true := uri_complete false false true _ (by decide +kernel)

/-- with `\Z` and no `\d` in the generated pattern the full statement holds -/
theorem uriEquiv_of_fixed (strict ae ale : Bool) (ha : (pat strict ae ale).anchor = .absEnd)
    (hu : (uriClass strict ae ale).usesDigit = false) : UriEquiv strict ae ale := by
  intro s
  apply uri_equiv_guarded
  · intro h; rw [ha] at h; cases h
  · intro h; rw [hu] at h; cases h

/-- loose mode needs only the anchor fix -/
theorem uriEquiv_loose_of_absEnd (ae ale : Bool) (ha : (pat false ae ale).anchor = .absEnd) :
    UriEquiv false ae ale :=
  uriEquiv_of_fixed false ae ale ha (uriClass_loose_noDigit ae ale)

/-! ### F2 witnesses

Each is guarded by what the generated pattern says (`anchor = .dollar`, `usesDigit`), so it holds before and after the
repair; together with `uriEquiv_of_fixed` they say that the two source defects are exactly what breaks the equivalence. -/

/-- F2a: while the anchor is `$`, "a.b\n" is accepted by every one of the six patterns, against the grammar -/
theorem f2_trailing_newline_witness (strict ae ale : Bool) :
    (pat strict ae ale).anchor = .dollar →
      check strict ae ale (chs! "a.b\n") = true ∧ Spec.ok strict ae ale (chs! "a.b\n") = false := by
  cases strict <;> cases ae <;> cases ale <;> decide

/-- F2b: while the strict class mentions `\d`, "a.٣" (ARABIC-INDIC DIGIT THREE) is accepted in strict mode -/
theorem f2_unicode_digit_witness (ae ale : Bool) :
    (uriClass true ae ale).usesDigit = true →
      check true ae ale ['a', '.', '٣'] = true ∧ Spec.ok true ae ale ['a', '.', '٣'] = false := by
  cases ae <;> cases ale <;> decide

theorem not_uriEquiv_of_dollar (strict ae ale : Bool) (h : (pat strict ae ale).anchor = .dollar) :
    ¬ UriEquiv strict ae ale :=
  not_forall_eq_of_witness (f2_trailing_newline_witness strict ae ale h)

theorem not_uriEquiv_of_digit (ae ale : Bool) (h : (uriClass true ae ale).usesDigit = true) :
    ¬ UriEquiv true ae ale :=
  not_forall_eq_of_witness (f2_unicode_digit_witness ae ale h)

/-! ## `_CUSTOM_ATTRIBUTE` — intended: "x_" optionally followed by `[a-z][0-9a-z_]+` -/

/-- AST shape of `^x_(A C+)?$` -/
def caShape (A C : CClass) : Rx := litThen ['x', '_'] (.opt (.seq (.cls A) (.plus (.cls C))))

theorem lang_caShape (A C : CClass) (s : List Char) :
    Rx.Lang (caShape A C) s ↔ CustomAttr.Spec.okWith A.contains C.contains s = true := by
  unfold caShape
  rw [lang_litThen]
  constructor
  · rintro ⟨t, rfl, ht⟩
    rcases lang_opt.1 ht with rfl | ht
    · simp [CustomAttr.Spec.okWith]
    · obtain ⟨c, cs, rfl, hc, hcs⟩ := lang_cls_seq.1 ht
      obtain ⟨h1, h2⟩ := lang_plus_cls.1 hcs
      simp only [List.cons_append, List.nil_append, CustomAttr.Spec.okWith, decide_true, Bool.true_and, hc, h2,
        Bool.and_true, Bool.not_eq_true', List.isEmpty_eq_false_iff]
      exact h1
  · intro h
    match s, h with
    | a :: b :: tl, h =>
      simp only [CustomAttr.Spec.okWith, Bool.and_eq_true, decide_eq_true_eq] at h
      obtain ⟨⟨rfl, rfl⟩, h3⟩ := h
      refine ⟨tl, rfl, ?_⟩
      match tl, h3 with
      | [], _ => exact lang_opt.2 (.inl rfl)
      | c :: cs, h3 =>
        simp only [Bool.and_eq_true, Bool.not_eq_true', List.isEmpty_eq_false_iff] at h3
        exact lang_opt.2 (.inr (lang_cls_seq.2 ⟨c, cs, rfl, h3.1.1, lang_plus_cls.2 ⟨h3.1.2, h3.2⟩⟩))

theorem ca_okWith_congr {A A' C C' : Char → Bool} {s : List Char}
    (hA : ∀ c ∈ s, A c = A' c) (hC : ∀ c ∈ s, C c = C' c) :
    CustomAttr.Spec.okWith A C s = CustomAttr.Spec.okWith A' C' s := by
  match s with
  | [] => rfl
  | [_] => rfl
  | [_, _] => rfl
  | a :: b :: c :: cs =>
    have h1 : A c = A' c := hA c (by simp)
    have h2 : cs.all C = cs.all C' := all_congr_mem (fun x hx => hC x (by simp [hx]))
    simp only [CustomAttr.Spec.okWith, h1, h2]

def caFirst : CClass := nthClass _CUSTOM_ATTRIBUTE.body 2
def caRest : CClass := nthClass _CUSTOM_ATTRIBUTE.body 3

theorem ca_shape : _CUSTOM_ATTRIBUTE.body = caShape caFirst caRest := rfl
theorem caFirst_same : sameClass caFirst lowerClass = true := by decide +kernel
theorem caRest_same : sameClass caRest asciiStrictClass = true := by decide +kernel

/-- **full statement**; proved as `custom_attr_equiv` (with `$` or `\d` it fails: "x_\n", "x_a٣") -/
def CustomAttrEquiv : Prop := ∀ s : List Char, customAttr s = CustomAttr.Spec.ok s

/-- **partial**: equal on every input without trailing "\n" (while `$`) and without non-ASCII digit (while `\d`) -/
theorem custom_attr_equiv_guarded (s : List Char)
    (hnl : _CUSTOM_ATTRIBUTE.anchor = .dollar → s.getLast? ≠ some '\n')
    (hdg : DigitOk caRest s) :
    customAttr s = CustomAttr.Spec.ok s := by
  refine matches_eq_of_lang hnl ?_
  rw [ca_shape, lang_caShape, CustomAttr.Spec.ok, ca_okWith_congr
    (contains_eq_spec caFirst_same lowerClass_contains (fun h => absurd h (by decide)))
    (contains_eq_spec caRest_same asciiStrictClass_contains hdg)]

example : customAttr (chs! "x_my_attr1") = CustomAttr.Spec.ok (chs! "x_my_attr1") :=
  custom_attr_equiv_guarded _ (by decide +kernel) (by decide +kernel)

theorem f2_custom_attr_newline_witness : _CUSTOM_ATTRIBUTE.anchor = .dollar →
    customAttr (chs! "x_\n") = true ∧ CustomAttr.Spec.ok (chs! "x_\n") = false := by decide

theorem f2_custom_attr_digit_witness : caRest.usesDigit = true →
    customAttr ['x', '_', 'a', '٣'] = true ∧ CustomAttr.Spec.ok ['x', '_', 'a', '٣'] = false := by decide

theorem not_customAttrEquiv_of_dollar (h : _CUSTOM_ATTRIBUTE.anchor = .dollar) : ¬ CustomAttrEquiv :=
  not_forall_eq_of_witness (f2_custom_attr_newline_witness h)

/-! ## realm names

### standalone: a letter then 2..254 of `[A-Za-z0-9_\-@.]` -/

theorem lang_nameShape (A B : CClass) (s : List Char) :
    Rx.Lang (.seq (.cls A) (.rep (.cls B) 2 254)) s ↔ Realm.Spec.nameWith A.contains B.contains s = true := by
  cases s <;> simp [lang_cls_seq, lang_rep_cls, Realm.Spec.nameWith, and_assoc]

theorem nameWith_congr {A A' B B' : Char → Bool} {s : List Char}
    (hA : ∀ c ∈ s, A c = A' c) (hB : ∀ c ∈ s, B c = B' c) :
    Realm.Spec.nameWith A B s = Realm.Spec.nameWith A' B' s := by
  match s with
  | [] => rfl
  | c :: cs =>
    have h1 : A c = A' c := hA c (by simp)
    have h2 : cs.all B = cs.all B' := all_congr_mem (fun x hx => hB x (by simp [hx]))
    simp only [Realm.Spec.nameWith, h1, h2]

def nameFirst : CClass := nthClass _URI_PAT_REALM_NAME.body 0
def nameRest : CClass := nthClass _URI_PAT_REALM_NAME.body 1

theorem name_shape : _URI_PAT_REALM_NAME.body = .seq (.cls nameFirst) (.rep (.cls nameRest) 2 254) := rfl
theorem nameFirst_same : sameClass nameFirst alphaClass = true := by decide +kernel
theorem nameRest_same : sameClass nameRest realmClass = true := by decide +kernel

/-- **full statement**; proved as `realm_name_equiv` (with `$` or `\d` it fails: "abc\n", "ab٣") -/
def RealmNameEquiv : Prop := ∀ s : List Char, realmName s = Realm.Spec.name s

theorem realm_name_equiv_guarded (s : List Char)
    (hnl : _URI_PAT_REALM_NAME.anchor = .dollar → s.getLast? ≠ some '\n')
    (hdg : DigitOk nameRest s) :
    realmName s = Realm.Spec.name s := by
  refine matches_eq_of_lang hnl ?_
  rw [name_shape, lang_nameShape, Realm.Spec.name, nameWith_congr
    (contains_eq_spec nameFirst_same alphaClass_contains (fun h => absurd h (by decide)))
    (contains_eq_spec nameRest_same realmClass_contains hdg)]

example : realmName (chs! "realm-1.example@x") = Realm.Spec.name (chs! "realm-1.example@x") :=
  realm_name_equiv_guarded _ (by decide +kernel) (by decide +kernel)

theorem f2_realm_name_newline_witness : _URI_PAT_REALM_NAME.anchor = .dollar →
    realmName (chs! "abc\n") = true ∧ Realm.Spec.name (chs! "abc\n") = false := by decide

theorem f2_realm_name_digit_witness : nameRest.usesDigit = true →
    realmName ['a', 'b', '٣'] = true ∧ Realm.Spec.name ['a', 'b', '٣'] = false := by decide

/-! ### Ethereum address: "0x" + 40 hex digits -/

theorem lang_ethShape (H : CClass) (s : List Char) :
    Rx.Lang (litThen ['0', 'x'] (.rep (.cls H) 40 40)) s ↔ Realm.Spec.ethWith H.contains s = true := by
  simp only [lang_litThen_rep_cls, Realm.Spec.ethWith, Bool.and_eq_true, decide_eq_true_eq, and_assoc,
    List.length_cons, List.length_nil, Nat.reduceAdd]
  constructor
  · rintro ⟨h1, h2, h3, h4⟩
    exact ⟨h1, Nat.le_antisymm h3 h2, h4⟩
  · rintro ⟨h1, h2, h3⟩
    exact ⟨h1, Nat.le_of_eq h2.symm, Nat.le_of_eq h2, h3⟩

theorem ethWith_congr {H H' : Char → Bool} {s : List Char} (hH : ∀ c ∈ s, H c = H' c) :
    Realm.Spec.ethWith H s = Realm.Spec.ethWith H' s := by
  have : (s.drop 2).all H = (s.drop 2).all H' := all_congr_mem (fun x hx => hH x (List.mem_of_mem_drop hx))
  simp only [Realm.Spec.ethWith, this]

def ethHex : CClass := nthClass _URI_PAT_REALM_NAME_ETH.body 2

theorem eth_shape : _URI_PAT_REALM_NAME_ETH.body = litThen ['0', 'x'] (.rep (.cls ethHex) 40 40) := rfl
theorem ethHex_same : sameClass ethHex hexClass = true := by decide +kernel

/-- **full statement**; proved as `realm_eth_equiv` -/
def RealmEthEquiv : Prop := ∀ s : List Char, realmEth s = Realm.Spec.eth s

theorem realm_eth_equiv_guarded (s : List Char)
    (hnl : _URI_PAT_REALM_NAME_ETH.anchor = .dollar → s.getLast? ≠ some '\n')
    (hdg : DigitOk ethHex s) :
    realmEth s = Realm.Spec.eth s := by
  refine matches_eq_of_lang hnl ?_
  rw [eth_shape, lang_ethShape, Realm.Spec.eth, ethWith_congr (contains_eq_spec ethHex_same hexClass_contains hdg)]

example : realmEth (chs! "0x52908400098527886E0F7030069857D2E4169EE7")
    = Realm.Spec.eth (chs! "0x52908400098527886E0F7030069857D2E4169EE7") :=
  realm_eth_equiv_guarded _ (by decide +kernel) (by decide +kernel)

theorem f2_realm_eth_newline_witness : _URI_PAT_REALM_NAME_ETH.anchor = .dollar →
    realmEth (chs! "0x52908400098527886E0F7030069857D2E4169EE7\n") = true ∧
      Realm.Spec.eth (chs! "0x52908400098527886E0F7030069857D2E4169EE7\n") = false := by decide +kernel

theorem f2_realm_eth_digit_witness : ethHex.usesDigit = true →
    realmEth (chs! "0x52908400098527886E0F7030069857D2E4169EE٣") = true ∧
      Realm.Spec.eth (chs! "0x52908400098527886E0F7030069857D2E4169EE٣") = false := by decide +kernel

/-! ### ENS name: 2..250 of `[a-z0-9_\-@.]` then ".eth"; reverse: "eth." then 2..250 of the same -/

/-- the tail ".eth" is right-nested like every concatenation, so its last character is the innermost `lit` -/
theorem lang_ensShape (E : CClass) (s : List Char) :
    Rx.Lang (.seq (.rep (.cls E) 2 250) (litThen ['.', 'e', 't'] (lit 'h'))) s ↔
      Realm.Spec.ensWith E.contains s = true := by
  have htail : ∀ w, Rx.Lang (litThen ['.', 'e', 't'] (lit 'h')) w ↔ w = ['.', 'e', 't', 'h'] := fun w => by
    simp [lang_litThen, lang_lit]
  simp only [lang_seq, htail, Realm.Spec.ensWith, Bool.and_eq_true, decide_eq_true_eq, and_assoc]
  constructor
  · rintro ⟨body, _, rfl, hbody, rfl⟩
    have hl : (body ++ ['.', 'e', 't', 'h']).length - 4 = body.length := by
      simp only [List.length_append, List.length_cons, List.length_nil]
      omega
    rw [hl, List.drop_left' rfl, List.take_left' rfl]
    exact ⟨rfl, lang_rep_cls.1 hbody⟩
  · rintro ⟨htl, hbody⟩
    exact ⟨_, _, (List.take_append_drop (s.length - 4) s).symm, lang_rep_cls.2 hbody, htl⟩

theorem ensWith_congr {P P' : Char → Bool} {s : List Char} (h : ∀ c ∈ s, P c = P' c) :
    Realm.Spec.ensWith P s = Realm.Spec.ensWith P' s := by
  have : (s.take (s.length - 4)).all P = (s.take (s.length - 4)).all P' :=
    all_congr_mem (fun x hx => h x (List.mem_of_mem_take hx))
  simp only [Realm.Spec.ensWith, this]

theorem lang_ensRevShape (E : CClass) (s : List Char) :
    Rx.Lang (litThen ['e', 't', 'h', '.'] (.rep (.cls E) 2 250)) s ↔
      Realm.Spec.ensReverseWith E.contains s = true := by
  simp only [lang_litThen_rep_cls, Realm.Spec.ensReverseWith, Bool.and_eq_true, decide_eq_true_eq, and_assoc,
    List.length_cons, List.length_nil, Nat.reduceAdd]

theorem ensReverseWith_congr {P P' : Char → Bool} {s : List Char} (h : ∀ c ∈ s, P c = P' c) :
    Realm.Spec.ensReverseWith P s = Realm.Spec.ensReverseWith P' s := by
  have : (s.drop 4).all P = (s.drop 4).all P' := all_congr_mem (fun x hx => h x (List.mem_of_mem_drop hx))
  simp only [Realm.Spec.ensReverseWith, this]

def ensClass : CClass := nthClass _URI_PAT_REALM_NAME_ENS.body 0
def ensRevClass : CClass := nthClass _URI_PAT_REALM_NAME_ENS_REVERSE.body 4

theorem ens_shape :
    _URI_PAT_REALM_NAME_ENS.body = .seq (.rep (.cls ensClass) 2 250) (litThen ['.', 'e', 't'] (lit 'h')) := rfl
theorem ensRev_shape :
    _URI_PAT_REALM_NAME_ENS_REVERSE.body = litThen ['e', 't', 'h', '.'] (.rep (.cls ensRevClass) 2 250) := rfl
theorem ensClass_same : sameClass ensClass ensCharClass = true := by decide +kernel
theorem ensRevClass_same : sameClass ensRevClass ensCharClass = true := by decide +kernel

/-- **full statements**; proved as `realm_ens_equiv`, `realm_ens_reverse_equiv` -/
def RealmEnsEquiv : Prop := ∀ s : List Char, realmEns s = Realm.Spec.ens s
def RealmEnsReverseEquiv : Prop := ∀ s : List Char, realmEnsReverse s = Realm.Spec.ensReverse s

theorem realm_ens_equiv_guarded (s : List Char)
    (hnl : _URI_PAT_REALM_NAME_ENS.anchor = .dollar → s.getLast? ≠ some '\n')
    (hdg : DigitOk ensClass s) :
    realmEns s = Realm.Spec.ens s := by
  refine matches_eq_of_lang hnl ?_
  rw [ens_shape, lang_ensShape, Realm.Spec.ens,
    ensWith_congr (contains_eq_spec ensClass_same ensCharClass_contains hdg)]

theorem realm_ens_reverse_equiv_guarded (s : List Char)
    (hnl : _URI_PAT_REALM_NAME_ENS_REVERSE.anchor = .dollar → s.getLast? ≠ some '\n')
    (hdg : DigitOk ensRevClass s) :
    realmEnsReverse s = Realm.Spec.ensReverse s := by
  refine matches_eq_of_lang hnl ?_
  rw [ensRev_shape, lang_ensRevShape, Realm.Spec.ensReverse,
    ensReverseWith_congr (contains_eq_spec ensRevClass_same ensCharClass_contains hdg)]

example : realmEns (chs! "my-realm_1.eth") = Realm.Spec.ens (chs! "my-realm_1.eth") :=
  realm_ens_equiv_guarded _ (by decide +kernel) (by decide +kernel)

example : realmEnsReverse (chs! "eth.my-realm_1") = Realm.Spec.ensReverse (chs! "eth.my-realm_1") :=
  realm_ens_reverse_equiv_guarded _ (by decide +kernel) (by decide +kernel)

theorem f2_realm_ens_newline_witness : _URI_PAT_REALM_NAME_ENS.anchor = .dollar →
    realmEns (chs! "ab.eth\n") = true ∧ Realm.Spec.ens (chs! "ab.eth\n") = false := by decide

theorem f2_realm_ens_digit_witness : ensClass.usesDigit = true →
    realmEns ['a', '٣', '.', 'e', 't', 'h'] = true ∧ Realm.Spec.ens ['a', '٣', '.', 'e', 't', 'h'] = false := by
  decide

theorem f2_realm_ens_reverse_newline_witness : _URI_PAT_REALM_NAME_ENS_REVERSE.anchor = .dollar →
    realmEnsReverse (chs! "eth.ab\n") = true ∧ Realm.Spec.ensReverse (chs! "eth.ab\n") = false := by decide

theorem f2_realm_ens_reverse_digit_witness : ensRevClass.usesDigit = true →
    realmEnsReverse ['e', 't', 'h', '.', 'a', '٣'] = true ∧
      Realm.Spec.ensReverse ['e', 't', 'h', '.', 'a', '٣'] = false := by
  decide

/-! ## the full statements

The two hypotheses of the `*_guarded` theorems are vacuous for the generated patterns, which the evaluations below
check.  Re-introducing `$` or `\d` in message.py makes exactly these theorems fail to build. -/

/-- **check_or_raise_uri accepts exactly the intended URI grammar**, for every flag triple and every string -/
theorem uri_equiv (strict ae ale : Bool) : UriEquiv strict ae ale :=
  uriEquiv_of_fixed strict ae ale
    (by cases strict <;> cases ae <;> cases ale <;> rfl)
    (by cases strict <;> cases ae <;> cases ale <;> rfl)

theorem custom_attr_equiv : CustomAttrEquiv :=
  fun s => custom_attr_equiv_guarded s (fun h => absurd h (by decide)) (fun h => absurd h (by decide))

theorem realm_name_equiv : RealmNameEquiv :=
  fun s => realm_name_equiv_guarded s (fun h => absurd h (by decide)) (fun h => absurd h (by decide))

theorem realm_eth_equiv : RealmEthEquiv :=
  fun s => realm_eth_equiv_guarded s (fun h => absurd h (by decide)) (fun h => absurd h (by decide))

theorem realm_ens_equiv : RealmEnsEquiv :=
  fun s => realm_ens_equiv_guarded s (fun h => absurd h (by decide)) (fun h => absurd h (by decide))

theorem realm_ens_reverse_equiv : RealmEnsReverseEquiv :=
  fun s => realm_ens_reverse_equiv_guarded s (fun h => absurd h (by decide)) (fun h => absurd h (by decide))

end Abverif.Uri

import Abverif.Proofs.C01
import Abverif.Proofs.C15
/-
The sender's frame encoder against the judge: what `encodeFrame` writes is parsed by `judgeStep` as exactly the
frame that was encoded (header bits, length, key, payload).  Rests on two results about the pure functions, the length
codec (`lenCodec_roundtrip`, C01) and the involution of masking (`involutive`, C15).
-/
namespace Abverif.Ws
open Abverif.WsSpec

/-- an octet made of a top bit and seven low bits, taken apart again -/
theorem topBit_octet (b : Bool) (x : Nat) (hx : x < 128) :
    decide ((UInt8.ofNat ((if b then 128 else 0) + x)).toNat / 128 = 1) = b ∧
    (UInt8.ofNat ((if b then 128 else 0) + x)).toNat % 128 = x := by
  rw [UInt8.toNat_ofNat']
  cases b
  · simp only [Bool.false_eq_true, if_false, decide_eq_false_iff_not]; omega
  · simp only [if_true, decide_eq_true_eq]; omega

theorem ofOctets_b0_b1 (fin masked : Bool) (rsv opcode l7 : Nat) (hr : rsv < 8) (ho : opcode < 16) (hl : l7 < 128) :
    Hd.ofOctets (b0 fin rsv opcode) (b1 masked l7) =
      { fin := fin, rsv := rsv, opcode := opcode, masked := masked, len7 := l7 } := by
  have h0 := topBit_octet fin (rsv % 8 * 16 + opcode % 16) (by omega)
  have h1 := topBit_octet masked l7 hl
  rw [← Nat.add_assoc] at h0
  unfold Hd.ofOctets b0 b1
  rw [Hd.mk.injEq]
  -- reserved bits and opcode are read off the seven low bits `h0.2` gives
  exact ⟨h0.1, by omega, by omega, h1.1, h1.2⟩

theorem encodeFrame_len2 (fin : Bool) (rsv opcode : Nat) (key : Option Abverif.Xor.Key) (am : Bool) (pl raw : Bytes)
    (h : encodeFrame fin rsv opcode key am pl = some raw) : 2 ≤ raw.length := by
  unfold encodeFrame at h
  split at h
  · cases h
  · split at h <;> (cases h; simp)

/-- the sender's masking undone by the judge's unmasking -/
theorem unmask_mask (c : Ctx) (k : Abverif.Xor.Key) (am : Bool) (pl : Bytes) (ham : c.applyMask = am) :
    unmaskAvail c (some k) (if decide (pl.length > 0) && am then (Abverif.Xor.spec k 0 pl).1 else pl) = pl := by
  unfold unmaskAvail
  simp only [ham]
  cases am with
  | false => simp
  | true =>
    by_cases hp : pl.length > 0
    · simp only [hp, decide_true, Bool.and_true, if_true]
      exact Abverif.Xor.involutive k 0 pl
    · have : pl = [] := by
        cases pl with
        | nil => rfl
        | cons _ _ => simp at hp
      subst this
      simp [Abverif.Xor.spec, Abverif.Xor.specBytes]

/-- the judge reads the key as the engine does (`maskOf`): from the four octets behind the extended length -/
theorem Hd.key_maskOf (h : Hd) (rest2 : Bytes) : h.key rest2 = maskOf h.masked ((rest2.drop h.extN).take 4) := rfl

/-- `judgeStep` on a complete frame given in its parts (two octets, extended length, key octets, payload): the header test,
then `judgeControl` or `judgeData` on the unmasked payload -/
theorem judgeStep_frame (c : Ctx) (j : J) (h : Hd) (o0 o1 : UInt8) (el kb plm after : Bytes) (plen : Nat)
    (key : Option Abverif.Xor.Key)
    (hh : Hd.ofOctets o0 o1 = h)
    (hext : el.length = h.extN) (hkn : kb.length = h.keyN)
    (hplen : h.plen (el ++ kb ++ plm ++ after) = plen) (hok : extLenOk h.len7 plen = true)
    (hkey : h.key (el ++ kb ++ plm ++ after) = key) (hpl : plm.length = plen) :
    judgeStep c j (o0 :: o1 :: (el ++ kb ++ plm ++ after)) =
      (if !headerOk c j.inside h.fin h.rsv h.opcode h.masked h.len7
       then .done j.evs (.fail 1002) (o0 :: o1 :: (el ++ kb ++ plm ++ after)).length
       else if h.opcode ≥ 8 then
         judgeControl j (o0 :: o1 :: (el ++ kb ++ plm ++ after)).length h.opcode (unmaskAvail c key plm) after
       else judgeData c j (o0 :: o1 :: (el ++ kb ++ plm ++ after)).length h plen (unmaskAvail c key plm) true after) := by
  unfold judgeStep
  simp only [hh]
  by_cases hhok : headerOk c j.inside h.fin h.rsv h.opcode h.masked h.len7 = true
  · simp only [hhok, Bool.not_true, Bool.false_eq_true, if_false]
    have hlen : ¬ (el ++ kb ++ plm ++ after).length < h.extN + h.keyN := by
      simp only [List.length_append]; omega
    simp only [hlen, if_false, hplen, hok, Bool.not_true, Bool.false_eq_true, hkey]
    have hbody : (el ++ kb ++ plm ++ after).drop (h.extN + h.keyN) = plm ++ after := by
      rw [← hext, ← hkn, ← List.length_append, List.append_assoc (el ++ kb), List.drop_left]
    rw [hbody]
    have htake : (plm ++ after).take plen = plm := by rw [← hpl, List.take_left]
    have hdrop : (plm ++ after).drop plen = after := by rw [← hpl, List.drop_left]
    have hcomp : (plm ++ after).length ≥ plen := by simp only [List.length_append]; omega
    rw [htake, hdrop]
    simp only [hcomp, decide_true, Bool.not_true, Bool.false_eq_true, if_false]
  · have : headerOk c j.inside h.fin h.rsv h.opcode h.masked h.len7 = false := by simpa using hhok
    simp only [this, Bool.not_false, if_true]

/-- what `encodeFrame` writes, the judge reads back: header bits, length, key and payload -/
theorem judgeStep_encodeFrame (c : Ctx) (j : J) (fin : Bool) (rsv opcode : Nat) (key : Option Abverif.Xor.Key)
    (am : Bool) (pl raw after : Bytes) (hr : rsv < 8) (ho : opcode < 16)
    (henc : encodeFrame fin rsv opcode key am pl = some raw) (ham : c.applyMask = am) :
    ∃ l7 el, encodeLen pl.length = some (l7, el) ∧
      judgeStep c j (raw ++ after) =
        (if !headerOk c j.inside fin rsv opcode key.isSome l7
         then .done j.evs (.fail 1002) (raw ++ after).length
         else if opcode ≥ 8 then judgeControl j (raw ++ after).length opcode pl after
         else judgeData c j (raw ++ after).length
           { fin := fin, rsv := rsv, opcode := opcode, masked := key.isSome, len7 := l7 } pl.length pl true after) := by
  unfold encodeFrame at henc
  cases hel : encodeLen pl.length with
  | none => rw [hel] at henc; cases henc
  | some p =>
    obtain ⟨l7, el⟩ := p
    rw [hel] at henc
    obtain ⟨hdec, hminimal, hl7, hextlen⟩ := lenCodec_roundtrip pl.length l7 el hel
    refine ⟨l7, el, rfl, ?_⟩
    -- masked or not, the frame is: two octets, extended length, key octets, payload as sent
    obtain ⟨kb, plm, hraw, hkn, hkey, hpl, hun⟩ : ∃ kb plm : Bytes,
        raw = b0 fin rsv opcode :: b1 key.isSome l7 :: (el ++ kb ++ plm) ∧ kb.length = (if key.isSome then 4 else 0) ∧
        (∀ rest, maskOf key.isSome ((kb ++ rest).take 4) = key) ∧
        plm.length = pl.length ∧ unmaskAvail c key plm = pl := by
      cases key with
      | some k =>
        cases henc
        refine ⟨Key.bytes k, if (decide (pl.length > 0) && am) = true then (Abverif.Xor.spec k 0 pl).1 else pl,
          by simp [List.append_assoc], rfl, fun rest => rfl, ?_, unmask_mask c k am pl ham⟩
        split
        · exact Abverif.Xor.spec_length k 0 pl
        · rfl
      | none =>
        cases henc
        exact ⟨[], pl, by simp, rfl, fun rest => rfl, rfl, rfl⟩
    have hfr := judgeStep_frame c j { fin := fin, rsv := rsv, opcode := opcode, masked := key.isSome, len7 := l7 }
      (b0 fin rsv opcode) (b1 key.isSome l7) el kb plm after pl.length key
      (ofOctets_b0_b1 fin key.isSome rsv opcode l7 hr ho hl7) (by simp only [Hd.extN]; exact hextlen) hkn
      (by
        simp only [Hd.plen, Hd.extN]
        rw [← hextlen, List.append_assoc, List.append_assoc, List.take_left]
        exact hdec)
      hminimal
      (by
        simp only [Hd.key_maskOf, Hd.extN]
        rw [← hextlen, List.append_assoc, List.append_assoc, List.drop_left]
        exact hkey _)
      hpl
    rw [hraw, List.cons_append, List.cons_append, hfr, hun]

end Abverif.Ws

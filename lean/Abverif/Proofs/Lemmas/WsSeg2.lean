import Abverif.Proofs.Lemmas.WsSeg
/-
One turn of `processData` and the loop around it, on `buf` and on `buf ++ b`: a payload chunk consumed in two pieces
(`consume_append`); the checks of the header and the payload step as equations; the turn in normal form for every
tail behind the octets buffered (`headerStep_tail`, `processData_tail`); termination of the loop (`drain_fuel`); the
two runs compared (`processData_seg`, `drain_seg`).  Where a lemma needs it, the endpoint fails by dropping
(`failByDrop = true`, the default of autobahn).
-/
namespace Abverif.Ws
open Abverif.WsSpec

/-- consuming the payload chunk `a ++ b` of a frame in one call has the same effect as consuming `a` and
then `b` — same state when nothing fails; when UTF-8 validation of a data frame fails (in either order of discovery)
both runs end CLOSED with the same log -/
theorem consume_append (s : S) (h : Hdr) (a b : Bytes) (ha : a ≠ [])
    (hf : s.cfg.failByDrop = true) (hst : s.st ≠ .closed) :
    ((consume s h a).2 = false →
        (consume s h (a ++ b)).2 = false ∧ DeadSim (consume s h a).1 (consume s h (a ++ b)).1) ∧
    ((consume s h a).2 = true →
        (consume (consume s h a).1 h b).2 = (consume s h (a ++ b)).2 ∧
        ((consume s h (a ++ b)).2 = true → (consume (consume s h a).1 h b).1 = (consume s h (a ++ b)).1) ∧
        ((consume s h (a ++ b)).2 = false → DeadSim (consume (consume s h a).1 h b).1 (consume s h (a ++ b)).1)) := by
  by_cases hc : h.opcode > 7
  · rw [← consume_append_control s h a b hc, consume_control s h a hc, consume_control _ h b hc]
    exact ⟨nofun, fun _ => ⟨rfl, fun _ => rfl, nofun⟩⟩
  · -- a data frame: each call is `consume_data`, and the whole is rejected iff the first chunk is or the second behind it
    have hub : unmaskChunk (afterChunk s a.length (unmaskChunk s h a)) h b
        = unmaskChunk { s with ptr := s.ptr + a.length } h b := unmaskChunk_congr _ _ _ _ rfl rfl
    have hrej := rejects_append s a.length (unmaskChunk s h a) (unmaskChunk { s with ptr := s.ptr + a.length } h b)
      (unmaskChunk_ne_nil s h a ha)
    rw [← unmaskChunk_append] at hrej
    rw [consume_data s h a hc hf, consume_data s h (a ++ b) hc hf, hrej]
    have dab := consume_rejected s h (a ++ b) hf hst
    cases (s.utf8On && !s.msgCompressed && utf8Bad s (unmaskChunk s h a))
    · -- the first chunk passes
      rw [if_neg Bool.false_ne_true, Bool.false_or]
      refine ⟨nofun, fun _ => ?_⟩
      dsimp only
      rw [consume_data (afterChunk s a.length (unmaskChunk s h a)) h b hc hf, hub]
      generalize ((afterChunk s a.length (unmaskChunk s h a)).utf8On && _ && _) = second
      cases second
      · rw [if_neg Bool.false_ne_true, if_neg Bool.false_ne_true, afterChunk_append, unmaskChunk_append,
          List.length_append]
        exact ⟨rfl, fun _ => rfl, nofun⟩
      · rw [if_pos rfl, if_pos rfl]
        have db := consume_rejected (afterChunk s a.length (unmaskChunk s h a)) h b hf hst
        exact ⟨rfl, nofun, fun _ => Dropped.deadSim (s := s) ⟨db.st, db.log, db.lost, db.failed⟩ dab⟩
    · -- the first chunk is rejected, and so is the whole
      rw [if_pos rfl, Bool.true_or, if_pos rfl]
      exact ⟨fun _ => ⟨rfl, (consume_rejected s h a hf hst).deadSim dab⟩, nofun⟩

/-! ### the checks of the receive path on an endpoint that fails by dropping: pass, or fail the connection and stop -/

theorem applyViolations_eq (s : S) (vs : List HV) (hf : s.cfg.failByDrop = true) :
    applyViolations s vs = if vs = [] then (s, false) else (failConnection s 1002, true) := by
  cases vs with
  | nil => rfl
  | cons v vs => unfold applyViolations; rw [violation_eq s 1002 hf]; rfl

theorem endMessageStep_eq (s : S) (hf : s.cfg.failByDrop = true) :
    endMessageStep s =
      if s.utf8On && !s.msgCompressed && !s.utf8Ends then (failConnection s 1007, false)
      else (resetMessage (deliverMessage s), true) := by
  unfold endMessageStep
  rw [violation_eq s 1007 hf]
  cases (s.utf8On && !s.msgCompressed && !s.utf8Ends) <;> rfl

theorem onFrameEnd_control (s : S) (h : Hdr) (hc : h.opcode > 7) :
    onFrameEnd s h = ({ processControlFrame s h with cur := none }, true) := by
  unfold onFrameEnd; rw [if_pos hc]

theorem onFrameEnd_data (s : S) (h : Hdr) (hd : ¬ h.opcode > 7) :
    onFrameEnd s h = if h.fin then endMessageStep (endDataFrame s) else ({ endDataFrame s with cur := none }, true) := by
  unfold onFrameEnd; rw [if_neg hd]

theorem onFrameEnd_fbd (s : S) (h : Hdr) (hf : s.cfg.failByDrop = true) :
    ((onFrameEnd s h).2 = true ∧ (onFrameEnd s h).1.cur = none) ∨
    ((onFrameEnd s h).2 = false ∧ (onFrameEnd s h).1.st = .closed) := by
  by_cases hc : h.opcode > 7
  · rw [onFrameEnd_control s h hc]
    exact Or.inl ⟨rfl, rfl⟩
  · rw [onFrameEnd_data s h hc]
    cases h.fin
    · exact Or.inl ⟨rfl, rfl⟩
    · have hf' : (endDataFrame s).cfg.failByDrop = true := by rw [(Ext.recv.endDataFrame s).cfg]; exact hf
      rw [if_pos rfl, endMessageStep_eq _ hf']
      split
      · exact Or.inr ⟨rfl, failConnection_st _ 1007 hf'⟩
      · exact Or.inl ⟨rfl, rfl⟩

/-! ### the receive-side frame fields through the begin of a frame -/

theorem failConnection_recv (s : S) (code : Nat) :
    (failConnection s code).ptr = s.ptr ∧ (failConnection s code).cur = s.cur := by
  have h := failConnection_CloseEq s code
  unfold CloseEq at h
  constructor <;> rw [h]

theorem onMessageFrameBegin_recv (s : S) (n : Nat) :
    (onMessageFrameBegin s n).ptr = s.ptr ∧ (onMessageFrameBegin s n).cur = s.cur := by
  unfold onMessageFrameBegin
  simp only [apply_ite S.ptr, apply_ite S.cur, failConnection_recv, ite_self, and_self]

theorem onFrameBegin_recv (s : S) (h : Hdr) :
    (onFrameBegin s h).ptr = s.ptr ∧ (onFrameBegin s h).cur = s.cur := by
  unfold onFrameBegin
  split
  · exact ⟨rfl, rfl⟩
  · simp only
    split
    · split
      · exact onMessageFrameBegin_recv _ _
      · exact onMessageFrameBegin_recv _ _
    · exact onMessageFrameBegin_recv _ _

theorem headerLen_ge2 (m : Bool) (len7 : Nat) : 2 ≤ headerLen m len7 := by
  unfold headerLen; omega

/-! ### the header step (`headerStep`, Lemmas/WsFrame.lean) in its four cases, each under the condition the judge tests -/

/-- a violated rule of the cascade, under fail-by-drop: the same verdict for every buffer, also one that does not
hold the whole header (without fail-by-drop the incomplete header stays buffered and is judged again: F6) -/
theorem headerStep_viol (s : S) (h : Hd) (buf : Bytes) (hf : s.cfg.failByDrop = true)
    (hv : headerViolations s.cfg s.insideMessage h.fin h.rsv h.opcode h.masked h.len7 ≠ []) :
    headerStep s h buf = (failConnection s 1002, buf, false) := by
  simp only [headerStep, applyViolations_eq s _ hf, if_neg hv, if_true]

theorem headerStep_short (s : S) (h : Hd) (buf : Bytes)
    (hv : headerViolations s.cfg s.insideMessage h.fin h.rsv h.opcode h.masked h.len7 = [])
    (hlen : buf.length < headerLen h.masked h.len7) : headerStep s h buf = (s, buf, false) := by
  simp only [headerStep, hv, applyViolations, Bool.false_eq_true, if_false, Nat.not_le.mpr hlen]

theorem headerStep_extbad (s : S) (h : Hd) (buf : Bytes) (hf : s.cfg.failByDrop = true)
    (hv : headerViolations s.cfg s.insideMessage h.fin h.rsv h.opcode h.masked h.len7 = [])
    (hlen : headerLen h.masked h.len7 ≤ buf.length)
    (hext : extLenOk h.len7 (hdrRec h (buf.drop 2)).length = false) :
    headerStep s h buf = (failConnection s 1002, buf, false) := by
  simp only [headerStep, hv, applyViolations, Bool.false_eq_true, if_false, hlen, extLenStep_eq, hext,
    violation_eq s 1002 hf, if_true]

theorem headerStep_run (s : S) (h : Hd) (buf : Bytes)
    (hv : headerViolations s.cfg s.insideMessage h.fin h.rsv h.opcode h.masked h.len7 = [])
    (hlen : headerLen h.masked h.len7 ≤ buf.length)
    (hext : extLenOk h.len7 (hdrRec h (buf.drop 2)).length = true) :
    headerStep s h buf =
      (onFrameBegin { s with cur := some (hdrRec h (buf.drop 2)), ptr := 0,
                             unmask := h.masked && (hdrRec h (buf.drop 2)).length > 0 && s.cfg.applyMask }
          (hdrRec h (buf.drop 2)),
        buf.drop (headerLen h.masked h.len7),
        (hdrRec h (buf.drop 2)).length = 0 || (buf.drop (headerLen h.masked h.len7)).length > 0) := by
  simp only [headerStep, hv, applyViolations, Bool.false_eq_true, if_false, hlen, extLenStep_eq, hext, if_true]

/-! ### the header step depends only on the header octets -/

theorem hdrRec_append (h : Hd) (buf b : Bytes) (hlen : headerLen h.masked h.len7 ≤ buf.length) :
    hdrRec h ((buf ++ b).drop 2) = hdrRec h (buf.drop 2) := by
  rw [headerLen_hd] at hlen
  have e : (buf ++ b).drop 2 = buf.drop 2 ++ b := List.drop_append_of_le_length (by omega)
  have hx : h.extN ≤ (buf.drop 2).length := by rw [List.length_drop]; omega
  unfold hdrRec Hd.plen Hd.key
  rw [e, List.take_append_of_le_length hx]
  cases hm : h.masked with
  | false => rfl
  | true =>
    have hk : 4 ≤ ((buf.drop 2).drop h.extN).length := by
      unfold Hd.keyN at hlen; rw [hm] at hlen; simp only [List.length_drop]; simp only [if_true] at hlen; omega
    rw [List.drop_append_of_le_length hx, List.take_append_of_le_length hk]

/-- what the header step does on `buf` (`eq`) and on every longer buffer `buf ++ tl` (`tail`), for an endpoint that
fails by dropping -/
inductive HeaderCase (s : S) (h : Hd) (buf : Bytes) : Prop
  /-- a rule of the cascade, or (the header all there) of the extended length, is violated: the connection is failed
  (`closed`), nothing is consumed, the loop stops.  `tail`: the verdict is the same whatever is buffered; this is what
  fail-by-drop buys: an endpoint that answers with a close frame goes on after a violation, leaves an incomplete
  header in the buffer and judges it again in the next read (F6). -/
  | dead (x : S) (closed : x.st = .closed) (eq : headerStep s h buf = (x, buf, false))
      (tail : ∀ tl, headerStep s h (buf ++ tl) = (x, buf ++ tl, false))
  /-- the header is legal so far and not all there (`lt`): nothing happens.  No `tail`: a longer buffer may complete the
  header, and then any case applies. -/
  | short (lt : buf.length < headerLen h.masked h.len7) (eq : headerStep s h buf = (s, buf, false))
  /-- the header is all there (`len`) and legal: `x` is `s` after `onFrameBegin`, inside the new frame (`cur`) at
  pointer 0 (`ptr`); the octets behind the header are left; the loop is asked to go on iff the frame is empty or
  octets are left.  `x` may be CLOSED: a frame or message over the size limit is failed (1009) inside `onFrameBegin`,
  and it is the loop's own test of the state that stops it then. -/
  | run (x : S) (len : headerLen h.masked h.len7 ≤ buf.length) (ptr : x.ptr = 0)
      (cur : x.cur = some (hdrRec h (buf.drop 2)))
      (eq : headerStep s h buf = (x, buf.drop (headerLen h.masked h.len7),
        decide ((hdrRec h (buf.drop 2)).length = 0) || decide ((buf.drop (headerLen h.masked h.len7)).length > 0)))
      (tail : ∀ tl, headerStep s h (buf ++ tl) = (x, buf.drop (headerLen h.masked h.len7) ++ tl,
        decide ((hdrRec h (buf.drop 2)).length = 0)
          || decide ((buf.drop (headerLen h.masked h.len7) ++ tl).length > 0)))

theorem headerStep_tail (s : S) (h : Hd) (buf : Bytes) (hf : s.cfg.failByDrop = true) : HeaderCase s h buf := by
  have hcl := failConnection_st s 1002 hf
  by_cases hv : headerViolations s.cfg s.insideMessage h.fin h.rsv h.opcode h.masked h.len7 = []
  · by_cases hlen : headerLen h.masked h.len7 ≤ buf.length
    · have hlen' : ∀ tl, headerLen h.masked h.len7 ≤ (buf ++ tl).length := fun tl => by
        rw [List.length_append]; omega
      cases hext : extLenOk h.len7 (hdrRec h (buf.drop 2)).length with
      | true =>
        have hr := onFrameBegin_recv
          { s with cur := some (hdrRec h (buf.drop 2)), ptr := 0,
                   unmask := h.masked && (hdrRec h (buf.drop 2)).length > 0 && s.cfg.applyMask }
          (hdrRec h (buf.drop 2))
        refine .run _ hlen hr.1 hr.2 (headerStep_run s h buf hv hlen hext) fun tl => ?_
        rw [headerStep_run s h (buf ++ tl) hv (hlen' tl) (by rw [hdrRec_append h buf tl hlen]; exact hext),
          hdrRec_append h buf tl hlen, List.drop_append_of_le_length hlen]
      | false =>
        exact .dead _ hcl (headerStep_extbad s h buf hf hv hlen hext) fun tl =>
          headerStep_extbad s h (buf ++ tl) hf hv (hlen' tl) (by rw [hdrRec_append h buf tl hlen]; exact hext)
    · exact .short (by omega) (headerStep_short s h buf hv (by omega))
  · exact .dead _ hcl (headerStep_viol s h buf hf hv) fun tl => headerStep_viol s h (buf ++ tl) hf hv

/-- with the whole header buffered, more octets behind it change nothing but the rest buffer -/
theorem processHeader_seg (s : S) (o0 o1 : UInt8) (buf b : Bytes) (hf : s.cfg.failByDrop = true) (hb : b ≠ []) :
    ((processHeader s o0 o1 (buf ++ b)).1 = (processHeader s o0 o1 buf).1 ∧
      (processHeader s o0 o1 (buf ++ b)).2.1 = (processHeader s o0 o1 buf).2.1 ++ b ∧
      (processHeader s o0 o1 (buf ++ b)).2.2 = true) ∨
    ((processHeader s o0 o1 buf).1.st = .closed ∧ (processHeader s o0 o1 (buf ++ b)).1 = (processHeader s o0 o1 buf).1) ∨
    (processHeader s o0 o1 buf = (s, buf, false)) := by
  rw [processHeader_eq, processHeader_eq]
  cases headerStep_tail s (Hd.ofOctets o0 o1) buf hf with
  | dead x hcl e etl =>
    rw [etl b, e]
    exact Or.inr (Or.inl ⟨hcl, rfl⟩)
  | short _ e => exact Or.inr (Or.inr e)
  | run x _ _ _ e etl =>
    rw [etl b, e]
    refine Or.inl ⟨rfl, rfl, ?_⟩
    have : 0 < b.length := List.length_pos_iff.mpr hb
    simp only [List.length_append, Bool.or_eq_true, decide_eq_true_eq]
    right; omega

/-! ### the payload step -/

/-- what `processPayload` does once the chunk has been consumed -/
def finishPayload (C : S × Bool) (h : Hdr) (restbuf : Bytes) : S × Bytes × Bool :=
  if !C.2 then (C.1, restbuf, false) else
  let r2 := if C.1.ptr = h.length then onFrameEnd C.1 h else (C.1, true)
  if !r2.2 then (r2.1, restbuf, false) else (r2.1, restbuf, restbuf.length > 0)

theorem processPayload_finish (s : S) (h : Hdr) (buf : Bytes) :
    processPayload s h buf = finishPayload (consume s h (buf.take (h.length - s.ptr))) h (buf.drop (h.length - s.ptr)) := rfl

theorem finishPayload_false (C : S × Bool) (h : Hdr) (rb : Bytes) (hC : C.2 = false) :
    finishPayload C h rb = (C.1, rb, false) := by
  unfold finishPayload; simp [hC]

theorem finishPayload_end (C : S × Bool) (h : Hdr) (rb : Bytes) (hC : C.2 = true) (hp : C.1.ptr = h.length) :
    finishPayload C h rb = ((onFrameEnd C.1 h).1, rb, (onFrameEnd C.1 h).2 && decide (rb.length > 0)) := by
  unfold finishPayload
  cases h2 : (onFrameEnd C.1 h).2 <;> simp [hC, hp, h2]

theorem finishPayload_wait (C : S × Bool) (h : Hdr) (rb : Bytes) (hC : C.2 = true) (hp : C.1.ptr ≠ h.length) :
    finishPayload C h rb = (C.1, rb, decide (rb.length > 0)) := by
  unfold finishPayload; simp [hC, hp]

theorem processData_none (s : S) (o0 o1 : UInt8) (rest2 : Bytes) (hc : s.cur = none) :
    processData s (o0 :: o1 :: rest2) = processHeader s o0 o1 (o0 :: o1 :: rest2) := by
  unfold processData; simp [hc]

theorem processData_some (s : S) (h : Hdr) (buf : Bytes) (hc : s.cur = some h) :
    processData s buf = processPayload s h buf := by
  unfold processData; simp [hc]

theorem processData_short (s : S) (buf : Bytes) (hc : s.cur = none) (hl : buf.length < 2) :
    processData s buf = (s, buf, false) := by
  unfold processData
  match buf, hl with
  | [], _ => simp [hc]
  | [_], _ => simp [hc]

/-! ### one turn of `processData` in normal form; progress, `WF` and `NE` read off it -/

/-- the frame pointer never passes the declared payload length -/
def WF (s : S) : Prop := ∀ h, s.cur = some h → s.ptr ≤ h.length

/-- termination measure of the `processData` loop -/
def mu (s : S) (buf : Bytes) : Nat := 2 * buf.length + (if s.cur.isSome then 1 else 0)

/-- a read never hands over an empty buffer in the middle of a frame's payload -/
def NE (s : S) (buf : Bytes) : Prop := buf = [] → ∀ h, s.cur = some h → h.length ≤ s.ptr

/-- what one turn of `processData` does on `buf` (`eq`) and on every longer buffer `buf ++ tl` (`tail`), for an endpoint
that fails by dropping, from a state with the frame pointer inside the frame.  `dead` and `whole` are decided by the
octets buffered: the turn on a longer buffer is the same turn with the tail left behind.  In the two starved cases a
header or a payload is not all there, the read stops, and what a longer buffer does is another matter
(`processData_resume`); hence no `tail` there. -/
inductive TurnCase (s : S) (buf : Bytes) : Prop
  /-- a check fails on a header (`HeaderCase.dead`), or on the rest of a frame that is all there: the validator rejects
  its last chunk, or a text message ends inside a code point.  The connection is failed (`closed`) and the loop
  stops; `r` is what was not consumed. -/
  | dead (x : S) (r : Bytes) (closed : x.st = .closed) (eq : processData s buf = (x, r, false))
      (tail : ∀ tl, processData s (buf ++ tl) = (x, r ++ tl, false))
  /-- a header (`HeaderCase.run`), or the rest of a frame's payload with the frame's end, is taken in and `r` is left.
  `wf`: the frame pointer of `x` is inside its frame; `mu_lt`: the turn made progress in the loop's measure; the loop
  is asked to go on iff octets are left or the frame just started is empty (`z`; `x` is then not inside a payload:
  `done`).  `x` may be CLOSED — a frame over the size limit (1009 at its header), or a close frame that ends the
  connection — and then it is the loop's own test of the state that stops it. -/
  | whole (x : S) (r : Bytes) (z : Bool) (wf : WF x) (mu_lt : mu x r < mu s buf)
      (done : z = true → ∀ h, x.cur = some h → h.length ≤ x.ptr)
      (eq : processData s buf = (x, r, z || decide (r.length > 0)))
      (tail : ∀ tl, processData s (buf ++ tl) = (x, r ++ tl, z || decide ((r ++ tl).length > 0)))
  /-- outside a frame with fewer octets than the header has (`HeaderCase.short`, or fewer than two): nothing happens -/
  | starvedHeader (eq : processData s buf = (s, buf, false))
  /-- inside the frame `h` (`cur`) with fewer octets than it still needs (`lt`): all of them are consumed and the read
  stops.  `wf`: the validator rejected the chunk and the connection is failed, or the frame pointer is still inside
  the frame. -/
  | starvedPayload (h : Hdr) (cur : s.cur = some h) (lt : buf.length < h.length - s.ptr)
      (eq : processData s buf = ((consume s h buf).1, [], false))
      (wf : (consume s h buf).1.st = .closed ∨ WF (consume s h buf).1)

theorem processData_tail (s : S) (buf : Bytes) (hwf : WF s) (hf : s.cfg.failByDrop = true) : TurnCase s buf := by
  cases hcur : s.cur with
  | none =>
    match buf with
    | [] => exact .starvedHeader (processData_short s [] hcur (by simp))
    | [x] => exact .starvedHeader (processData_short s [x] hcur (by simp))
    | o0 :: o1 :: t =>
      have e : ∀ t', processData s (o0 :: o1 :: t') = headerStep s (Hd.ofOctets o0 o1) (o0 :: o1 :: t') :=
        fun t' => (processData_none s o0 o1 t' hcur).trans (processHeader_eq ..)
      cases headerStep_tail s (Hd.ofOctets o0 o1) (o0 :: o1 :: t) hf with
      | dead x hcl e' etl => exact .dead x _ hcl ((e t).trans e') fun tl => (e (t ++ tl)).trans (etl tl)
      | short _ e' => exact .starvedHeader ((e t).trans e')
      | run x hlen hp hc e' etl =>
        -- the frame starts at pointer 0, behind a header of at least two octets
        refine .whole x _ _ (fun _ _ => by rw [hp]; exact Nat.zero_le _) ?_ (fun hz h' hcx => ?_) ((e t).trans e')
          fun tl => (e (t ++ tl)).trans (etl tl)
        · have h2 := headerLen_ge2 (Hd.ofOctets o0 o1).masked (Hd.ofOctets o0 o1).len7
          unfold mu
          rw [hcur, List.length_drop]
          split <;> simp only [Option.isSome_none, Bool.false_eq_true, if_false] <;> omega
        · rw [hc] at hcx
          cases hcx
          rw [hp]; exact Nat.le_of_eq (of_decide_eq_true hz)
  | some h =>
    have hptr := hwf h hcur
    have e0 : processData s buf =
        finishPayload (consume s h (buf.take (h.length - s.ptr))) h (buf.drop (h.length - s.ptr)) :=
      (processData_some s h buf hcur).trans (processPayload_finish ..)
    by_cases hlen : h.length - s.ptr ≤ buf.length
    · -- the rest of the frame is there: its end is reached
      have e : ∀ tl, processData s (buf ++ tl) =
          finishPayload (consume s h (buf.take (h.length - s.ptr))) h (buf.drop (h.length - s.ptr) ++ tl) := fun tl => by
        rw [processData_some s h _ hcur, processPayload_finish, List.take_append_of_le_length hlen,
          List.drop_append_of_le_length hlen]
      rcases consume_fbd s h (buf.take (h.length - s.ptr)) hf with ⟨hC, hp, _, _, hcfg, _⟩ | ⟨hC, hcl⟩
      · have hend : (consume s h (buf.take (h.length - s.ptr))).1.ptr = h.length := by
          rw [hp, List.length_take]; omega
        have fin := fun rb => finishPayload_end _ h rb hC hend
        rcases onFrameEnd_fbd (consume s h (buf.take (h.length - s.ptr))).1 h (by rw [hcfg]; exact hf) with
          ⟨h2, hnone⟩ | ⟨h2, hcl⟩ <;> rw [h2] at fin
        · refine .whole _ _ false (fun h' hh => ?_) ?_ nofun (e0.trans (fin _)) fun tl => (e tl).trans (fin _)
          · rw [hnone] at hh; cases hh
          · unfold mu
            rw [hnone, hcur, List.length_drop]
            simp only [Option.isSome_none, Option.isSome_some, Bool.false_eq_true, if_false, if_true]
            omega
        · exact .dead _ _ hcl (e0.trans (fin _)) fun tl => (e tl).trans (fin _)
      · exact .dead _ _ hcl (e0.trans (finishPayload_false _ _ _ hC)) fun tl =>
          (e tl).trans (finishPayload_false _ _ _ hC)
    · -- the buffer ends inside the frame
      rw [List.take_of_length_le (by omega), List.drop_of_length_le (by omega)] at e0
      refine .starvedPayload h hcur (by omega) ?_ ?_
      all_goals rcases consume_fbd s h buf hf with ⟨hC, hp, hc, _, _, _⟩ | ⟨hC, hcl⟩
      · exact e0.trans (finishPayload_wait _ h [] hC (by rw [hp]; omega))
      · exact e0.trans (finishPayload_false _ _ _ hC)
      · refine Or.inr fun h' hh => ?_
        rw [hc, hcur] at hh
        cases hh
        rw [hp]; omega
      · exact Or.inl hcl

/-- a turn that asks for another one made progress, keeps the frame pointer inside the frame, and leaves no empty
buffer in the middle of a payload -/
theorem processData_true (s : S) (buf : Bytes) (hwf : WF s) (hf : s.cfg.failByDrop = true)
    (ht : (processData s buf).2.2 = true) :
    mu (processData s buf).1 (processData s buf).2.1 < mu s buf ∧ WF (processData s buf).1 ∧
    NE (processData s buf).1 (processData s buf).2.1 := by
  cases processData_tail s buf hwf hf with
  | dead _ _ _ e _ => rw [e] at ht; cases ht
  | whole x r z hw hmu hdone e _ =>
    rw [e] at ht ⊢
    refine ⟨hmu, hw, fun (hnil : r = []) => hdone ?_⟩
    rw [hnil] at ht
    simpa using ht
  | starvedHeader e => rw [e] at ht; cases ht
  | starvedPayload _ _ _ e _ => rw [e] at ht; cases ht

theorem processData_WF (s : S) (buf : Bytes) (hwf : WF s) (hf : s.cfg.failByDrop = true) :
    (processData s buf).1.st = .closed ∨ WF (processData s buf).1 := by
  cases processData_tail s buf hwf hf with
  | dead _ _ hcl e _ => rw [e]; exact Or.inl hcl
  | whole _ _ _ hw _ _ e _ => rw [e]; exact Or.inr hw
  | starvedHeader e => rw [e]; exact Or.inr hwf
  | starvedPayload _ _ _ e hw => rw [e]; exact hw

/-! ### the loop: it terminates (every turn that asks for another one makes progress), and keeps `WF` -/

theorem processData_cfg_fbd (s : S) (buf : Bytes) (hf : s.cfg.failByDrop = true) :
    (processData s buf).1.cfg.failByDrop = true := by
  rw [(Ext.recv.processData s buf).cfg]; exact hf

/-- once the peer's close frame has been taken in, the loop does nothing -/
theorem drain_wasClean (F : Nat) (s : S) (buf : Bytes) (h : s.wasClean = true) : drain F s buf = (s, buf) := by
  cases F with
  | zero => rfl
  | succ F => rw [drain]; simp [h]

theorem drain_one (F : Nat) (s : S) (buf : Bytes) (hwc : s.wasClean = false) :
    drain (F + 1) s buf =
      if (processData s buf).2.2 && decide ((processData s buf).1.st ≠ .closed)
      then drain F (processData s buf).1 (processData s buf).2.1
      else ((processData s buf).1, (processData s buf).2.1) := by
  rw [drain]; simp only [hwc, Bool.false_eq_true, if_false]

/-- termination of the `processData` loop: the iteration count is bounded by `mu`, so the fuel of `drain` is
never exhausted and its value does not matter -/
theorem drain_fuel (F F' : Nat) (s : S) (buf : Bytes) (hwf : WF s) (hf : s.cfg.failByDrop = true)
    (hst : s.st ≠ .closed) (h1 : mu s buf < F) (h2 : mu s buf < F') : drain F s buf = drain F' s buf := by
  induction F generalizing F' s buf with
  | zero => omega
  | succ F ih =>
    cases F' with
    | zero => omega
    | succ F' =>
      cases hwc : s.wasClean with
      | true => rw [drain_wasClean _ s buf hwc, drain_wasClean _ s buf hwc]
      | false =>
        rw [drain_one F s buf hwc, drain_one F' s buf hwc]
        split
        · rename_i hgo
          simp only [Bool.and_eq_true, decide_eq_true_eq] at hgo
          have hp := processData_true s buf hwf hf hgo.1
          exact ih F' _ _ hp.2.1 (processData_cfg_fbd s buf hf) hgo.2 (by omega) (by omega)
        · rfl

/-- one turn of the loop, the fuel forgotten: what is left of it is enough, and how much does not matter -/
theorem drain_turn (F : Nat) (s : S) (buf : Bytes) (hwf : WF s) (hf : s.cfg.failByDrop = true)
    (hwc : s.wasClean = false) (hF : mu s buf < F) :
    drain F s buf =
      if (processData s buf).2.2 && decide ((processData s buf).1.st ≠ .closed)
      then drain (mu (processData s buf).1 (processData s buf).2.1 + 1) (processData s buf).1 (processData s buf).2.1
      else ((processData s buf).1, (processData s buf).2.1) := by
  cases F with
  | zero => omega
  | succ F =>
    rw [drain_one F s buf hwc]
    split
    · rename_i hgo
      simp only [Bool.and_eq_true, decide_eq_true_eq] at hgo
      have hT := processData_true s buf hwf hf hgo.1
      exact drain_fuel _ _ _ _ hT.2.1 (processData_cfg_fbd s buf hf) hgo.2 (by omega) (Nat.lt_succ_self _)
    · rfl

theorem drain_WF (F : Nat) (s : S) (buf : Bytes) (hwf : WF s) (hf : s.cfg.failByDrop = true) :
    (drain F s buf).1.st = .closed ∨ WF (drain F s buf).1 := by
  induction F generalizing s buf with
  | zero => exact Or.inr hwf
  | succ F ih =>
    cases hwc : s.wasClean with
    | true => rw [drain_wasClean _ s buf hwc]; exact Or.inr hwf
    | false =>
      rw [drain_one F s buf hwc]
      have hw := processData_WF s buf hwf hf
      split
      · rename_i hgo
        simp only [Bool.and_eq_true, decide_eq_true_eq] at hgo
        exact ih _ _ (hw.resolve_left hgo.2) (processData_cfg_fbd s buf hf)
      · exact hw

/-! ### one `processData` step on `buf` versus on `buf ++ b` -/

/-- only a part of the frame's payload is buffered: going on with `b` from where that part has been consumed gives
what the single read of `buf ++ b` gives -/
theorem processData_resume (s : S) (h : Hdr) (buf b : Bytes) (hcur : s.cur = some h)
    (hf : s.cfg.failByDrop = true) (hst : s.st ≠ .closed) (hbuf : buf ≠ [])
    (hlen : buf.length < h.length - s.ptr) :
    ((consume s h buf).2 = false → DeadSim (consume s h buf).1 (processData s (buf ++ b)).1) ∧
    ((consume s h buf).2 = true →
      processData (consume s h buf).1 b = processData s (buf ++ b) ∨
        DeadSim (processData (consume s h buf).1 b).1 (processData s (buf ++ b)).1) := by
  rw [processData_some s h _ hcur, processPayload_finish, List.take_append, List.drop_append,
    List.take_of_length_le (Nat.le_of_lt hlen), List.drop_of_length_le (Nat.le_of_lt hlen), List.nil_append]
  have LB := consume_append s h buf (b.take (h.length - s.ptr - buf.length)) hbuf hf hst
  refine ⟨fun hC => ?_, fun hC => ?_⟩
  · rw [finishPayload_false _ _ _ (LB.1 hC).1]
    exact (LB.1 hC).2
  · obtain ⟨hp, hc⟩ : (consume s h buf).1.ptr = s.ptr + buf.length ∧ (consume s h buf).1.cur = s.cur := by
      rcases consume_fbd s h buf hf with ⟨_, hp, hc, _⟩ | ⟨hC', _⟩
      · exact ⟨hp, hc⟩
      · rw [hC] at hC'; cases hC'
    rw [processData_some _ h b (hc.trans hcur), processPayload_finish, hp, Nat.sub_add_eq]
    have LB := LB.2 hC
    cases hW : (consume s h (buf ++ b.take (h.length - s.ptr - buf.length))).2
    · rw [finishPayload_false _ _ _ (LB.1.trans hW), finishPayload_false _ _ _ hW]
      exact Or.inr (LB.2.2 hW)
    · rw [show consume (consume s h buf).1 h (b.take (h.length - s.ptr - buf.length))
        = consume s h (buf ++ b.take (h.length - s.ptr - buf.length)) from Prod.ext (LB.2.1 hW) LB.1]
      exact Or.inl rfl

/-- one step, two buffers: what `processData` does on `buf` compared with `buf ++ b`:
(P) the same, with `b` left behind in the rest buffer; (D) both close the connection with the same history;
(W) the short read waits for more, and going on from there with `b` meets the long read -/
theorem processData_seg (s : S) (buf b : Bytes) (hwf : WF s) (hf : s.cfg.failByDrop = true) (hst : s.st ≠ .closed)
    (hb : b ≠ []) (hne : NE s buf) :
    ((processData s (buf ++ b)).1 = (processData s buf).1 ∧
      (processData s (buf ++ b)).2.1 = (processData s buf).2.1 ++ b ∧ (processData s (buf ++ b)).2.2 = true) ∨
    ((processData s buf).1.st = .closed ∧ DeadSim (processData s buf).1 (processData s (buf ++ b)).1) ∨
    ((processData s buf).2.2 = false ∧ (processData s buf).1.st ≠ .closed ∧ WF (processData s buf).1 ∧
      (processData s buf).1.cfg = s.cfg ∧ (processData s buf).1.wasClean = s.wasClean ∧
      (processData (processData s buf).1 ((processData s buf).2.1 ++ b) = processData s (buf ++ b) ∨
        DeadSim (processData (processData s buf).1 ((processData s buf).2.1 ++ b)).1 (processData s (buf ++ b)).1)) := by
  cases processData_tail s buf hwf hf with
  | dead x r hcl e etl =>
    rw [etl b, e]
    exact Or.inr (Or.inl ⟨hcl, DeadSim.refl_of_closed _ hcl⟩)
  | whole x r z _ _ _ e etl =>
    rw [etl b, e]
    refine Or.inl ⟨rfl, rfl, ?_⟩
    have : 0 < b.length := List.length_pos_iff.mpr hb
    simp only [List.length_append, Bool.or_eq_true, decide_eq_true_eq]
    right; omega
  | starvedHeader e =>
    rw [e]
    exact Or.inr (Or.inr ⟨rfl, hst, hwf, rfl, rfl, Or.inl rfl⟩)
  | starvedPayload h hcur hlen e hw =>
    rw [e]
    have hbuf : buf ≠ [] := by
      intro hnil
      have := hne hnil h hcur
      rw [hnil] at hlen
      simp only [List.length_nil] at hlen
      omega
    have R := processData_resume s h buf b hcur hf hst hbuf hlen
    rcases consume_fbd s h buf hf with ⟨hC, _, _, hst', hcfg, hwc⟩ | ⟨hC, hcl⟩
    · have hl : (consume s h buf).1.st ≠ .closed := by rw [hst']; exact hst
      exact Or.inr (Or.inr ⟨rfl, hl, hw.resolve_left hl, hcfg, hwc, R.2 hC⟩)
    · exact Or.inr (Or.inl ⟨hcl, R.1 hC⟩)

/-! ### the loop on `buf`, then on the rest plus `b`, versus the loop on `buf ++ b` -/

/-- how the results of two runs of the loop are compared: the same state and rest buffer, or both connections failed
with the same history (the unread rests may then differ) -/
def SimR (x y : S × Bytes) : Prop := x = y ∨ DeadSim x.1 y.1

/-- two reads against one: the loop on `buf` (fuel `F1`), then, if the connection lives, the loop on what it left plus
`b` (fuel `F2`), ends where the loop on `buf ++ b` ends (fuel `F3`) — or both ways end with the connection failed and
the same history.  Each fuel is any number above the measure of its loop. -/
theorem drain_seg (F1 : Nat) : ∀ (s : S) (buf b : Bytes) (F3 : Nat), WF s → s.cfg.failByDrop = true →
    s.st ≠ .closed → b ≠ [] → NE s buf → mu s buf < F1 → mu s (buf ++ b) < F3 →
    ((drain F1 s buf).1.st = .closed → DeadSim (drain F1 s buf).1 (drain F3 s (buf ++ b)).1) ∧
    ((drain F1 s buf).1.st ≠ .closed → ∀ F2, mu (drain F1 s buf).1 ((drain F1 s buf).2 ++ b) < F2 →
      SimR (drain F2 (drain F1 s buf).1 ((drain F1 s buf).2 ++ b)) (drain F3 s (buf ++ b))) := by
  induction F1 with
  | zero => intro s buf b F3 _ _ _ _ _ h; omega
  | succ F1 ih =>
    intro s buf b F3 hwf hf hst hb hne hF1 hF3
    cases hwc : s.wasClean with
    | true =>
      -- the peer's close frame has been taken in: nothing is processed any more
      rw [drain_wasClean _ s buf hwc, drain_wasClean _ s (buf ++ b) hwc]
      exact ⟨fun hx => absurd hx hst, fun _ F2 _ => Or.inl (drain_wasClean F2 s (buf ++ b) hwc)⟩
    | false =>
      have hcfg := processData_cfg_fbd s buf hf
      -- both loops take their first turn; every loop but the short one has its fuel forgotten (`drain_turn`), so that
      -- no two fuels have to be matched below
      rw [drain_one F1 s buf hwc, drain_turn F3 s (buf ++ b) hwf hf hwc hF3]
      rcases processData_seg s buf b hwf hf hst hb hne with ⟨p1, p2, p3⟩ | ⟨d1, d2⟩ | ⟨w1, w2, w3, w4, wc, w5⟩
      · -- (P) the long run is where the short one is, with `b` behind the rest
        have hT := processData_true s (buf ++ b) hwf hf p3
        rw [p1, p2] at hT
        rw [p1, p2, p3]
        by_cases hcl : (processData s buf).1.st = .closed
        · simp only [hcl, ne_eq, not_true, decide_false, Bool.and_false, Bool.false_eq_true, if_false]
          exact ⟨fun _ => DeadSim.refl_of_closed _ hcl, False.elim⟩
        · simp only [hcl, ne_eq, not_false_eq_true, decide_true, Bool.and_true, if_true]
          cases hfl : (processData s buf).2.2
          · -- the short run stops here and is resumed: the long run's next turn
            refine ⟨fun hx => absurd hx hcl, fun _ F2 hF2 => Or.inl ?_⟩
            exact drain_fuel F2 _ _ _ hT.2.1 hcfg hcl hF2 (Nat.lt_succ_self _)
          · have hT1 := processData_true s buf hwf hf hfl
            exact ih _ _ b _ hT1.2.1 hcfg hcl hb hT1.2.2 (by omega) (Nat.lt_succ_self _)
      · -- (D) both stop
        simp only [d1, d2.closed_right, ne_eq, not_true, decide_false, Bool.and_false, Bool.false_eq_true, if_false]
        exact ⟨fun _ => d2, False.elim⟩
      · -- (W) the short run stops; resumed, it takes the turn the long run takes
        simp only [w1, Bool.false_and, Bool.false_eq_true, if_false]
        refine ⟨fun hx => absurd hx w2, fun _ F2 hF2 => ?_⟩
        rw [drain_turn F2 _ _ w3 (by rw [w4]; exact hf) (by rw [wc]; exact hwc) hF2]
        rcases w5 with e | d
        · rw [e]; exact Or.inl rfl
        · simp only [d.closed_left, d.closed_right, ne_eq, not_true, decide_false, Bool.and_false, Bool.false_eq_true, if_false]
          exact Or.inr d

end Abverif.Ws

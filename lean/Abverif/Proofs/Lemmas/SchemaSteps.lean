import Abverif.Proofs.Lemmas.SchemaRoles
/-
What the schema theorems (C03, C08) assume and what the steps of the parse model do.  First the hypotheses read as
propositions: well-formedness, strictness and the residual conditions field by field (`WfParts`, `StrictParts`,
`ResidualParts`; for the tail `TailOk` / `TailInv` with `argsShape`, and `TailResidualParts`), what well-formedness says
about the positions and the entries, and `Schema.noRoles`, the classes strictness is stated for.  Then what the
functions of the parser do.  `X_spec : Checks …` (the values it passes, and only the library's own errors otherwise) for
`checkId`, `checkUri`, `checkStr`, `encGet`, `encTripleGate`, `kwargsCheck`, a positional step (`PosStep.parse_spec`;
`PosStep.accepts` is what it passes) and the loops `parsePos`, `parseOpts`; `OTy.check_spec` is in SchemaOpts (`roles`
apart: SchemaRoles).  An option entry: `OptStep.parse_present` / `parse_absent_iff` / `parse_allowed`.  `ctorOpts` and
`ctorCross`: `_ok_iff` in SchemaBasics, `_errIn` in SchemaTotal.  Without a statement of their own: `checkExtra` (by
cases inside `PosStep.parse_spec`), `checkArgs`, `checkKwargs`, `argsPart`, `kwargsPart`; `parseTail` and the stages have
`_ok` in SchemaStrict, `_allowed` in SchemaTotal, `_marshal` in SchemaRoundTrip.
-/
namespace Abverif.Wamp
open Schema

/-- the classes without a `roles` entry (all but HELLO and WELCOME): the strictness theorem is stated for these.  For the
other two it is false in the model, not only unproved: HELLO's `parse` accepts
`[1,"realm1",{"roles":{"caller":{},"caller":{}}}]` and the result is not `strict`, because `rolesValid` asks for distinct
role names and a `Dict` is a list, which can repeat a key. -/
def Schema.noRoles (σ : Schema) : Bool := σ.opts.all (fun s => !s.ty.isRoles)

structure Schema.WfParts (σ : Schema) : Prop where
  names : nodup σ.fieldNames = true
  keys : nodup (σ.opts.map (·.key) ++ (if σ.tail.isSome then encKeys else [])) = true
  oneOpts : (σ.pos.filter PosStep.isOpts).length ≤ 1
  optsPresent : (σ.opts.isEmpty && σ.tail.isNone && !σ.custom) = true ∨ σ.optsPos.isSome = true
  optional : σ.optsOptional = false ∨ (σ.tail.isNone = true ∧ σ.optsPos = some σ.k ∧ σ.k ≥ 1)
  noCustomTail : (σ.custom && σ.tail.isSome) = false
  pos : ∀ p ∈ σ.pos, PosStep.wf σ p = true
  opts : ∀ s ∈ σ.opts, OptStep.wf s = true
  pcross : ∀ c ∈ σ.pcross, c ∈ σ.cross

theorem wf_parts {σ : Schema} (h : σ.wf = true) : σ.WfParts := by
  simp only [Schema.wf, Bool.and_eq_true, decide_eq_true_eq, Bool.or_eq_true, Bool.not_eq_true',
    List.all_eq_true, beq_iff_eq, List.contains_iff_mem] at h
  obtain ⟨⟨⟨⟨⟨⟨⟨⟨names, keys⟩, oneOpts⟩, optsPresent⟩, optional⟩, noCustomTail⟩, pos⟩, opts⟩, pcross⟩ := h
  refine ⟨names, keys, oneOpts, ?_, ?_, ?_, pos, opts, pcross⟩
  · simpa using optsPresent
  · rcases optional with h | ⟨⟨ha, hb⟩, hc⟩
    · exact Or.inl h
    · exact Or.inr ⟨ha, hb, hc⟩
  · simpa using noCustomTail

/-- REGISTER: the option that selects the URI flags is a typed entry of the schema, under its own name, an
enumeration of the `match` values whose default selects the plain flags -/
theorem uriByMatch_step {σ : Schema} (hwf : σ.wf = true) {f : Str} {op : Nat} {key : Str} {vals : List Str}
    (hp : PosStep.uriByMatch f op key vals ∈ σ.pos) :
    σ.optsPos = some op ∧ ∃ s ∈ σ.opts, s.key = key ∧ s.field = key ∧
      ∃ d, s.ty = .strEnum vals ∧ s.dflt = .str d ∧ matchFlags d = {} := by
  have hpw := (wf_parts hwf).pos _ hp
  simp only [PosStep.wf, Bool.and_eq_true, beq_iff_eq, List.any_eq_true] at hpw
  obtain ⟨hop, s, hs, ⟨hk, hf⟩, hty⟩ := hpw
  refine ⟨hop, s, hs, hk, hf, ?_⟩
  split at hty
  case h_2 => cases hty
  rename_i vs d d' hsty hsd hsm
  simp only [Bool.and_eq_true, beq_iff_eq] at hty
  obtain ⟨⟨⟨rfl, _⟩, hfl⟩, _⟩ := hty
  exact ⟨d, hsty, hsd, by simpa using hfl⟩

theorem opts_keys_nodup {σ : Schema} (h : σ.wf = true) : (σ.opts.map (·.key)).Nodup := by
  have := (wf_parts h).keys
  rw [nodup_iff] at this
  exact (List.nodup_append.mp this).1

theorem opts_keys_not_enc {σ : Schema} (h : σ.wf = true) (ht : σ.tail.isSome = true) {k : Str}
    (hk : k ∈ σ.opts.map (·.key)) : k ∉ encKeys := by
  have := (wf_parts h).keys
  rw [nodup_iff, ht] at this
  exact fun he => (List.nodup_append.mp this).2.2 k hk k he rfl

/-- the default of a well-formed entry is `None` or a string constant: it counts as a default -/
theorem OptStep.isDflt_dflt {s : OptStep} (hwf : OptStep.wf s = true) : isDflt s.dflt s.dflt = true := by
  simp only [OptStep.wf, Bool.and_eq_true] at hwf
  exact isDflt_self hwf.1.1

/-- only `roles` is required, and `roles` is written unconditionally -/
theorem OptStep.emits_of_required {s : OptStep} (hwf : OptStep.wf s = true) (hreq : s.required = true) (v : WVal) :
    s.mm.emits v = true := by
  simp only [OptStep.wf, hreq, Bool.and_eq_true] at hwf
  obtain ⟨⟨_, hty⟩, _⟩ := hwf
  cases hmm : s.mm with
  | always => rfl
  | _ =>
    rw [hmm] at hty
    generalize s.ty = ty at hty
    cases ty <;> cases hty

/-- WELCOME: no typed entry has a key that reads as a custom attribute -/
theorem wfO_key {σ : Schema} {O : Oracles} (h : σ.wfO O = true) (hc : σ.custom = true) {s : OptStep} (hs : s ∈ σ.opts) :
    O.customAttr s.key = false := by
  simp only [Schema.wfO, hc, Bool.not_true, Bool.false_or, List.all_eq_true, Bool.not_eq_true'] at h
  exact h s hs

structure Schema.StrictParts (σ : Schema) (O : Oracles) (m : Msg) : Prop where
  names : m.map (·.1) = σ.fieldNames
  pos : ∀ p ∈ σ.pos, PosStep.strict O m p = true
  opts : ∀ s ∈ σ.opts, OptStep.strict O m s = true
  tail : (match σ.tail with | some t => tailStrict O t m | none => true) = true
  custom : σ.custom = false ∨
    (match m.get cs!"custom" with | .dict c => c.all (fun kv => O.customAttr kv.1) | _ => false) = true

theorem strict_iff {σ : Schema} {O : Oracles} {m : Msg} : σ.strict O m = true ↔ σ.StrictParts O m := by
  simp only [Schema.strict, Bool.and_eq_true, List.all_eq_true, beq_iff_eq, Bool.or_eq_true, Bool.not_eq_true']
  exact ⟨fun ⟨⟨⟨⟨names, pos⟩, opts⟩, tail⟩, custom⟩ => ⟨names, pos, opts, tail, custom⟩,
    fun h => ⟨⟨⟨⟨h.names, h.pos⟩, h.opts⟩, h.tail⟩, h.custom⟩⟩

theorem strict_parts {σ : Schema} {O : Oracles} {m : Msg} (h : σ.strict O m = true) : σ.StrictParts O m :=
  strict_iff.mp h

structure Schema.ResidualParts (σ : Schema) (O : Oracles) (m : Msg) : Prop where
  opts : ∀ s ∈ σ.opts, OptStep.residual O σ m s = true
  tail : (match σ.tail with | some t => tailResidual t m | none => true) = true
  cross : ∀ c ∈ σ.cross, Cross.ok O m c = true

theorem residual_parts {σ : Schema} {O : Oracles} {m : Msg} (h : σ.residual O m = true) : σ.ResidualParts O m := by
  simp only [Schema.residual, Bool.and_eq_true, List.all_eq_true] at h
  obtain ⟨⟨h1, h2⟩, h3⟩ := h
  exact ⟨h1, h2, h3⟩

/-- WELCOME: the `custom` attribute is a dictionary of custom attributes -/
theorem custom_dict {σ : Schema} {O : Oracles} {m : Msg} (hst : σ.strict O m = true) (hc : σ.custom = true) :
    ∃ c, m.get cs!"custom" = .dict c ∧ c.all (fun kv => O.customAttr kv.1) = true := by
  rcases (strict_parts hst).custom with h | h
  · rw [hc] at h; cases h
  · split at h
    · exact ⟨_, by assumption, h⟩
    · cases h

/-- keys of the custom attributes written at the top level of WELCOME's details -/
theorem custom_keys {σ : Schema} {O : Oracles} {m : Msg} (hst : σ.strict O m = true) (hc : σ.custom = true) :
    ∀ k ∈ ((m.get cs!"custom").entries).map (·.1), O.customAttr k = true := by
  obtain ⟨c, hcd, hall⟩ := custom_dict hst hc
  intro k hk
  rw [hcd] at hk
  obtain ⟨kv, hkv, rfl⟩ := List.mem_map.mp hk
  exact List.all_eq_true.mp hall kv hkv

theorem optsOf_some {σ : Schema} {j : Nat} (h : σ.optsPos = some j) (w : List WVal) :
    σ.optsOf w = (w.getD j .null).entries := by
  unfold Schema.optsOf; rw [h]

theorem optsOf_none {σ : Schema} (h : σ.optsPos = none) (w : List WVal) : σ.optsOf w = [] := by
  unfold Schema.optsOf; rw [h]

theorem optsPos_eq_some {σ : Schema} {j : Nat} (h : σ.optsPos = some j) :
    ∃ i, j = i + 1 ∧ ∃ hi : i < σ.pos.length, σ.pos[i] = PosStep.opts := by
  unfold Schema.optsPos at h
  simp only at h
  split at h
  · rename_i hlt
    refine ⟨_, (Option.some.inj h).symm, hlt, ?_⟩
    have := List.findIdx_getElem (w := hlt)
    revert this
    cases σ.pos[List.findIdx (fun p => match p with | .opts => true | _ => false) σ.pos] <;> simp
  · simp at h

theorem pos_last_opts {σ : Schema} (hwf : σ.wf = true) (hopt : σ.optsOptional = true) :
    σ.pos = σ.pos.dropLast ++ [PosStep.opts] := by
  rcases (wf_parts hwf).optional with h0 | ⟨_, hk, hk1⟩
  · simp [hopt] at h0
  · obtain ⟨i, hi1, hi, hpi⟩ := optsPos_eq_some hk
    have hne : σ.pos ≠ [] := by
      intro e; simp [e] at hi
    have hlast : σ.pos.getLast hne = PosStep.opts := by
      rw [List.getLast_eq_getElem]
      have : σ.pos.length - 1 = i := by simp only [Schema.k] at hi1; omega
      simp only [this, hpi]
    rw [← hlast]
    exact (List.dropLast_concat_getLast hne).symm

theorem lengths_contains {σ : Schema} {n : Nat} :
    σ.lengths.contains n = true ↔
      if σ.tail.isSome then n = σ.k + 1 ∨ n = σ.k + 2 ∨ n = σ.k + 3
      else (σ.optsOptional = true ∧ n = σ.k) ∨ n = σ.k + 1 := by
  unfold Schema.lengths
  cases σ.tail <;> cases σ.optsOptional <;> simp

def argsShape : ArgsVariant → WVal → Bool
  | .std, a => a.isNull || a.isList
  | .publish, a => a.isNull || a.isList || a.isStr || a.isBytes

theorem argsShape_null (v : ArgsVariant) : argsShape v .null = true := by cases v <;> rfl

/-- what a successful tail parse says about the six tail attributes: everything the constructor asserts about them
(payload is bytes, the `enc_*` values are valid, `enc_key`/`enc_serializer` only together with `enc_algo`) -/
structure TailOk (O : Oracles) (v : ArgsVariant) (a kw p ea ek es : WVal) : Prop where
  args : argsShape v a = true
  alone : p.isNull = true ∨ (a = .null ∧ kw = .null)
  payload : p.isNull = true ∨ p.isBytes = true
  algo : ea.isNull = true ∨ validEncAlgo O ea = true
  key : ek.isNull = true ∨ ek.isStr = true
  ser : es.isNull = true ∨ validEncSer O es = true
  triple : (ea.isNull = true ∧ ek.isNull = true ∧ es.isNull = true) ∨ (p.isNull = false ∧ ea.isNull = false)

/-- the six tail attributes as `parseTail` returns them -/
def tailOf (a kw p ea ek es : WVal) : Msg :=
  [(cs!"args", a), (cs!"kwargs", kw), (cs!"payload", p), (cs!"enc_algo", ea), (cs!"enc_key", ek),
   (cs!"enc_serializer", es)]

def TailInv (O : Oracles) (t : TailSpec) (m : Msg) : Prop :=
  TailOk O t.variant (m.get cs!"args") (m.get cs!"kwargs") (m.get cs!"payload")
    (m.get cs!"enc_algo") (m.get cs!"enc_key") (m.get cs!"enc_serializer")

/-- strictness of the tail is the tail invariant together with the kwargs check of `_validate_kwargs` -/
theorem tailStrict_iff {O : Oracles} {t : TailSpec} {m : Msg} :
    tailStrict O t m = true ↔
      TailInv O t m ∧ (m.get cs!"kwargs" = .null ∨ ∃ kvs, m.get cs!"kwargs" = .dict kvs) := by
  obtain ⟨v⟩ := t
  cases v
  all_goals
    simp only [tailStrict, TailInv, Bool.and_eq_true, Bool.or_eq_true, Bool.not_eq_true']
    -- the conjuncts of `tailStrict`, in its order
    constructor
    · rintro ⟨⟨⟨⟨⟨⟨⟨payload, args⟩, kwargs⟩, alone⟩, algo⟩, key⟩, ser⟩, triple⟩
      refine ⟨{ args := by simpa [argsShape] using args,
                alone := alone.imp_right fun h => ⟨WVal.eq_null_of_isNull h.1, WVal.eq_null_of_isNull h.2⟩,
                payload := payload, algo := algo, key := key, ser := ser,
                triple := triple.imp_left fun h => ⟨h.1.1, h.1.2, h.2⟩ }, ?_⟩
      -- kwargs: `None` and a dictionary with string keys pass, every other constructor fails the test
      cases hk : m.get cs!"kwargs" <;> first | exact Or.inl rfl | exact Or.inr ⟨_, rfl⟩ | (rw [hk] at kwargs; cases kwargs)
    · rintro ⟨inv, hk⟩
      refine ⟨⟨⟨⟨⟨⟨⟨inv.payload, by simpa [argsShape] using inv.args⟩, ?_⟩,
        inv.alone.imp_right fun h => ⟨by rw [h.1]; rfl, by rw [h.2]; rfl⟩⟩, inv.algo⟩, inv.key⟩, inv.ser⟩,
        inv.triple.imp_left fun h => ⟨⟨h.1, h.2.1⟩, h.2.2⟩⟩
      rcases hk with hk | ⟨kvs, hk⟩ <;> rw [hk]

structure TailResidualParts (t : TailSpec) (m : Msg) : Prop where
  payload : (m.get cs!"payload").isNull = true ∨ (m.get cs!"payload").truthy = true
  kwargs : (m.get cs!"kwargs").isNull = true ∨ (m.get cs!"kwargs").truthy = true
  args : (m.get cs!"args").isNull = true ∨ (m.get cs!"args").isList = true
  written : (m.get cs!"kwargs").truthy = true ∨ (m.get cs!"args").isNull = true ∨ (m.get cs!"args").truthy = true
  publish : t.variant = .publish → (m.get cs!"kwargs").truthy = true → (m.get cs!"args").isList = true

theorem tailResidual_parts {t : TailSpec} {m : Msg} (h : tailResidual t m = true) : TailResidualParts t m := by
  simp only [tailResidual, Bool.and_eq_true, Bool.or_eq_true] at h
  obtain ⟨⟨⟨⟨payload, kwargs⟩, args⟩, written⟩, publish⟩ := h
  refine ⟨payload, kwargs, args, ?_, ?_⟩
  · rcases written with (a | b) | c
    · exact Or.inl a
    · exact Or.inr (Or.inl b)
    · exact Or.inr (Or.inr c)
  · intro hv hk
    rw [hv] at publish
    simpa [hk] using publish

theorem OptStep.parse_present {O : Oracles} {d : Dict} {s : OptStep} {x : WVal}
    (hg : Dict.get? d s.key = some x) : s.parse O d = s.ty.check O s.field x := by
  unfold OptStep.parse
  rw [hg]

theorem OptStep.parse_absent_iff {O : Oracles} {d : Dict} {s : OptStep} {v : WVal} (hg : Dict.get? d s.key = none) :
    s.parse O d = .ok v ↔ s.dflt = v ∧ s.required = false ∧
      ∀ k, s.absentErrIf = some k → ((Dict.get? d k).getD .null).truthy = false := by
  unfold OptStep.parse
  rw [hg]
  cases s.required
  · cases s.absentErrIf with
    | none => simp
    | some k => exact ((Checks.guardNot allowed_protocol).ok_iff v).trans (by simp)
  · simp [fail]

theorem OptStep.parse_absent {O : Oracles} {d : Dict} {s : OptStep} {v : WVal}
    (hg : Dict.get? d s.key = none) (h : s.parse O d = .ok v) : v = s.dflt :=
  ((OptStep.parse_absent_iff hg).mp h).1.symm

theorem OptStep.parse_allowed (O : Oracles) (d : Dict) (s : OptStep) : ErrIn Allowed (s.parse O d) := by
  unfold OptStep.parse
  split
  · split
    · exact ErrIn.fail _ allowed_protocol
    · split
      · exact ErrIn.ok _
      · exact ErrIn.ite (ErrIn.fail _ allowed_protocol) (ErrIn.ok _)
  · exact OTy.check_allowed O _ _ _

theorem parseOpts_spec {O : Oracles} {d : Dict} : ∀ {ss : List OptStep},
    Checks (parseOpts O d ss) (fun om => om.length = ss.length ∧
      ∀ sk ∈ ss.zip om, sk.2.1 = sk.1.field ∧ sk.1.parse O d = .ok sk.2.2) := by
  intro ss
  induction ss with
  | nil => exact (Checks.pure []).congr fun om => by cases om <;> simp
  | cons s t ih =>
    refine ((Checks.self (OptStep.parse_allowed O d s)).bind fun v _ => ih.bind fun rest _ => Checks.pure _).congr
      fun om => ⟨?_, ?_⟩
    · rintro ⟨v, hv, rest, ⟨hl, hall⟩, rfl⟩
      exact ⟨congrArg (· + 1) hl, List.forall_mem_cons.mpr ⟨⟨rfl, hv⟩, hall⟩⟩
    · cases om with
      | nil => exact fun h => nomatch h.1
      | cons kv rest =>
        rintro ⟨hl, hall⟩
        obtain ⟨⟨hf, hv⟩, hall⟩ := List.forall_mem_cons.mp hall
        exact ⟨kv.2, hv, rest, ⟨Nat.succ.inj hl, hall⟩, congrArg (· :: rest) (Prod.ext hf.symm rfl)⟩

/-- what a successful positional step says about the value it read: the test `PosStep.strict` makes on the attribute
(for the options position: that it is a dictionary), except that REGISTER's URI is judged by the `match` entry on
the wire, not yet by the parsed option -/
def PosStep.accepts (O : Oracles) (w : List WVal) : PosStep → WVal → Prop
  | .id _, v => (match v with | .int i => idOk i | _ => false) = true
  | .uri _ fl, v => uriOk O fl v = true
  | .str _, v => v.isStr = true
  | .extra _, v => (match v with | .dict _ => true | _ => false) = true
  | .intEnum _ allowed, v => (match v with | .int i => allowed.contains i | _ => false) = true
  | .opts, v => (match v with | .dict _ => true | _ => false) = true
  | .uriByMatch _ op key vals, v =>
      match Dict.get? ((w.getD op .null).entries) key with
      | none => uriOk O {} v = true
      | some (.str s) => strMem s vals = true ∧ uriOk O (matchFlags s) v = true
      | some _ => False

theorem checkId_spec {site : Str} {v : WVal} :
    Checks (checkId site v) (fun a => v = a ∧ (match v with | .int i => idOk i | _ => false) = true) := by
  cases v with
  | int i => exact Checks.guard allowed_protocol
  | _ => exact Checks.fails allowed_protocol

theorem checkUri_spec {O : Oracles} {fl : UriFlags} {site : Str} {v : WVal} :
    Checks (checkUri O fl site v) (fun a => v = a ∧ uriOk O fl v = true) :=
  Checks.guard allowed_invalidUri

theorem checkStr_spec {site : Str} {v : WVal} : Checks (checkStr site v) (fun a => v = a ∧ v.isStr = true) := by
  cases v with
  | str s => exact Checks.pass
  | _ => exact Checks.fails allowed_protocol

theorem PosStep.parse_spec {O : Oracles} {w : List WVal} {v : WVal} {p : PosStep} :
    Checks (p.parse O w v) (fun r => p.field?.map (fun f => (f, v)) = r ∧ p.accepts O w v) := by
  cases p with
  | id f => exact checkId_spec.map _
  | uri f fl => exact checkUri_spec.map _
  | str f => exact checkStr_spec.map _
  | extra f | opts =>
    cases v with
    | dict kvs => exact Checks.pass
    | _ => exact Checks.fails allowed_protocol
  | intEnum f allowed =>
    cases v with
    | int i => exact Checks.guard allowed_protocol
    | _ => exact Checks.fails allowed_protocol
  | uriByMatch f op key vals =>
    simp only [PosStep.parse, PosStep.field?, PosStep.accepts, Option.map_some]
    cases Dict.get? ((w.getD op .null).entries) key with
    | none => exact checkUri_spec.map _
    | some x =>
      cases x with
      | str s =>
        by_cases hmem : strMem s vals = true
        · simp only [hmem, if_true, true_and]
          exact checkUri_spec.map _
        · simp only [hmem]
          exact Checks.never allowed_protocol fun _ h => nomatch h.2.1
      | _ => exact Checks.never allowed_protocol fun _ h => h.2

theorem parsePos_spec {O : Oracles} {w : List WVal} : ∀ {ps : List PosStep} {vs : List WVal},
    Checks (parsePos O w ps vs) (fun pm =>
      (ps.zip vs).filterMap (fun pv => pv.1.field?.map (fun f => (f, pv.2))) = pm ∧
      ∀ pv ∈ ps.zip vs, pv.1.accepts O w pv.2) := by
  intro ps
  induction ps with
  | nil => intro vs; exact (Checks.pure []).congr (by simp)
  | cons p t ih =>
    intro vs
    cases vs with
    | nil => exact ih.congr (by simp)
    | cons v vs =>
      refine (PosStep.parse_spec.bind fun r _ => ih.bind fun rest _ => Checks.pure _).congr fun pm => ?_
      simp only [List.zip_cons_cons, List.filterMap_cons, List.forall_mem_cons]
      constructor
      · rintro ⟨_, ⟨rfl, hp⟩, _, ⟨rfl, ht⟩, rfl⟩
        exact ⟨by cases p.field? <;> rfl, hp, ht⟩
      · rintro ⟨rfl, hp, ht⟩
        exact ⟨_, ⟨rfl, hp⟩, _, ⟨rfl, ht⟩, by cases p.field? <;> rfl⟩

/-- REGISTER: the URI flags selected by the `match` entry on the wire are those selected by the parsed `match`
attribute (an absent entry is read as the default, which selects the plain flags) -/
theorem uriByMatch_accepts_iff {σ : Schema} {O : Oracles} {w : List WVal} {m : Msg} (hwf : σ.wf = true)
    {f : Str} {op : Nat} {key : Str} {vals : List Str} (hp : PosStep.uriByMatch f op key vals ∈ σ.pos)
    (hopts : ∀ s ∈ σ.opts, s.parse O (σ.optsOf w) = .ok (m.get s.field)) (v : WVal) :
    (PosStep.uriByMatch f op key vals).accepts O w v ↔ uriOk O (matchFlags (strOf (m.get key))) v = true := by
  obtain ⟨hop, s, hs, rfl, hf, d0, hsty, hsd, hfl⟩ := uriByMatch_step hwf hp
  have hp0 := hopts s hs
  rw [optsOf_some hop, hf] at hp0
  simp only [PosStep.accepts]
  cases hg : Dict.get? ((w.getD op .null).entries) s.key with
  | none => simp only [OptStep.parse_absent hg hp0, hsd, strOf, hfl]
  | some x =>
    rw [OptStep.parse_present hg, hsty] at hp0
    obtain ⟨hx, hv⟩ := (OTy.check_iff_valid O _ rfl).mp hp0
    rw [← hx]
    cases x with
    | str sx => exact and_iff_right hv
    | _ => cases hv

/-- for the value of an attribute, being accepted by its positional step is the strictness test on the message: the
same test by definition, except for REGISTER's URI, where it is so once the `match` entry has been read -/
theorem PosStep.accepts_iff_strict {σ : Schema} {O : Oracles} {w : List WVal} {m : Msg} (hwf : σ.wf = true)
    {p : PosStep} (hp : p ∈ σ.pos) (hopts : ∀ s ∈ σ.opts, s.parse O (σ.optsOf w) = .ok (m.get s.field))
    {f : Str} (hf : p.field? = some f) : p.accepts O w (m.get f) ↔ PosStep.strict O m p = true := by
  cases p with
  | opts => cases hf
  | uriByMatch g op key vals => cases hf; exact uriByMatch_accepts_iff hwf hp hopts _
  | _ => cases hf; exact Iff.rfl

theorem encGet_spec {d : Dict} {key : Str} {valid : WVal → Bool} :
    Checks (encGet d key valid) (fun v => (d.get? key).getD .null = v ∧ (v.isNull = true ∨ valid v = true)) := by
  refine (Checks.guardNot allowed_protocol).congr fun v => and_congr_right fun h => ?_
  subst h
  cases ((Dict.get? d key).getD .null).isNull <;> cases valid ((Dict.get? d key).getD .null) <;> simp

theorem encTripleGate_spec {a k s : WVal} :
    Checks (encTripleGate a k s)
      (fun _ => (a.isNull = true ∧ k.isNull = true ∧ s.isNull = true) ∨ a.isNull = false) := by
  refine (Checks.guardNot allowed_protocol).congr fun _ => ?_
  cases a.isNull <;> cases k.isNull <;> cases s.isNull <;> simp

/-- `_validate_kwargs` passes exactly `None` and a dictionary with string keys -/
theorem kwargsCheck_spec {m : Msg} :
    Checks (kwargsCheck m) (fun _ => m.get cs!"kwargs" = .null ∨ ∃ kvs, m.get cs!"kwargs" = .dict kvs) := by
  unfold kwargsCheck
  cases m.get cs!"kwargs" <;>
    first | exact (Checks.pure ()).congr (by simp) | exact Checks.never allowed_protocol (by simp)

end Abverif.Wamp

import Abverif.Proofs.Lemmas.WsWalk
/-
The invariant behind "automatic pings keep being sent for as long as the connection is open" (C17):
`PK s`: while OPEN with a ping interval configured, the next ping is scheduled or a pong deadline is pending; a scheduled
ping is due no later than now + interval, a pending pong deadline no later than now + timeout.
`PP a b := PK a → PK b` holds across every engine function (`PP.walk`); across the ping bookkeeping only as a whole:
in between, neither timer is armed.
-/
namespace Abverif.Ws

def PK (s : S) : Prop :=
  (s.st = .opened → s.cfg.pingInterval > 0 → s.tPingNext.isSome ∨ s.tPingTimeout.isSome) ∧
  (∀ D q, s.tPingNext = some (D, q) → D ≤ s.now + s.cfg.pingInterval) ∧
  (∀ D q, s.tPingTimeout = some (D, q) → D ≤ s.now + s.cfg.pingTimeout)

def PP (a b : S) : Prop := PK a → PK b

theorem PP.refl (a : S) : PP a a := id
theorem PP.trans {a b c : S} (h1 : PP a b) (h2 : PP b c) : PP a c := fun h => h2 (h1 h)

theorem PP.of_le {a b : S} (hst : b.st = .opened → a.st = .opened) (hnow : a.now ≤ b.now) (hcfg : b.cfg = a.cfg)
    (hnext : b.tPingNext = a.tPingNext) (hpong : b.tPingTimeout = a.tPingTimeout) : PP a b := by
  intro k
  refine ⟨fun ho hi => ?_, fun D q h => ?_, fun D q h => ?_⟩
  · rw [hnext, hpong]; rw [hcfg] at hi; exact k.1 (hst ho) hi
  · rw [hnext] at h; have := k.2.1 D q h; rw [hcfg]; omega
  · rw [hpong] at h; have := k.2.2 D q h; rw [hcfg]; omega

theorem PP.of_notOpen {a b : S} (hst : b.st ≠ .opened) (hnow : a.now ≤ b.now) (hcfg : b.cfg = a.cfg)
    (hnext : b.tPingNext = a.tPingNext ∨ b.tPingNext = none) (hpong : b.tPingTimeout = a.tPingTimeout ∨ b.tPingTimeout = none) :
    PP a b := by
  intro k
  refine ⟨fun ho => absurd ho hst, fun D q h => ?_, fun D q h => ?_⟩
  · rcases hnext with e | e
    · rw [e] at h; have := k.2.1 D q h; rw [hcfg]; omega
    · rw [e] at h; cases h
  · rcases hpong with e | e
    · rw [e] at h; have := k.2.2 D q h; rw [hcfg]; omega
    · rw [e] at h; cases h

theorem PP.of_same {a b : S} (hst : b.st = a.st) (hnow : b.now = a.now) (hcfg : b.cfg = a.cfg)
    (hnext : b.tPingNext = a.tPingNext) (hpong : b.tPingTimeout = a.tPingTimeout) : PP a b :=
  PP.of_le (fun h => by rw [← hst]; exact h) (by rw [hnow]; exact Nat.le_refl _) hcfg hnext hpong

theorem PP.of_ApiEq {a b : S} (h : ApiEq a b) : PP a b :=
  h ▸ PP.of_same rfl rfl rfl rfl rfl

theorem timer_PP (s : S) (d : Nat) : PP s (s.timer d).1 := PP.of_same rfl rfl rfl rfl rfl
theorem armCloseHs_PP (s : S) : PP s (armCloseHs s) := PP.of_same rfl rfl rfl rfl rfl

/-- scheduling the next ping establishes the first clause whatever held before -/
theorem armPingNext_PK (s : S) (h2 : ∀ D q, s.tPingTimeout = some (D, q) → D ≤ s.now + s.cfg.pingTimeout) :
    PK (armPingNext s) :=
  ⟨fun _ _ => Or.inl rfl, fun D q h => by cases h; exact batched_le _ _, h2⟩

theorem armPingNext_PP (s : S) : PP s (armPingNext s) := fun k => armPingNext_PK s k.2.2

theorem armPingTimeout_PK (s : S) (h1 : ∀ D q, s.tPingNext = some (D, q) → D ≤ s.now + s.cfg.pingInterval) :
    PK (armPingTimeout s) :=
  ⟨fun _ _ => Or.inr rfl, h1, fun D q h => by cases h; exact batched_le _ _⟩

theorem armPingTimeout_PP (s : S) : PP s (armPingTimeout s) := fun k => armPingTimeout_PK s k.2.1

theorem sendCloseFrame_PP (s : S) (c : Option Nat) (r : Option Bytes) (i : Bool) : PP s (sendCloseFrame s c r i) :=
  sendCloseFrame_of (R := PP) PP.trans armCloseHs_PP s c r i (PP.refl s) (PP.of_same rfl rfl rfl rfl rfl)
    fun _ h _ => PP.of_notOpen (by simp) (by rw [h.eq.now]; exact Nat.le_refl _) h.eq.cfg (Or.inl h.eq.tPingNext)
      (Or.inl h.eq.tPingTimeout)

theorem PP.base : Walk.Base PP where
  refl := PP.refl
  trans := PP.trans
  parse h := h ▸ PP.of_same rfl rfl rfl rfl rfl
  emit _ _ _ := PP.of_same rfl rfl rfl rfl rfl
  armServerDrop _ := PP.of_same rfl rfl rfl rfl rfl
  armPingNext := armPingNext_PP
  armPingTimeout := armPingTimeout_PP
  sends h _ := PP.of_ApiEq h.eq.toApiEq
  dropped _ _ _ _ := PP.of_notOpen (fun h => by cases h) (Nat.le_refl _) rfl (Or.inl rfl) (Or.inl rfl)
  failClose _ _ _ := sendCloseFrame_PP _ _ _ _
  unclean _ _ := PP.of_same rfl rfl rfl rfl rfl
  peerReason _ _ _ := PP.of_same rfl rfl rfl rfl rfl
  tick _ _ := PP.of_le id (Nat.le_max_left _ _) rfl rfl rfl

theorem sendClose_PP (s : S) (c : Option Nat) (r : Option Bytes) : PP s (sendClose s c r) :=
  PP.base.sendClose_of s c r (sendCloseFrame_PP _ _ _ _)

theorem sendAutoPing_PP (s : S) : PP s (sendAutoPing s) := by
  intro k
  rw [sendAutoPing_eq]
  have p := pinged_of s
  generalize pinged s = s2 at p
  have h3 : ∀ D q, s2.tPingTimeout = some (D, q) → D ≤ s2.now + s2.cfg.pingTimeout := by
    intro D q h; rw [p.tPingTimeout] at h; rw [p.now, p.cfg]; exact k.2.2 D q h
  split
  · exact armPingTimeout_PK s2 (fun D q h => by rw [p.tPingNext] at h; cases h)
  · split
    · exact armPingNext_PK s2 h3
    · rename_i hc
      refine ⟨fun ho hi => absurd (by simp [ho, hi]) hc, fun D q h => (by rw [p.tPingNext] at h; cases h), h3⟩

theorem cancelAutoPingTimeout_PP (s : S) : PP s (cancelAutoPingTimeout s) := by
  intro k
  rw [cancelAutoPingTimeout_eq]
  split
  · exact armPingNext_PK _ (fun D q h => by cases h)
  · rename_i hc
    exact ⟨fun _ hi => absurd hi hc, fun D q h => (by cases h), fun D q h => (by cases h)⟩

theorem onPongFrame_PP (s : S) (p : Bytes) : PP s (onPongFrame s p) := by
  intro k
  rw [onPongFrame_eq]
  split
  · split
    · exact armPingNext_PK _ (fun D q h => by cases h)
    · rename_i hc
      refine ⟨fun _ hi => ?_, k.2.1, fun D q h => (by cases h)⟩
      left
      cases hn : s.tPingNext with
      | some t => rfl
      | none => exact absurd (by simp [hn]; exact hi) hc
  · exact k

theorem pingTimedOut_PP (s : S) : PP s (fire s .pingTimeout) := by
  show PP s (if _ then _ else _)
  split
  · rename_i hc
    rw [dropConnection_eq]
    · exact PP.of_notOpen (fun h => by cases h) (Nat.le_refl _) rfl (Or.inl rfl) (Or.inr rfl)
    · exact hc
  · rename_i hc
    have hc' : s.st = .closed := by simpa using hc
    exact PP.of_notOpen (by simp [hc']) (Nat.le_refl _) rfl (Or.inl rfl) (Or.inr rfl)

theorem handshakeDone_PP (s : S) : PP s (handshakeDone s) := by
  intro k
  by_cases hc : s.st = .connecting
  · rw [handshakeDone_opens s hc]
    split
    · exact armPingNext_PK _ k.2.2
    · rename_i hi
      exact ⟨fun _ h => absurd h hi, k.2.1, k.2.2⟩
  · rw [handshakeDone_idle s hc]; exact k

theorem connectionLost_PP (s : S) : PP s (connectionLost s) :=
  connectionLost_of PP.refl s fun _ _ =>
    PP.of_notOpen (fun h => by cases h) (Nat.le_refl _) rfl (Or.inr rfl) (Or.inr rfl)

theorem PP.walk : Walk PP where
  toBase := PP.base
  onCloseFrame s c r := PP.base.onCloseFrame_of s c r <| PP.base.closeStateStep_of
    (fun _ _ _ => PP.of_same rfl rfl rfl rfl rfl) (fun s => replyClose_of s (sendCloseFrame_PP _ _ _ _) (sendCloseFrame_PP _ _ _ _)) _
  cancelAutoPingTimeout := cancelAutoPingTimeout_PP
  onPongFrame := onPongFrame_PP
  buffer _ _ := PP.of_same rfl rfl rfl rfl rfl
  forget _ _ _ := PP.of_same rfl rfl rfl rfl rfl
  timedOut s k hk := by
    rcases hk with rfl | rfl | rfl
    · exact PP.base.timeout_of s _ _ (PP.of_same rfl rfl rfl rfl rfl)
    · exact PP.base.timeout_of s _ _ (PP.of_same rfl rfl rfl rfl rfl)
    · exact pingTimedOut_PP s
  sendAutoPing := sendAutoPing_PP
  handshakeDone := handshakeDone_PP

end Abverif.Ws

import Abverif.Proofs.Lemmas.WsEncode
import Abverif.Proofs.Lemmas.WsJudge
/-
Sender and judge for one message.  The judge side: runs of the judge over complete frames (`JRuns`); what one data frame
written by `encodeFrame` does to the judge (`frame_judged`: from `Pre` to `Post`); `Framed c binary first ps W`, the wire
form of one message cut into the frames `ps`, which the judge reads back as that message (`Framed.judged`).  The sender
side: for each sending call the frames it writes, `Wrote s s' W ∧ Framed … W` (`sendFrags_framed`, `sendMessage_framed`,
`sendPrepared_framed`, `stream_framed`), under the condition `SenderOk`.  Both meet in `Framed.sent`.
The judge's data frame in steps (`J.after`, `uAfter`, `J.deliver`, `judgeData_within`) comes from Lemmas/WsJudge.lean.
All frames here have the reserved bits clear (`encodeFrame … 0 …`, `InMsg.hcompressed`): `sendMessage` in Model/Ws.lean is
the sender without a PMCE, and compressed messages are judged only on the frame records of Lemmas/PmceData.lean.
-/
namespace Abverif.Ws
open Abverif.WsSpec

/-! ### runs of the judge over complete frames (fuel-free) -/

/-- the judge gets from `(j, buf)` to `(j', rest)` by judging complete, unobjectionable frames -/
inductive JRuns (c : Ctx) : J → Bytes → J → Bytes → Prop
  | refl (j : J) (buf : Bytes) : JRuns c j buf j buf
  | step {j : J} {buf : Bytes} {j1 : J} {r1 : Bytes} {j2 : J} {r2 : Bytes} :
      judgeStep c j buf = .next j1 r1 → r1.length + 2 ≤ buf.length → JRuns c j1 r1 j2 r2 → JRuns c j buf j2 r2

theorem JRuns.trans {c : Ctx} {j1 j2 j3 : J} {b1 b2 b3 : Bytes} (h1 : JRuns c j1 b1 j2 b2) (h2 : JRuns c j2 b2 j3 b3) :
    JRuns c j1 b1 j3 b3 := by
  induction h1 with
  | refl => exact h2
  | step hs hl _ ih => exact JRuns.step hs hl (ih h2)

theorem JRuns.append {c : Ctx} {j j1 j2 : J} {W1 W2 : Bytes} (h1 : ∀ after, JRuns c j (W1 ++ after) j1 after)
    (h2 : ∀ after, JRuns c j1 (W2 ++ after) j2 after) (after : Bytes) : JRuns c j (W1 ++ W2 ++ after) j2 after := by
  rw [List.append_assoc]
  exact (h1 (W2 ++ after)).trans (h2 after)

theorem JRuns.judgeFrom_eq {c : Ctx} {j j' : J} {buf rest : Bytes} (h : JRuns c j buf j' rest) :
    ∀ n, buf.length < 2 * n → ∃ m, rest.length < 2 * m ∧ judgeFrom c n j buf = judgeFrom c m j' rest := by
  induction h with
  | refl j buf => intro n hn; exact ⟨n, hn, rfl⟩
  | step hs hl _ ih =>
    intro n hn
    obtain ⟨n, rfl⟩ : ∃ n', n = n' + 1 := ⟨n - 1, by omega⟩
    obtain ⟨m, hm, e⟩ := ih n (by omega)
    refine ⟨m, hm, ?_⟩
    rw [judgeFrom, hs]
    exact e

theorem JRuns.judge_eq {c : Ctx} {j' : J} {stream : Bytes} (h : JRuns c {} stream j' []) :
    judge c stream = (j'.evs, .ok, 0) := by
  obtain ⟨m, hm, e⟩ := h.judgeFrom_eq (stream.length / 2 + 1) (by omega)
  unfold judge
  rw [e]
  obtain ⟨m, rfl⟩ : ∃ m', m = m' + 1 := ⟨m - 1, by simp at hm; omega⟩
  rw [judgeFrom]
  rfl

/-! ### one frame of a message -/

/-- the masking the receiving role demands (RFC 6455 §5.1, with autobahn's two options) -/
def maskOk (c : Ctx) (masked : Bool) : Bool :=
  if c.isServer then (masked || !c.requireMasked) else (!masked || c.acceptMasked)

/-- a data frame with the reserved bits clear passes the header rules when it is masked as the role demands and is a
continuation frame exactly inside a message: the other clauses of `okFlags` hold of every such frame -/
theorem headerOk_data (c : Ctx) (inside fin : Bool) (op : Nat) (masked : Bool) (l7 : Nat)
    (hop : op ≤ 2) (hin : decide (op = 0) = inside) (hm : maskOk c masked = true) :
    headerOk c inside fin 0 op masked l7 = true := by
  unfold headerOk okFlags
  unfold maskOk at hm
  subst hin
  simp [hm, show op < 8 by omega]
  omega

/-- the judge's bookkeeping while a message of `acc` octets so far is open -/
structure InMsg (c : Ctx) (j : J) (binary : Bool) (acc : Bytes) (evs0 : List Ev) : Prop where
  hinside : j.inside = true
  hevs : j.evs = evs0
  hbinary : j.binary = binary
  hcompressed : j.compressed = false
  hvalidate : j.validate = (!binary && c.utf8validate)
  hacc : j.acc = acc
  htotal : j.total = acc.length
  hutf8 : j.utf8 = (if (!binary && c.utf8validate) then u8run .s0 acc else .s0)

/-- where the judge stands before a frame of a message: between messages, or inside one -/
def Pre (c : Ctx) (j : J) (binary : Bool) (acc : Bytes) (evs0 : List Ev) (first : Bool) : Prop :=
  if first then j.inside = false ∧ j.evs = evs0 ∧ acc = [] else InMsg c j binary acc evs0

/-- the judge's state after the frame -/
def Post (c : Ctx) (j : J) (binary : Bool) (acc : Bytes) (evs0 : List Ev) (fin : Bool) : Prop :=
  if fin then j.inside = false ∧ j.evs = evs0 ++ [.message acc binary false] else InMsg c j binary acc evs0

theorem Pre.first_iff {c : Ctx} {j : J} {binary : Bool} {acc : Bytes} {evs0 : List Ev} :
    Pre c j binary acc evs0 true ↔ j.inside = false ∧ j.evs = evs0 ∧ acc = [] := Iff.rfl

theorem Pre.start (c : Ctx) {j : J} (binary : Bool) (hj : j.inside = false) : Pre c j binary [] j.evs true :=
  Pre.first_iff.mpr ⟨hj, rfl, rfl⟩

theorem Pre.cont_iff {c : Ctx} {j : J} {binary : Bool} {acc : Bytes} {evs0 : List Ev} :
    Pre c j binary acc evs0 false ↔ InMsg c j binary acc evs0 := Iff.rfl

theorem Post.fin_iff {c : Ctx} {j : J} {binary : Bool} {acc : Bytes} {evs0 : List Ev} :
    Post c j binary acc evs0 true ↔ j.inside = false ∧ j.evs = evs0 ++ [.message acc binary false] := Iff.rfl

theorem Post.more_iff {c : Ctx} {j : J} {binary : Bool} {acc : Bytes} {evs0 : List Ev} :
    Post c j binary acc evs0 false ↔ InMsg c j binary acc evs0 := Iff.rfl

/-- the header of a frame of the message arrives: the first frame opens the message its opcode names, a continuation
frame finds it open; either way the judge is inside the message with `acc` -/
theorem Pre.enter {c : Ctx} {j : J} {binary first : Bool} {acc : Bytes} {evs0 : List Ev} (h : Hd)
    (hpre : Pre c j binary acc evs0 first) (hrsv : h.rsv = 0)
    (hop : h.opcode = (if first then (if binary then 2 else 1) else 0)) : InMsg c (j.enter c h 0) binary acc evs0 := by
  cases first with
  | true =>
    obtain ⟨hin, hev, rfl⟩ := Pre.first_iff.mp hpre
    simp only [J.enter, hin, hop, hrsv]
    cases binary <;> exact {
      hinside := rfl, hevs := hev, hbinary := (by simp), hcompressed := (by simp), hvalidate := (by simp),
      hacc := rfl, htotal := rfl, hutf8 := (by simp [u8run]) }
  | false =>
    have hi := Pre.cont_iff.mp hpre
    simp only [J.enter, hi.hinside]
    exact hi

/-- then its payload `p`, in `j'`, which is `j` with `p.length` more octets declared: the message has grown by `p`, and
the validator, if it runs, has read `p` -/
theorem InMsg.payload {c : Ctx} {j : J} {binary : Bool} {acc : Bytes} {evs0 : List Ev} (h : InMsg c j binary acc evs0)
    (p : Bytes) (j' : J) (hj : j' = { j with total := j.total + p.length }) :
    InMsg c (j'.after p) binary (acc ++ p) evs0 ∧ j'.total = acc.length + p.length ∧
    uAfter j' p = (if (!binary && c.utf8validate) then u8run .s0 (acc ++ p) else .s0) := by
  subst hj
  have hu : uAfter { j with total := j.total + p.length } p
      = (if (!binary && c.utf8validate) then u8run .s0 (acc ++ p) else .s0) := by
    simp only [uAfter, h.hvalidate, h.hcompressed, h.hutf8]
    cases (!binary && c.utf8validate) <;> simp [u8run_append]
  exact ⟨{ h with hacc := (by simp [J.after, h.hacc]), htotal := (by simp [J.after, h.htotal]), hutf8 := hu },
    by simp [h.htotal], hu⟩

/-- conditions on one frame of a message under the receiver's configuration -/
structure FrameOk (c : Ctx) (binary : Bool) (acc p : Bytes) (fin : Bool) : Prop where
  msgLimit : ¬ (0 < c.maxMsg ∧ c.maxMsg < acc.length + p.length)
  frameLimit : ¬ (0 < c.maxFrame ∧ c.maxFrame < p.length)
  utf8Prefix : (!binary && c.utf8validate) = true → u8run .s0 (acc ++ p) ≠ .rej
  utf8End : fin = true → (!binary && c.utf8validate) = true → u8run .s0 (acc ++ p) = .s0

/-- the data half of the judge: the payload `p` of a frame of the message, within the limits and acceptable to the
validator, moves the judge from `Pre` to `Post` -/
theorem judgeData_Pre_Post {c : Ctx} {j : J} {binary first : Bool} {acc p : Bytes} {evs0 : List Ev} (h : Hd)
    (hpre : Pre c j binary acc evs0 first) (hrsv : h.rsv = 0)
    (hop : h.opcode = (if first then (if binary then 2 else 1) else 0)) (hok : FrameOk c binary acc p h.fin) :
    ∃ jn, Post c jn binary (acc ++ p) evs0 h.fin ∧
      ∀ len after, judgeData c j len h p.length p true after = .next jn after := by
  obtain ⟨hin, htot, hu⟩ := (hpre.enter h hrsv hop).payload p (j.enter c h p.length) rfl
  refine ⟨if h.fin then ((j.enter c h p.length).after p).deliver else (j.enter c h p.length).after p, ?_, fun len after => ?_⟩
  · cases h.fin with
    | false => exact Post.more_iff.mpr hin
    | true => exact Post.fin_iff.mpr ⟨rfl, by simp only [if_true, J.deliver, hin.hevs, hin.hacc, hin.hbinary, hin.hcompressed]⟩
  · rw [judgeData_within c j len h _ p true after (by rw [htot]; simpa using hok.msgLimit) (by simpa using hok.frameLimit),
      hin.hvalidate, hin.hcompressed, hu]
    -- the validator behind the payload has read `acc ++ p` when the message is validated, and rests in `s0` otherwise
    cases hv : (!binary && c.utf8validate) with
    | false => cases h.fin <;> simp
    | true =>
      have hrej := hok.utf8Prefix hv
      cases hf : h.fin with
      | false => simp [hrej]
      | true => simp [hok.utf8End hf hv]

/-- one frame of a message, as written by `encodeFrame`, moves the judge from `Pre` to `Post`.  The frame has its
reserved bits clear, so it does not matter whether the receiver has negotiated a PMCE -/
theorem frame_judged {c : Ctx} {j : J} {binary first fin : Bool} {acc p raw : Bytes} {evs0 : List Ev}
    {key : Option Xor.Key} (hmask : maskOk c key.isSome = true) (hpre : Pre c j binary acc evs0 first)
    (henc : encodeFrame fin 0 (if first then (if binary then 2 else 1) else 0) key c.applyMask p = some raw)
    (hok : FrameOk c binary acc p fin) :
    ∃ jn, Post c jn binary (acc ++ p) evs0 fin ∧ ∀ after, judgeStep c j (raw ++ after) = .next jn after := by
  generalize hop : (if first then (if binary then 2 else 1) else 0) = op at henc
  have h2 : op ≤ 2 := by rw [← hop]; cases first <;> cases binary <;> decide
  have hin : decide (op = 0) = j.inside := by
    rw [← hop]
    cases first with
    | true => rw [(Pre.first_iff.mp hpre).1]; cases binary <;> rfl
    | false => rw [(Pre.cont_iff.mp hpre).hinside]; rfl
  -- `l7` does not depend on what follows the frame: it is read off once, before the judge state behind the frame is named
  obtain ⟨l7, el, hel, _⟩ := judgeStep_encodeFrame c j fin 0 op key _ p raw [] (by omega) (by omega) henc rfl
  obtain ⟨jn, hpost, hdata⟩ := judgeData_Pre_Post { fin := fin, rsv := 0, opcode := op, masked := key.isSome, len7 := l7 }
    hpre rfl hop.symm hok
  refine ⟨jn, hpost, fun after => ?_⟩
  obtain ⟨l7', el', hel', hjs⟩ := judgeStep_encodeFrame c j fin 0 op key _ p raw after (by omega) (by omega) henc rfl
  cases hel.symm.trans hel'
  rw [hjs, hdata]
  simp only [headerOk_data c j.inside fin op key.isSome l7 h2 hin hmask, Bool.not_true, Bool.false_eq_true, if_false,
    show ¬ op ≥ 8 by omega]

/-- the same as a run of the judge (a frame has at least two octets) -/
theorem frame_judged_run {c : Ctx} {j : J} {binary first fin : Bool} {acc p raw : Bytes} {evs0 : List Ev}
    {key : Option Xor.Key} (hmask : maskOk c key.isSome = true) (hpre : Pre c j binary acc evs0 first)
    (henc : encodeFrame fin 0 (if first then (if binary then 2 else 1) else 0) key c.applyMask p = some raw)
    (hok : FrameOk c binary acc p fin) :
    ∃ jn, Post c jn binary (acc ++ p) evs0 fin ∧ ∀ after, JRuns c j (raw ++ after) jn after := by
  obtain ⟨jn, hpost, hstep⟩ := frame_judged hmask hpre henc hok
  refine ⟨jn, hpost, fun after => JRuns.step (hstep after) ?_ (JRuns.refl _ _)⟩
  have := encodeFrame_len2 _ _ _ _ _ _ _ henc
  simp only [List.length_append]; omega

/-! ### the frames of one message -/

/-- `W` is one data message on the wire, cut into the frames `ps` (FIN on the last only; the message's opcode on the
first frame when `first`, continuation frames otherwise), each masked as a receiver with context `c` expects -/
inductive Framed (c : Ctx) (binary : Bool) : Bool → List Bytes → Bytes → Prop
  | last {first : Bool} {key : Option Xor.Key} {p raw : Bytes} : maskOk c key.isSome = true →
      encodeFrame true 0 (if first then (if binary then 2 else 1) else 0) key c.applyMask p = some raw →
      Framed c binary first [p] raw
  | more {first : Bool} {key : Option Xor.Key} {p raw : Bytes} {ps : List Bytes} {W : Bytes} :
      maskOk c key.isSome = true →
      encodeFrame false 0 (if first then (if binary then 2 else 1) else 0) key c.applyMask p = some raw →
      Framed c binary false ps W → Framed c binary first (p :: ps) (raw ++ W)

/-- the judge reads a framed message as that message, the concatenation of the frame payloads, when the whole is within
the message limit, every frame within the frame limit and (text, validated) the whole is valid UTF-8: every frame but
the last leaves it inside the message, since a prefix of the whole is within the limit and not yet rejected -/
theorem Framed.judged {c : Ctx} {binary first : Bool} {ps : List Bytes} {W : Bytes} (h : Framed c binary first ps W) :
    ∀ {j : J} {acc : Bytes} {evs0 : List Ev}, Pre c j binary acc evs0 first →
      ¬ (0 < c.maxMsg ∧ c.maxMsg < (acc ++ ps.flatten).length) →
      (∀ p ∈ ps, ¬ (0 < c.maxFrame ∧ c.maxFrame < p.length)) →
      ((!binary && c.utf8validate) = true → u8run .s0 (acc ++ ps.flatten) = .s0) →
      ∃ jn, jn.inside = false ∧ jn.evs = evs0 ++ [.message (acc ++ ps.flatten) binary false] ∧
        ∀ after, JRuns c j (W ++ after) jn after := by
  induction h with
  | last hm henc =>
    intro j acc evs0 hpre hmsg hfrm hutf
    simp only [List.flatten_cons, List.flatten_nil, List.append_nil] at hmsg hutf ⊢
    obtain ⟨jn, hpost, hstep⟩ := frame_judged_run hm hpre henc
      { msgLimit := by rw [← List.length_append]; exact hmsg, frameLimit := hfrm _ (by simp),
        utf8Prefix := fun hv => by rw [hutf hv]; decide, utf8End := fun _ => hutf }
    obtain ⟨hin, hevs⟩ := Post.fin_iff.mp hpost
    exact ⟨jn, hin, hevs, hstep⟩
  | more hm henc _ ih =>
    intro j acc evs0 hpre hmsg hfrm hutf
    simp only [List.flatten_cons, ← List.append_assoc] at hmsg hutf ⊢
    obtain ⟨jn, hpost, hstep⟩ := frame_judged_run hm hpre henc
      { msgLimit := fun hx => hmsg ⟨hx.1, by simp only [List.length_append] at *; omega⟩, frameLimit := hfrm _ (by simp),
        utf8Prefix := fun hv hr => absurd (hutf hv) (by rw [u8run_append, hr, u8run_rej]; decide),
        utf8End := fun hx => by cases hx }
    obtain ⟨jf, hin, hevs, hruns⟩ := ih (Pre.cont_iff.mpr (Post.more_iff.mp hpost)) hmsg (fun q hq => hfrm q (by simp [hq])) hutf
    exact ⟨jf, hin, hevs, JRuns.append hstep hruns⟩

/-- sender and judge meet: the octets `W` that a sending call put on the wire (`Wrote`), being a message cut into frames
(`Framed`), are judged as that message `m` -/
theorem Framed.sent {c : Ctx} {binary first : Bool} {ps : List Bytes} {W : Bytes} {s s' : S} {j : J} {acc m : Bytes}
    {evs0 : List Ev} (hfr : Framed c binary first ps W) (hw : Wrote s s' W) (hl : Live s)
    (hpre : Pre c j binary acc evs0 first) (hm : acc ++ ps.flatten = m)
    (hmsg : ¬ (0 < c.maxMsg ∧ c.maxMsg < m.length)) (hfrm : ∀ p ∈ ps, ¬ (0 < c.maxFrame ∧ c.maxFrame < p.length))
    (hutf : (!binary && c.utf8validate) = true → utf8Valid m = true) :
    ∃ W jn, wire s' = wire s ++ W ∧ jn.inside = false ∧ jn.evs = evs0 ++ [.message m binary false] ∧
      ∀ after, JRuns c j (W ++ after) jn after := by
  subst hm
  exact ⟨W, (hfr.judged hpre hmsg hfrm fun hv => of_decide_eq_true (hutf hv)).imp fun jn h => ⟨hw.wire_eq hl, h⟩⟩

/-! ### the sender: `sendMessage` -/

/-- what the sender must be for its frames to be acceptable to a receiver with context `c` -/
structure SenderOk (c : Ctx) (s : S) : Prop where
  st : s.st = .opened
  conn : ¬ (s.lost = true ∧ s.cfg.asyncio = true)
  am : c.applyMask = s.cfg.applyMask
  mask : maskOk c s.masksFrames = true

theorem SenderOk.live {c : Ctx} {s : S} (h : SenderOk c s) : Live s := ⟨by rw [h.st]; decide, h.conn⟩

/-- `SenderOk` reads only the connection state and the configuration -/
theorem SenderOk.of_ApiEq {c : Ctx} {a b : S} (h : SenderOk c a) (e : ApiEq a b) : SenderOk c b :=
  ⟨by rw [e.st]; exact h.st, by rw [e.lost, e.cfg]; exact h.conn, by rw [e.cfg]; exact h.am,
    by unfold S.masksFrames; rw [e.cfg]; exact h.mask⟩

theorem SenderOk.maskKey {c : Ctx} {s : S} (h : SenderOk c s) : maskOk c (drawKey s).2.isSome = true := by
  rw [drawKey_isSome]; exact h.mask

theorem SenderOk.frame_Wrote {c : Ctx} {s : S} (h : SenderOk c s) (op : Nat) (pl : Bytes) (fin sync : Bool)
    (hlen : pl.length < 2 ^ 63) :
    ∃ raw, encodeFrame fin 0 op (drawKey s).2 c.applyMask pl = some raw ∧ Wrote s (sendFrame s op pl fin 0 sync) raw := by
  obtain ⟨raw, henc⟩ := encodeFrame_some fin 0 op (drawKey s).2 c.applyMask pl hlen
  exact ⟨raw, henc, sendFrame_Wrote s op pl fin 0 sync 0 raw (by rw [← h.am]; exact henc)⟩

/-- `sendFrags` writes its fragments as the frames of one message -/
theorem sendFrags_framed {c : Ctx} (binary sync : Bool) (last : Bytes) :
    ∀ (init : List (Bytes × Bool)) (s : S) (first : Bool), SenderOk c s → (∀ x ∈ init, x.2 = false) →
      (∀ x ∈ init ++ [(last, true)], x.1.length < 2 ^ 63) →
      ∃ W, Wrote s (sendFrags s (if binary then 2 else 1) sync (init ++ [(last, true)]) first) W ∧
        Framed c binary first ((init ++ [(last, true)]).map (·.1)) W := by
  intro init
  induction init with
  | nil =>
    intro s first hs _ hlen
    obtain ⟨raw, henc, hw⟩ := hs.frame_Wrote (if first then (if binary then 2 else 1) else 0) last true sync
      (hlen (last, true) (by simp))
    exact ⟨raw, by unfold sendFrags sendFrags; exact hw, .last hs.maskKey henc⟩
  | cons x rest ih =>
    intro s first hs hfins hlen
    obtain ⟨p, f⟩ := x
    cases hfins (p, f) (by simp)
    obtain ⟨raw, henc, hw⟩ := hs.frame_Wrote (if first then (if binary then 2 else 1) else 0) p false sync
      (hlen (p, false) (by simp))
    obtain ⟨W, hws, hfr⟩ := ih (sendFrame s (if first then (if binary then 2 else 1) else 0) p false 0 sync) false
      (hs.of_ApiEq hw.eq) (fun x hx => hfins x (by simp [hx]))
      (fun x hx => hlen x (by simp only [List.cons_append, List.mem_cons]; exact Or.inr hx))
    exact ⟨raw ++ W, by simp only [List.cons_append]; unfold sendFrags; exact hw.trans hws, .more hs.maskKey henc hfr⟩

/-- the effective fragment size of `sendMessage` -/
def effFrag (s : S) (fs : Option Nat) : Option Nat :=
  match fs with
  | some f => some f
  | none => if s.cfg.autoFragment > 0 then some s.cfg.autoFragment else none

theorem effFrag_pos {s : S} {fs : Option Nat} {f : Nat} (h : effFrag s fs = some f) (h0 : fs ≠ some 0) : 1 ≤ f := by
  unfold effFrag at h
  cases fs with
  | some g =>
    cases h
    exact Nat.pos_of_ne_zero fun hg => h0 (by rw [hg])
  | none =>
    by_cases hpos : s.cfg.autoFragment > 0
    · simp only [hpos, if_true, Option.some.injEq] at h
      rw [← h]; exact hpos
    · simp [hpos] at h

/-- what makes a message acceptable: to the sender's own limit, to the encoder, and to the receiver `c` -/
structure MsgOk (c : Ctx) (s : S) (pl : Bytes) (binary : Bool) (fs : Option Nat) : Prop where
  own : ¬ (0 < s.cfg.maxMsg ∧ s.cfg.maxMsg < pl.length)
  frag : fs ≠ some 0
  len : pl.length < 2 ^ 63
  msgLimit : ¬ (0 < c.maxMsg ∧ c.maxMsg < pl.length)
  frameLimit : ¬ (0 < c.maxFrame ∧ c.maxFrame < pl.length)
  utf8 : (!binary && c.utf8validate) = true → utf8Valid pl = true

/-- of the sender, `MsgOk` reads only its own message limit -/
theorem MsgOk.of_cfg {c : Ctx} {a b : S} {pl : Bytes} {binary : Bool} {fs : Option Nat} (h : MsgOk c a pl binary fs)
    (e : b.cfg = a.cfg) : MsgOk c b pl binary fs := { h with own := by rw [e]; exact h.own }

/-- `sendMessage` writes the payload as the frames of one message (so none is longer than the payload) -/
theorem sendMessage_framed {c : Ctx} {s : S} {pl : Bytes} {binary : Bool} {fs : Option Nat} (sync : Bool)
    (hs : SenderOk c s) (hown : ¬ (0 < s.cfg.maxMsg ∧ s.cfg.maxMsg < pl.length)) (hfrag : fs ≠ some 0)
    (hlen : pl.length < 2 ^ 63) :
    ∃ ps W, ps.flatten = pl ∧ Wrote s (sendMessage s pl binary fs sync) W ∧ Framed c binary true ps W := by
  have single : ∃ ps W, ps.flatten = pl ∧ Wrote s (sendFrame s (if binary then 2 else 1) pl true 0 sync) W ∧
      Framed c binary true ps W := by
    obtain ⟨raw, henc, hw⟩ := hs.frame_Wrote (if binary then 2 else 1) pl true sync hlen
    exact ⟨[pl], raw, by simp, hw, .last hs.maskKey henc⟩
  unfold sendMessage
  have hst : ¬ s.st ≠ .opened := not_not_intro hs.st
  have hown' : (decide (0 < s.cfg.maxMsg) && decide (s.cfg.maxMsg < pl.length)) = false := by simpa using hown
  simp only [hst, if_false, hown', Bool.false_eq_true]
  split
  · exact single
  · rename_i f hfs
    by_cases hle : pl.length ≤ f
    · simp only [hle, if_true]; exact single
    · have hf1 : 1 ≤ f := effFrag_pos (s := s) (fs := fs) hfs hfrag   -- the `match` of `sendMessage` is `effFrag s fs`
      simp only [hle, if_false, Nat.not_lt.mpr hf1]
      obtain ⟨init, last, efr, hall⟩ := fragments_fin f pl.length pl
      have hcat := fragments_concat f hf1 pl.length pl (Nat.le_refl _)
      rw [efr] at hcat ⊢
      obtain ⟨W, hw, hfr⟩ := sendFrags_framed binary sync last init s true hs (fun x hx => (hall x hx).1)
        (fun x hx => Nat.lt_of_le_of_lt
          (hcat ▸ (List.sublist_flatten_of_mem (List.mem_map_of_mem hx)).length_le) hlen)
      exact ⟨_, W, hcat, hw, hfr⟩

/-! ### prepared messages (`factory.prepareMessage` + `sendPreparedMessage`) -/

/-- `sendPreparedMessage` writes the frame built at prepare time -/
theorem sendPrepared_framed {c : Ctx} {s : S} (pl : Bytes) (binary : Bool) (hst : s.st = .opened)
    (ham : c.applyMask = true) (hmask : maskOk c (!s.cfg.isServer) = true) (hlen : pl.length < 2 ^ 63) :
    ∃ W, Wrote s (sendPrepared s pl binary) W ∧ Framed c binary true [pl] W := by
  obtain ⟨raw, henc⟩ := encodeFrame_some true 0 (if binary then 2 else 1) (prepareKey s).2 true pl hlen
  exact ⟨raw, sendPrepared_Wrote s pl binary raw hst henc,
    .last (by rw [prepareKey_isSome]; exact hmask) (by rw [ham]; exact henc)⟩

/-! ### the streaming API (`beginMessage`, `sendMessageFrame`*, `endMessage`) -/

/-- the sender is inside a streamed message -/
structure StreamSt (c : Ctx) (s : S) (binary first : Bool) : Prop where
  ok : SenderOk c s
  begun : s.begun = true
  op : s.sendOpcode = (if binary then 2 else 1)
  sendSt : s.sendSt = (if first then .messageBegin else .insideMessage)

/-- `beginMessage` on an acceptable sender in the ground send state enters the stream and writes nothing -/
theorem StreamSt.begin {c : Ctx} {s : S} (binary : Bool) (hs : SenderOk c s) (hg : s.sendSt = .ground) :
    Wrote s (beginMessage s binary) [] ∧ StreamSt c (beginMessage s binary) binary true := by
  unfold beginMessage
  rw [if_neg (not_not_intro hs.st), if_neg (not_not_intro hg)]
  exact ⟨Wrote.quiet rfl rfl, { ok := hs.of_ApiEq rfl, begun := rfl, op := rfl, sendSt := rfl }⟩

/-- `endMessage` between frames leaves the stream with an empty final continuation frame -/
theorem StreamSt.endMessage_framed {c : Ctx} {s : S} {binary : Bool} (h : StreamSt c s binary false) :
    ∃ W, Wrote s (endMessage s) W ∧ Framed c binary false [[]] W := by
  obtain ⟨raw, henc, hw⟩ := h.ok.frame_Wrote 0 [] true false (by simp)
  unfold endMessage
  rw [if_neg (not_not_intro h.ok.st), h.begun]
  exact ⟨raw, hw.post rfl rfl, .last h.ok.maskKey henc⟩

/-- inside the stream one `sendMessageFrame(payload)` is `beginMessageFrame(len)` followed by `sendMessageFrameData` of the
whole payload: header and masked chunk together are the frame `encodeFrame` builds with FIN clear, and the sender is
between frames again -/
theorem sendMessageFrame_Wrote (c : Ctx) (s : S) (binary first sync : Bool) (pl : Bytes) (h : StreamSt c s binary first)
    (hlen : pl.length < 2 ^ 63) :
    ∃ raw, encodeFrame false 0 (if first then (if binary then 2 else 1) else 0) (drawKey s).2 c.applyMask pl = some raw ∧
      Wrote s (sendMessageFrame s pl sync) raw ∧ StreamSt c (sendMessageFrame s pl sync) binary false := by
  obtain ⟨l7, el, hel⟩ := encodeLen_some pl.length hlen
  -- the header: `s'` is inside the frame (`e1`)
  obtain ⟨s', hcore, hw, e1⟩ := beginMessageFrameCore_Wrote s pl.length l7 el (by rw [h.sendSt]; cases first <;> simp) hel
  have hop : (if s.sendSt = .messageBegin then s.sendOpcode else 0) = (if first then (if binary then 2 else 1) else 0) := by
    rw [h.sendSt, h.op]; cases first <;> simp
  rw [hop] at hw
  have hok : SenderOk c s' := h.ok.of_ApiEq hw.eq
  -- the payload fills the frame, which is left (`e2`)
  obtain ⟨hw2, e2⟩ := sendMessageFrameData_Wrote s' pl sync hok.st (e1.begun.trans h.begun) e1.sendSt
    (by rw [e1.framePtr, e1.frameLen]; exact Nat.zero_add _)
  have hs : sendMessageFrame s pl sync = sendMessageFrameData s' pl sync := by
    unfold sendMessageFrame
    have hst : ¬ s.st ≠ .opened := not_not_intro h.ok.st
    simp only [hst, if_false, h.begun, Bool.not_true, Bool.false_eq_true, hcore]
  rw [hs]
  exact ⟨_, encodeFrame_stream s' _ l7 el _ _ pl hel e1.frameKey e1.framePtr (by rw [h.ok.am]; exact e1.frameMasking),
    hw.trans hw2,
    { ok := hok.of_ApiEq hw2.eq, begun := e2.begun.trans (e1.begun.trans h.begun),
      op := e2.sendOpcode.trans (e1.sendOpcode.trans h.op), sendSt := e2.sendSt }⟩

/-- `sendMessageFrame` for each of `ps`, then `endMessage` (an empty final continuation frame): the frames of one
message; before the first frame of the message (`first`) at least one `sendMessageFrame` is needed -/
theorem stream_framed {c : Ctx} (binary sync : Bool) :
    ∀ (ps : List Bytes) (s : S) (first : Bool), StreamSt c s binary first → (first = true → ps ≠ []) →
      (∀ p ∈ ps, p.length < 2 ^ 63) →
      ∃ W, Wrote s (endMessage (ps.foldl (fun s p => sendMessageFrame s p sync) s)) W ∧
        Framed c binary first (ps ++ [[]]) W := by
  intro ps
  induction ps with
  | nil =>
    intro s first hs hne _
    cases first with
    | true => exact absurd rfl (hne rfl)
    | false => exact hs.endMessage_framed
  | cons p rest ih =>
    intro s first hs _ hlen
    obtain ⟨raw, henc, hw, hs'⟩ := sendMessageFrame_Wrote c s binary first sync p hs (hlen p (by simp))
    obtain ⟨W, hws, hfr⟩ := ih (sendMessageFrame s p sync) false hs' (fun h => by cases h)
      (fun q hq => hlen q (by simp [hq]))
    exact ⟨raw ++ W, hw.trans hws, .more hs.ok.maskKey henc hfr⟩

end Abverif.Ws

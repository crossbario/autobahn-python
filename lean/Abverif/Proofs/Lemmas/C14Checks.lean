import Abverif.Proofs.Lemmas.C14Step
/-!
C14 — every step of the model is accepted by the seven checks of `ChecksOK` and re-establishes the relation `Rel`
between the model state and the Spec bookkeeping.
-/
namespace Abverif.Comp
open Spec

theorem ChecksOK.monitor (c : Conf) : Monitor c (ChecksOK c) := ⟨ChecksOK.append, ChecksOK.quiet c⟩

abbrev StepOK (c : Conf) (k : Core) (r : State × List Obs) : Prop := Accepted c (ChecksOK c) (Rel c) k r

theorem attempt_ok {c : Conf} {s : State} {k : Core} (h : RelT c s.trs s.done k) {i : Nat} {w : Q}
    (ch : Chosen c k s.cursor i w) : StepOK c k (attemptConnect i w s) := by
  obtain ⟨hfirst, hdelay, hrr, hcur⟩ := ch
  refine ⟨?_, ⟨?_, ?_⟩⟩
  · show ChecksOK c k [.att i w s.now]
    have he : elig c k i = true := by simpa using List.find?_some hrr
    simp only [elig, Bool.and_eq_true] at he
    refine ⟨?_, ?_, ?_, ?_, fun hnn => ?_, ?_, ?_⟩
    · simpa [specAll, finTrue, chkBudget] using he.2
    · simpa [specAll, finTrue, chkFatal] using he.1
    · simpa [specAll, finTrue, chkFirst] using hfirst
    · simp [specAll, finTrue, chkDoneOnce]
    · simpa [specAll, finTrue, chkDelay] using hdelay (hnn i)
    · simp [specAll, finTrue, chkRoundRobin, hrr]
    · simp [specAll, finTrue, chkGiveUp]
  · simpa [attemptConnect, feedAll] using h.att i w s.now
  · simp [PhaseOK, attemptConnect, feedAll, Core.feed, startOf, hcur]

theorem done_checks_true {c : Conf} {k : Core} (hd : k.done = none) :
    ChecksOK c k [.done true] :=
  ⟨rfl, rfl, rfl, by simp [specAll, finTrue, chkDoneOnce, hd], fun _ => rfl, rfl, rfl⟩

theorem done_checks_false {c : Conf} {trs : List Tr} {k : Core} (h : RelT c trs none k)
    (hany : trs.any Tr.canReconnect = false) : ChecksOK c k [.done false] :=
  ⟨rfl, rfl, rfl, by simp [specAll, finTrue, chkDoneOnce, h.done_eq], fun _ => rfl, rfl,
    by simp [specAll, finTrue, chkGiveUp, anyElig_eq h, hany]⟩

theorem finish_ok {c : Conf} {s s' : State} {k : Core} {ok : Bool} (hT : RelT c s.trs s.done k)
    (hd : s.done = none) (hchk : ChecksOK c k [.done ok]) (htrs : s'.trs = s.trs) (hdone : s'.done = some ok)
    (hph : s'.phase = .dead) : StepOK c k (s', [.done ok]) := by
  rw [hd] at hT
  refine ⟨hchk, ⟨?_, ?_⟩⟩
  · rw [htrs, hdone]; exact hT.setDone
  · simp [PhaseOK, hph, hdone]

theorem ended_ok {c : Conf} {s s' : State} {k : Core} {b : Bool} {l : List Obs} (hT : RelT c s.trs s.done k)
    (hd : s.done = some b) (hl : ∀ o ∈ l, o.neutral = true) (htrs : s'.trs = s.trs) (hdone : s'.done = some b)
    (hph : s'.phase = .dead) : StepOK c k (s', l) := by
  refine ⟨ChecksOK.quiet _ _ _ (fun o ho => neutral_quiet o (hl o ho)), ⟨?_, ?_⟩⟩
  · show RelT c s'.trs s'.done (feedAll c k l)
    rw [htrs, hdone, ← hd, feedAll_neutral _ _ _ hl]; exact hT
  · simp [PhaseOK, hph, hdone]

theorem tc_ok {c : Conf} {s : State} {k : Core} (h : RelM c s k) :
    StepOK c k (transportCheck s) := by
  have hT := h.t
  have hcs := tc_cases s
  generalize transportCheck s = r at hcs ⊢
  cases hcs with
  | stopped hs =>
    unfold stopCheck
    cases hd : s.done with
    | none => exact finish_ok hT hd (done_checks_true (by rw [hT.done_eq, hd])) rfl rfl rfl
    | some b => exact ended_ok hT hd (by simp) rfl rfl rfl
  | giveUp _ hany =>
    unfold setDone
    cases hd : s.done with
    | none => exact finish_ok hT hd (done_checks_false (hd ▸ hT) hany) rfl rfl rfl
    | some b => dsimp only; exact ended_ok hT hd (by simp [Obs.neutral]) rfl hd rfl
  | wait _ i t t' d hpick hget hnd =>
    obtain ⟨hT', ch⟩ := h.chosen hpick hget (Tr.nextDelay_facts t t' _ d hnd)
    exact ⟨ChecksOK.nil _ _, ⟨hT', ch⟩⟩
  | now _ i t t' d hpick hget hnd =>
    obtain ⟨hT', ch⟩ := h.chosen hpick hget (Tr.nextDelay_facts t t' _ d hnd)
    exact attempt_ok (s := tcState s i t t') hT'
      ⟨.inr Q.zero_isZero, Q.zero_le _, ch.2.2⟩

theorem failRetry_ok {c : Conf} {s : State} {k : Core} (h : RelM c s k) (i : Nat) (f : Bool) :
    StepOK c k (failRetry i f s) := by
  unfold failRetry
  split
  · have h1 : RelM c { s with trs := updAt Tr.failed s.trs i } (k.feed c (.fatal i)) :=
      ⟨h.t.fatal i, h.cur⟩
    exact (tc_ok h1).cons (ChecksOK.monitor c) _ rfl
  · exact tc_ok h

theorem sessionDone_ok {c : Conf} {s : State} {k : Core} (h : RelM c s k) (i : Nat) (f : Bool) :
    StepOK c k (sessionDone i f s) := by
  unfold sessionDone
  cases hd : s.done with
  | none => exact finish_ok h.t hd (done_checks_true (by rw [h.t.done_eq, hd])) rfl rfl rfl
  | some b =>
    dsimp only
    split
    · exact (failRetry_ok h i f).cons (ChecksOK.monitor c) _ rfl
    · exact ended_ok h.t hd (by simp [Obs.neutral]) rfl rfl rfl

/-- the relation when the retry logic runs at the end of a connection on transport `i` -/
theorem RelM.ended {c : Conf} {s : State} {k : Core} (h : RelM c s k) {joined : Bool} {g : Tr → Tr}
    (hg : EndsTr joined g) (i m : Nat) :
    RelM c { s with trs := updAt g s.trs i, nsess := m } (feedAll c k (joinMark joined i)) := by
  cases joined with
  | false => exact ⟨h.t.keep i g (fun t _ => hg t), h.cur⟩
  | true => exact ⟨h.t.join i g hg, h.cur⟩

theorem onStop_ok {c : Conf} {s : State} {k : Core} (h : Rel c s k) :
    StepOK c k (onStop s) := by
  have M := ChecksOK.monitor c
  have hs := h.feed_stop
  unfold onStop
  split
  · exact .skip M h
  · unfold setDone
    split
    · next hd =>
      exact .cons M _ rfl (finish_ok (s := { s with stopping := true }) hs.t hd
        (done_checks_true (by rw [hs.t.done_eq]; exact hd)) rfl rfl rfl)
    · next b hd =>
      exact .cons M _ rfl (ended_ok (s := { s with stopping := true }) hs.t hd (by simp [Obs.neutral]) rfl hd rfl)
  · next i hp =>
    split
    · next hd =>
      have hT := hs.t
      rw [hd] at hT
      refine Accepted.cons M _ rfl ⟨done_checks_true hT.done_eq, ⟨hT.setDone, ?_⟩⟩
      simpa [PhaseOK, hp, feedAll, Core.feed] using (h.live (.inl hp)).cur
    · exact Accepted.cons M _ rfl (.skip M hs.set_stopping)
  · next i hp =>
    refine Accepted.cons M _ rfl (.skip M ⟨hs.t, ?_⟩)
    simpa [PhaseOK, Core.feed] using (h.live (.inr (.inl hp))).cur
  · exact Accepted.cons M _ rfl (.skip M hs.set_stopping)

theorem step_ok {c : Conf} {s : State} {k : Core} (h : Rel c s k) (e : Event) :
    StepOK c k (step s e) := by
  have M := ChecksOK.monitor c
  have hcs := step_cases s e
  generalize step s e = r at hcs ⊢
  cases hcs with
  | skip => exact .skip M h
  | check hp => exact tc_ok (h.idle hp)
  | elapsed i d hp =>
    exact attempt_ok (s := { s with now := s.now.add d }) h.t (h.waiting hp)
  | stop => exact onStop_ok h
  | joined i f hp =>
    have hJ : RelM c _ (k.feed c (.join i)) :=
      (h.live (.inl hp)).ended EndsTr.reset i (s.nsess + 1)
    refine ⟨ChecksOK.quiet _ _ _ (joinedPre_quiet _ _ _), ⟨?_, ?_⟩⟩
    · show RelT c _ _ (feedAll c k (joinedPre _ _ _))
      rw [feedAll_joinedPre]; exact hJ.t
    · simp only [PhaseOK, feedAll_joinedPre]
      exact hJ.cur
  | retry i f joined g m pre post hl hg hlog hr =>
    subst hr
    exact (failRetry_ok ((h.live hl).ended hg i m) i f).around M hlog
  | raised i f g m pre post hl hg hlog hr =>
    subst hr
    have hM : RelM c _ (feedAll c k [.join i, .mainRaised i]) :=
      ((h.live hl).ended hg i m).core_congr rfl rfl rfl rfl rfl
    exact (failRetry_ok hM i f).around M hlog
  | finish i f joined g m pre post hl hg hlog hr =>
    subst hr
    refine (sessionDone_ok (k := feedAll c k (joinMark joined i ++ [.cleanEnd i])) ?_ i f).around M hlog
    rw [feedAll_append]
    exact ((h.live hl).ended hg i m).core_congr rfl rfl rfl rfl rfl

end Abverif.Comp

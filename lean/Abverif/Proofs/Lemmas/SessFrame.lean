import Abverif.Proofs.Lemmas.SessLiftX
/-
The request/reply side of the session model (the six request APIs, cancel, the reply branches of `onMessage`, EVENT
dispatch) neither touches the lifecycle / callee fields of the state (`Sess.life`) nor produces a lifecycle / callee
output (`lifeOut`) — except through what user code calls: it is `Quiet`. A relation that only reads those fields and
outputs gets that whole side from `LiftQ`: it holds of every `Quiet` step and of `join()`, `leave()`, `disconnect()`. What
these three do is a `LifeFrame` (`lifeApi_frame`); `lifeApi_lift` is `LiftQ.lifeApi` for a relation that tolerates one, and
`keepLiftQ` the whole `LiftQ` for a quantity they keep.
-/
namespace Abverif.Session
open Abverif.SessCodes

structure Life where
  mode : Sched
  transport : Bool
  sessionId : Option Nat
  goodbyeSent : Bool
  invs : List (ReqId × InvRec)
  faults : List SendOut
  progs : List ReqId
  ended : Bool
deriving DecidableEq

def Sess.life (s : Sess) : Life :=
  { mode := s.mode, transport := s.transport, sessionId := s.sessionId, goodbyeSent := s.goodbyeSent, invs := s.invs,
    faults := s.faults, progs := s.progs, ended := s.ended }

/-- outputs the request/reply side does not emit by itself: those of the lifecycle and of the callee side (every
failed `send()` included; exceptions, `userError` and `unmodelled` are emitted by both sides and are not in the class) -/
def lifeOut : SOut → Bool
  | .hook _ _ | .fire _ | .endpoint _ _ _ _ _ | .sendFail _ _ | .lost _ | .later _ | .transportClose => true
  | .send m => lcMsg m.typ
  | _ => false

structure Quiet (s : Sess) (o : List SOut) (s' : Sess) : Prop where
  life : s'.life = s.life
  outs : ∀ x ∈ o, lifeOut x = false
  queue : ∀ x ∈ s'.cbq, x ∈ s.cbq ∨ lifeOut x = false     -- what it queues is no lifecycle / callee output either

theorem Quiet.refl (s : Sess) : Quiet s [] s := ⟨rfl, by simp, fun x hx => Or.inl hx⟩

theorem Quiet.trans {s1 s2 s3 : Sess} {o1 o2 : List SOut} (h1 : Quiet s1 o1 s2) (h2 : Quiet s2 o2 s3) : Quiet s1 (o1 ++ o2) s3 :=
  ⟨h2.1.trans h1.1, fun x hx => by rcases List.mem_append.mp hx with h | h; exact h1.2 x h; exact h2.2 x h,
   fun x hx => by
    rcases h2.3 x hx with h | h
    · exact h1.3 x h
    · exact Or.inr h⟩

theorem Quiet.same {s s' : Sess} {o : List SOut} (h : s'.life = s.life) (hq : s'.cbq = s.cbq) (ho : ∀ x ∈ o, lifeOut x = false) :
    Quiet s o s' := ⟨h, ho, fun _ hx => Or.inl (hq ▸ hx)⟩

theorem Quiet.congr_left {s s1 s' : Sess} {o : List SOut} (q : Quiet s1 o s') (h : s1.life = s.life) (hq : s1.cbq = s.cbq) : Quiet s o s' :=
  ⟨q.1.trans h, q.2, fun x hx => hq ▸ q.3 x hx⟩

theorem lifeOut_toCaught (x : SOut) : lifeOut (toCaught x) = lifeOut x := by cases x <;> rfl

theorem Quiet.map_toCaught {s s' : Sess} {o : List SOut} (q : Quiet s o s') : Quiet s (o.map toCaught) s' := by
  refine ⟨q.1, fun x hx => ?_, q.3⟩
  obtain ⟨y, hy, rfl⟩ := List.mem_map.mp hx
  rw [lifeOut_toCaught]; exact q.2 y hy

theorem setTbl_life (s : Sess) (k : Kind) (t : Table) : (s.setTbl k t).life = s.life := by cases k <;> rfl

theorem emitCb_quiet (s : Sess) {o : SOut} (ho : lifeOut o = false) : Quiet s (emitCb s o).2 (emitCb s o).1 := by
  unfold emitCb
  split
  · exact Quiet.same rfl rfl (by simp [ho])
  · refine ⟨rfl, by simp, fun x hx => ?_⟩
    rcases List.mem_append.mp hx with h | h
    · exact Or.inl h
    · simp at h; subst h; exact Or.inr ho

theorem emitCb_life (s : Sess) (o : SOut) : (emitCb s o).1.life = s.life := by
  unfold emitCb; split <;> rfl

theorem settle_quiet (s : Sess) (f : FutId) (o : Outcome) : Quiet s (settle s f o).2 (settle s f o).1 := by
  obtain ⟨y, Q, _, e, hq, ho⟩ := settle_eq s f o
  rw [e]
  refine ⟨rfl, fun x hx => ?_, fun x hx => ?_⟩
  · rcases ho x hx with rfl | rfl | rfl | rfl <;> rfl
  · rcases hq with rfl | rfl
    · exact .inl hx
    · exact (List.mem_append.mp hx).imp id fun h => by rw [List.mem_singleton.mp h]; rfl

theorem rejectList_quiet (s : Sess) (o : Outcome) (fs : List FutId) : Quiet s (rejectList s o fs).2 (rejectList s o fs).1 := by
  induction fs generalizing s with
  | nil => exact Quiet.refl s
  | cons f fs ih =>
    rw [rejectList_cons]
    split
    · exact ih s
    · exact (settle_quiet s f o).trans (ih _)

theorem unwatch_life (s : Sess) (f : FutId) : (s.unwatch f).life = s.life := by
  unfold Sess.unwatch; split <;> rfl

theorem sendReq_quiet (s : Sess) (k : Kind) (id : ReqId) (m : OutMsg) (f : Option FutId) (keep : Bool) (snd : SendRes)
    (hm : lcMsg m.typ = false) : Quiet s (sendReq s k id m f keep snd).2 (sendReq s k id m f keep snd).1 := by
  have houts : ∀ (o2 : SOut), lifeOut o2 = false → ∀ x ∈ [SOut.send m, o2], lifeOut x = false := fun o2 h2 x hx =>
    (List.mem_cons.mp hx).elim (fun e => e ▸ hm) (fun hx => List.mem_singleton.mp hx ▸ h2)
  cases snd with
  | ok => exact Quiet.same rfl rfl (houts _ (by cases f <;> rfl))
  | raises =>
    refine Quiet.same ?_ ?_ (houts _ rfl)
    all_goals cases f <;> cases keep <;> simp [sendReq, setTbl_life, unwatch_life]

theorem request_quiet (s : Sess) (k : Kind) (mkReq : FutId → Req) (mkMsg : ReqId → OutMsg) (keep : Bool) (snd : SendRes)
    (hm : ∀ id, lcMsg (mkMsg id).typ = false) :
    Quiet s (request s k mkReq mkMsg keep snd).2 (request s k mkReq mkMsg keep snd).1 := by
  unfold request
  refine Quiet.congr_left (sendReq_quiet _ _ _ _ _ _ _ (hm _)) ?_ ?_
  · exact setTbl_life _ _ _
  · exact setTbl_cbq _ _ _

theorem futureSuccess_quiet (s : Sess) (k : Kind) (o : Outcome) : Quiet s (futureSuccess s k o).2 (futureSuccess s k o).1 :=
  Quiet.congr_left (s1 := { s with futs := s.futs ++ [{ kind := k, cell := some o, count := 1 }] })
    ((Quiet.same rfl rfl (o := [.complete s.futs.length o, .ret s.futs.length]) (by simp [lifeOut])).trans
      (emitCb_quiet _ (o := .callback s.futs.length o) rfl)) rfl rfl

theorem apiCancel_quiet (s : Sess) (f : FutId) : Quiet s (apiCancel s f).2 (apiCancel s f).1 := by
  have hout : ∀ x, cancelOut f x → lifeOut x = false := by
    rintro x (rfl | ⟨_, rfl⟩ | rfl | rfl) <;> rfl
  obtain ⟨F, Q, e, _, hq, ho⟩ := apiCancel_eq s f
  rw [e]
  exact ⟨rfl, fun x hx => hout x (ho x hx), fun x hx => (hq x hx).imp id (hout x)⟩

theorem quietLiftA : LiftA Quiet (fun _ => True) where
  trans := Quiet.trans
  post := fun _ _ => trivial
  raise := fun _ _ _ => Quiet.same rfl rfl (by simp [lifeOut])
  request := fun _ _ _ _ _ _ hm _ => request_quiet _ _ _ _ _ _ (fun id => lcMsg_of_isReqType (hm id).1)
  publishNoAck := fun _ _ hm _ _ => Quiet.congr_left (sendReq_quiet _ _ _ _ _ _ _ (by rw [hm]; rfl)) rfl rfl
  detach := fun _ _ _ => Quiet.same rfl rfl (by simp)
  futureSuccess := fun k o _ => futureSuccess_quiet _ k o
  cancel := fun f _ => apiCancel_quiet _ f

theorem apiStep_quiet (s : Sess) (a : Api) (ha : a.isLife = false) : Quiet s (apiStep s a).2 (apiStep s a).1 :=
  quietLiftA.api a ha trivial

/-- What a relation that reads only the lifecycle / callee fields (`Sess.life`) and outputs (`lifeOut`) must know to be
carried through the request/reply side: it holds of every `Quiet` step (`quiet`), and of `join()`, `leave()`, `disconnect()`
(`lifeApi`); `refl`, `trans`, `post`, `caught` are `Lift`'s, which it yields (`LiftQ.toLift`). -/
structure LiftQ (R : Sess → List SOut → Sess → Prop) (P : Sess → Prop) : Prop where
  refl : ∀ {s}, P s → R s [] s
  trans : ∀ {s1 o1 s2 o2 s3}, R s1 o1 s2 → R s2 o2 s3 → R s1 (o1 ++ o2) s3
  post : ∀ {s o s'}, P s → R s o s' → P s'
  caught : ∀ {s o s'}, R s o s' → R s (o.map toCaught) s'
  quiet : ∀ {s o s'}, P s → Quiet s o s' → R s o s'
  lifeApi : ∀ {s} (a : Api), a.isLife = true → P s → R s (apiStep s a).2 (apiStep s a).1

variable {R : Sess → List SOut → Sess → Prop} {P : Sess → Prop}

theorem LiftQ.toLift (L : LiftQ R P) : Lift R P where
  refl := L.refl
  trans := L.trans
  post := L.post
  caught := L.caught
  api := fun a h => by
    by_cases ha : a.isLife = true
    · exact L.lifeApi a ha h
    · exact L.quiet h (apiStep_quiet _ a (by simpa using ha))
  userError := fun h => L.quiet h (emitCb_quiet _ rfl)
  invoke := fun _ _ h _ => L.quiet h (Quiet.same rfl rfl (by simp [lifeOut]))

theorem ReplyBody.quiet {m : InMsg} {kind : Kind} {k : Sess → Req → Sess × List SOut} (hb : ReplyBody m kind k) (s : Sess)
    (r : Req) : Quiet s (k s r).2 (k s r).1 := by
  cases hb with
  | plain => exact settle_quiet _ _ _
  | registered id reg =>
    simp only []
    split
    · exact Quiet.congr_left (settle_quiet _ _ _) rfl rfl
    · exact Quiet.same rfl rfl (by simp [lifeOut])
  | _ => exact Quiet.congr_left (settle_quiet _ _ _) rfl rfl

theorem LiftQ.established (L : LiftQ R P) {s : Sess} (hs : P s) (beh : List HAct) (m : InMsg) (hm : m.isReplySide = true) :
    R s (onEstablished s beh m).2 (onEstablished s beh m).1 := by
  have out1 : ∀ x : SOut, lifeOut x = false → R s [x] s := fun x hx =>
    L.quiet hs (Quiet.same rfl rfl (List.forall_mem_singleton.mpr hx))
  exact onEstablished_elim (C := fun r => R s r.2 r.1) s beh hm
    (reply := fun _ _ _ _ hb _ _ => L.quiet hs (Quiet.congr_left (hb.quiet _ _) (setTbl_life ..) (setTbl_cbq ..)))
    (popped := fun _ _ => L.quiet hs (Quiet.same (setTbl_life ..) (setTbl_cbq ..) (by simp)))
    (violation := out1 _ rfl) (ignored := L.refl hs)
    (event := fun _ _ _ _ => L.toLift.dispatch hs _ _ _ _ _)
    (progress := fun _ _ => L.trans (out1 _ rfl) (L.toLift.runAct hs none _))

/-- a step that leaves the request/reply fields, the callee fields, `transport` and `mode` alone and emits session-lifecycle
outputs only -/
structure LifeFrame (s : Sess) (r : Sess × List SOut) : Prop where
  core : r.1.core = s.core
  callee : r.1.callee = s.callee
  transport : r.1.transport = s.transport
  mode : r.1.mode = s.mode
  outs : ∀ o ∈ r.2, sessOut o = true

theorem lifeApi_frame (s : Sess) (a : Api) (ha : a.isLife = true) : LifeFrame s (apiStep s a) := by
  have one : ∀ x : SOut, sessOut x = true → ∀ o ∈ [x], sessOut o = true :=
    fun x hx => List.forall_mem_singleton.mpr hx
  have nil : ∀ o ∈ ([] : List SOut), sessOut o = true := fun o ho => nomatch ho
  cases a with
  | join =>
    simp only [apiStep, apiJoin]
    split
    · exact ⟨rfl, rfl, rfl, rfl, one _ rfl⟩
    · split <;> exact ⟨rfl, rfl, rfl, rfl, one _ rfl⟩
  | leave =>
    simp only [apiStep, apiLeave]
    split
    · exact ⟨rfl, rfl, rfl, rfl, nil⟩
    · split
      · exact ⟨rfl, rfl, rfl, rfl, nil⟩
      · split <;> exact ⟨rfl, rfl, rfl, rfl, one _ rfl⟩
  | disconnect =>
    simp only [apiStep, apiDisconnect]
    split
    · exact ⟨rfl, rfl, rfl, rfl, one _ rfl⟩
    · exact ⟨rfl, rfl, rfl, rfl, nil⟩
  | _ => cases ha

/-- `LiftQ.lifeApi` for a relation that tolerates the session-lifecycle outputs and the lifecycle-field updates that
leave `transport` alone -/
theorem lifeApi_lift (trans : ∀ {s1 o1 s2 o2 s3}, R s1 o1 s2 → R s2 o2 s3 → R s1 (o1 ++ o2) s3)
    (out : ∀ {s : Sess} {os : List SOut}, P s → (∀ o ∈ os, sessOut o = true) → R s os s)
    (lc : ∀ {s s' : Sess}, P s → s'.core = s.core → s'.callee = s.callee → s'.transport = s.transport → R s [] s')
    {s : Sess} (a : Api) (ha : a.isLife = true) (hs : P s) : R s (apiStep s a).2 (apiStep s a).1 := by
  have f := lifeApi_frame s a ha
  have := trans (out hs f.outs) (lc hs f.core f.callee f.transport)
  rwa [List.append_nil] at this

/-- a quantity read off the lifecycle / callee fields that `join()`, `leave()`, `disconnect()` keep is kept by the whole
request/reply side and by whatever user code calls -/
theorem keepLiftQ {α : Type} (g : Life → α) (hg : ∀ s a, a.isLife = true → g (apiStep s a).1.life = g s.life) :
    LiftQ (fun s _ s' => g s'.life = g s.life) (fun _ => True) where
  refl := fun _ => rfl
  trans := fun h1 h2 => h2.trans h1
  post := fun _ _ => trivial
  caught := fun r => r
  quiet := fun _ q => by rw [q.life]
  lifeApi := fun a ha _ => hg _ a ha

end Abverif.Session

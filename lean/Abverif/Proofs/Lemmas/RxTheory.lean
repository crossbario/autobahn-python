import Abverif.Model.Rx
/-
Denotational semantics of the regex AST and correctness of the executable matcher:
  `matchesFull_iff : r.matchesFull s = true ↔ Rx.Lang r s`      (all `r`, all `s`)
The clauses of `Lang` in rewrite form (`lang_seq`, `lang_star`, …) are what the grammar proofs in `UriGrammar.lean` use.
The matcher is handled compositionally: `Advances s f L` says that the mask transformer `f` consumes one word of `L`,
and it is closed under the ways `run` combines transformers.
-/
namespace Abverif.Rx

/-- `k`-fold concatenation of a language -/
def Pow (L : List Char → Prop) : Nat → List Char → Prop
  | 0, w => w = []
  | k + 1, w => ∃ u v, w = u ++ v ∧ L u ∧ Pow L k v

theorem pow_zero {L : List Char → Prop} {w : List Char} : Pow L 0 w ↔ w = [] := Iff.rfl

theorem pow_succ {L : List Char → Prop} {k : Nat} {w : List Char} :
    Pow L (k + 1) w ↔ ∃ u v, w = u ++ v ∧ L u ∧ Pow L k v := Iff.rfl

/-- empty pieces can be dropped: at most `w.length` pieces are needed -/
theorem pow_bound {L : List Char → Prop} : ∀ (k : Nat) (w : List Char), Pow L k w → ∃ j, j ≤ w.length ∧ Pow L j w
  | 0, w, h => ⟨0, Nat.zero_le _, h⟩
  | k + 1, w, h => by
    obtain ⟨u, v, rfl, hu, hv⟩ := h
    obtain ⟨j, hj, hp⟩ := pow_bound k v hv
    cases u with
    | nil => exact ⟨j, by simpa using hj, by simpa using hp⟩
    | cons c cs =>
      refine ⟨j + 1, ?_, (c :: cs), v, rfl, hu, hp⟩
      simp only [List.length_append, List.length_cons]
      omega

/-- the language of a regex (standard); iteration is spelt with `Pow` so that each clause is its own
characterisation -/
def Rx.Lang : Rx → List Char → Prop
  | .eps, w => w = []
  | .cls C, w => ∃ c, w = [c] ∧ C.contains c = true
  | .seq a b, w => ∃ u v, w = u ++ v ∧ Rx.Lang a u ∧ Rx.Lang b v
  | .alt a b, w => Rx.Lang a w ∨ Rx.Lang b w
  | .star a, w => ∃ k, Pow (Rx.Lang a) k w
  | .plus a, w => ∃ k, Pow (Rx.Lang a) (k + 1) w
  | .opt a, w => w = [] ∨ Rx.Lang a w
  | .rep a m n, w => ∃ k, m ≤ k ∧ k ≤ n ∧ Pow (Rx.Lang a) k w

theorem lang_eps {w : List Char} : Rx.Lang .eps w ↔ w = [] := Iff.rfl

theorem lang_cls {C : CClass} {w : List Char} : Rx.Lang (.cls C) w ↔ ∃ c, w = [c] ∧ C.contains c = true := Iff.rfl

theorem lang_seq {a b : Rx} {w : List Char} :
    Rx.Lang (.seq a b) w ↔ ∃ u v, w = u ++ v ∧ Rx.Lang a u ∧ Rx.Lang b v := Iff.rfl

theorem lang_alt {a b : Rx} {w : List Char} : Rx.Lang (.alt a b) w ↔ Rx.Lang a w ∨ Rx.Lang b w := Iff.rfl

theorem lang_opt {a : Rx} {w : List Char} : Rx.Lang (.opt a) w ↔ w = [] ∨ Rx.Lang a w := Iff.rfl

theorem lang_star {a : Rx} {w : List Char} : Rx.Lang (.star a) w ↔ ∃ k, Pow (Rx.Lang a) k w := Iff.rfl

theorem lang_plus {a : Rx} {w : List Char} : Rx.Lang (.plus a) w ↔ ∃ k, Pow (Rx.Lang a) (k + 1) w := Iff.rfl

theorem lang_rep {a : Rx} {m n : Nat} {w : List Char} :
    Rx.Lang (.rep a m n) w ↔ ∃ k, m ≤ k ∧ k ≤ n ∧ Pow (Rx.Lang a) k w := Iff.rfl

/-- `Mem s m t`: `t` is the suffix of `s` at some live position of `m` -/
def Mem : List Char → Mask → List Char → Prop
  | _, [], _ => False
  | [], b :: _, t => b = true ∧ t = []
  | c :: cs, b :: bs, t => (b = true ∧ t = c :: cs) ∨ Mem cs bs t

theorem mem_nil_mask {s t : List Char} : Mem s [] t ↔ False := by
  cases s <;> simp [Mem]

theorem mem_nil_cons {b : Bool} {bs : Mask} {t : List Char} : Mem [] (b :: bs) t ↔ (b = true ∧ t = []) := by
  simp [Mem]

theorem mem_cons_cons {c : Char} {cs : List Char} {b : Bool} {bs : Mask} {t : List Char} :
    Mem (c :: cs) (b :: bs) t ↔ ((b = true ∧ t = c :: cs) ∨ Mem cs bs t) := by
  simp [Mem]

theorem mem_length : ∀ (s : List Char) (m : Mask) (t : List Char), Mem s m t → t.length ≤ s.length
  | s, [], t, h => (mem_nil_mask.1 h).elim
  | [], b :: _, t, h => by
    rw [mem_nil_cons] at h
    rw [h.2]
    exact Nat.le_refl _
  | c :: cs, b :: bs, t, h => by
    rw [mem_cons_cons] at h
    rcases h with ⟨_, rfl⟩ | h
    · exact Nat.le_refl _
    · have := mem_length cs bs t h
      simp only [List.length_cons]
      omega

theorem mem_single {s t : List Char} : Mem s [true] t ↔ t = s := by
  cases s with
  | nil => rw [mem_nil_cons]; simp
  | cons c cs => rw [mem_cons_cons, mem_nil_mask]; simp

theorem mem_none : ∀ (s : List Char) (m : Mask) (t : List Char), m.any id = false → ¬ Mem s m t
  | s, [], t, _ => fun h => mem_nil_mask.1 h
  | [], b :: bs, t, hm => by
    rw [mem_nil_cons]
    simp only [List.any_cons, id, Bool.or_eq_false_iff] at hm
    rintro ⟨hb, _⟩
    rw [hm.1] at hb
    cases hb
  | c :: cs, b :: bs, t, hm => by
    rw [mem_cons_cons]
    simp only [List.any_cons, id, Bool.or_eq_false_iff] at hm
    rintro (⟨hb, _⟩ | h)
    · rw [hm.1] at hb
      cases hb
    · exact mem_none cs bs t hm.2 h

theorem mem_union : ∀ (s : List Char) (a b : Mask) (t : List Char),
    Mem s (Mask.union a b) t ↔ (Mem s a t ∨ Mem s b t)
  | s, [], b, t => by
    rw [show Mask.union [] b = b by cases b <;> rfl, mem_nil_mask]
    simp
  | s, x :: xs, [], t => by
    rw [show Mask.union (x :: xs) [] = x :: xs by rfl, mem_nil_mask]
    simp
  | [], x :: xs, y :: ys, t => by
    rw [Mask.union]
    simp only [mem_nil_cons, Bool.or_eq_true]
    exact or_and_right
  | c :: cs, x :: xs, y :: ys, t => by
    rw [Mask.union]
    simp only [mem_cons_cons, Bool.or_eq_true, mem_union cs xs ys t]
    rw [or_and_right, or_or_or_comm]

/-- the first entry of a mask speaks for the whole subject only -/
theorem mem_cons_mask (s : List Char) (x : Bool) (r : Mask) (t : List Char) :
    Mem s (x :: r) t ↔ (x = true ∧ t = s) ∨ Mem s (false :: r) t := by
  cases s with
  | nil => simp only [mem_nil_cons, Bool.false_eq_true, false_and, or_false]
  | cons c cs => simp only [mem_cons_cons, Bool.false_eq_true, false_and, false_or]

theorem mem_step (C : CClass) : ∀ (s : List Char) (m : Mask) (t : List Char),
    Mem s (step C s m) t ↔ ∃ c, C.contains c = true ∧ Mem s m (c :: t)
  | s, [], t => by
    rw [show step C s [] = [false] by cases s <;> rfl]
    cases s <;>
      simp only [mem_nil_cons, mem_cons_cons, mem_nil_mask, Bool.false_eq_true, false_and, or_self, and_false,
        exists_false]
  | [], b :: bs, t => by
    rw [show step C [] (b :: bs) = [false] by rfl, mem_nil_cons]
    simp only [Bool.false_eq_true, false_and, mem_nil_cons, reduceCtorEq, and_false, exists_false]
  | c0 :: cs, b :: bs, t => by
    rw [show step C (c0 :: cs) (b :: bs) = false :: (b && C.contains c0) :: stepGo C cs bs by rfl,
      mem_cons_cons, mem_cons_mask, show false :: stepGo C cs bs = step C cs bs by rfl, mem_step C cs bs t]
    simp only [mem_cons_cons, Bool.and_eq_true, Bool.false_eq_true, false_and, false_or]
    constructor
    · rintro (⟨⟨hb, hc⟩, rfl⟩ | ⟨c, hc, h⟩)
      · exact ⟨c0, hc, .inl ⟨hb, rfl⟩⟩
      · exact ⟨c, hc, .inr h⟩
    · rintro ⟨c, hc, ⟨hb, he⟩ | h⟩
      · injection he with h1 h2
        subst h1
        exact .inl ⟨⟨hb, hc⟩, h2⟩
      · exact .inr ⟨c, hc, h⟩

theorem accepts_iff : ∀ (s : List Char) (m : Mask), accepts s m = true ↔ Mem s m []
  | s, [] => by
    rw [show accepts s [] = false by cases s <;> rfl, mem_nil_mask]
    simp
  | [], b :: bs => by
    rw [accepts, mem_nil_cons]
    simp
  | c :: cs, b :: bs => by
    rw [accepts, mem_cons_cons, accepts_iff cs bs]
    simp

/-- `f` moves every live position forward by one word of `L`, along the subject `s` -/
def Advances (s : List Char) (f : Mask → Mask) (L : List Char → Prop) : Prop :=
  ∀ m t, Mem s (f m) t ↔ ∃ u, L u ∧ Mem s m (u ++ t)

section advances
variable {s : List Char} {f g : Mask → Mask} {L L₁ L₂ : List Char → Prop}

theorem Advances.congr (hf : Advances s f L₁) (h : ∀ w, L₁ w ↔ L₂ w) : Advances s f L₂ := by
  intro m t
  rw [hf m t]
  exact exists_congr (fun u => and_congr_left' (h u))

theorem Advances.nil : Advances s (fun m => m) (fun w => w = []) := by
  intro m t
  constructor
  · intro h; exact ⟨[], rfl, h⟩
  · rintro ⟨u, rfl, h⟩; exact h

theorem Advances.comp (hf : Advances s f L₁) (hg : Advances s g L₂) :
    Advances s (fun m => g (f m)) (fun w => ∃ u v, w = u ++ v ∧ L₁ u ∧ L₂ v) := by
  intro m t
  rw [hg (f m) t]
  constructor
  · rintro ⟨v, hv, h⟩
    obtain ⟨u, hu, h⟩ := (hf m (v ++ t)).1 h
    exact ⟨u ++ v, ⟨u, v, rfl, hu, hv⟩, by rw [List.append_assoc]; exact h⟩
  · rintro ⟨w, ⟨u, v, rfl, hu, hv⟩, h⟩
    rw [List.append_assoc] at h
    exact ⟨v, hv, (hf m (v ++ t)).2 ⟨u, hu, h⟩⟩

theorem Advances.union (hf : Advances s f L₁) (hg : Advances s g L₂) :
    Advances s (fun m => Mask.union (f m) (g m)) (fun w => L₁ w ∨ L₂ w) := by
  intro m t
  rw [mem_union, hf m t, hg m t, ← exists_or]
  exact exists_congr (fun u => or_and_right.symm)

theorem Advances.powLe (hf : Advances s f L) : ∀ k : Nat, Advances s (iterU f k) (fun u => ∃ j, j ≤ k ∧ Pow L j u)
  | 0 => Advances.nil.congr (fun w => ⟨fun h => ⟨0, Nat.le_refl 0, h⟩, fun ⟨j, hj, h⟩ => by
      rw [Nat.le_zero.1 hj] at h
      exact h⟩)
  | k + 1 => by
    intro m t
    rw [iterU]
    cases hm : m.any id with
    | false =>
      rw [if_neg Bool.false_ne_true]
      constructor
      · intro h; exact (mem_none s m t hm h).elim
      · rintro ⟨u, _, h⟩; exact (mem_none s m _ hm h).elim
    | true =>
      rw [if_pos rfl, mem_union, hf.powLe k (f m) t]
      constructor
      · rintro (h | ⟨u, ⟨j, hj, hu⟩, h⟩)
        · exact ⟨[], ⟨0, Nat.zero_le _, rfl⟩, h⟩
        · obtain ⟨v, hv, h⟩ := (hf m (u ++ t)).1 h
          exact ⟨v ++ u, ⟨j + 1, by omega, v, u, rfl, hv, hu⟩, by rw [List.append_assoc]; exact h⟩
      · rintro ⟨w, ⟨j, hj, hw⟩, h⟩
        cases j with
        | zero =>
          rw [pow_zero] at hw
          subst hw
          exact .inl h
        | succ j =>
          obtain ⟨v, u, rfl, hv, hu⟩ := hw
          rw [List.append_assoc] at h
          exact .inr ⟨u, ⟨j, by omega, hu⟩, (hf m (u ++ t)).2 ⟨v, hv, h⟩⟩

theorem Advances.rep (hf : Advances s f L) (n : Nat) : ∀ lo : Nat,
    Advances s (fun m => iterU f n (iterN f lo m)) (fun w => ∃ k, lo ≤ k ∧ k ≤ lo + n ∧ Pow L k w)
  | 0 => (hf.powLe n).congr (fun w => exists_congr (fun k => by rw [Nat.zero_add, and_iff_right (Nat.zero_le k)]))
  | lo + 1 => by
    refine (hf.comp (hf.rep n lo)).congr (fun w => ?_)
    constructor
    · rintro ⟨u, v, rfl, hu, k, h1, h2, hv⟩
      exact ⟨k + 1, by omega, by omega, u, v, rfl, hu, hv⟩
    · rintro ⟨k, h1, h2, hk⟩
      cases k with
      | zero => omega
      | succ k =>
        obtain ⟨u, v, rfl, hu, hv⟩ := hk
        exact ⟨u, v, rfl, hu, k, by omega, by omega, hv⟩

/-- `|s|` rounds are enough for any number of repetitions: empty pieces can be dropped, and a word that leads to a
position of `s` is no longer than `s` -/
theorem Advances.star (hf : Advances s f L) : Advances s (iterU f s.length) (fun w => ∃ k, Pow L k w) := by
  intro m t
  rw [hf.powLe s.length m t]
  constructor
  · rintro ⟨u, ⟨j, _, hu⟩, h⟩
    exact ⟨u, ⟨j, hu⟩, h⟩
  · rintro ⟨u, ⟨k, hk⟩, h⟩
    obtain ⟨j, hj, hp⟩ := pow_bound k u hk
    have := mem_length s m _ h
    rw [List.length_append] at this
    exact ⟨u, ⟨j, by omega, hp⟩, h⟩

end advances

theorem run_advances : ∀ (r : Rx) (s : List Char), Advances s (run r s) (Rx.Lang r)
  | .eps, _ => Advances.nil
  | .cls C, s => by
    intro m t
    rw [run, mem_step]
    constructor
    · rintro ⟨c, hc, h⟩; exact ⟨[c], ⟨c, rfl, hc⟩, h⟩
    · rintro ⟨u, ⟨c, rfl, hc⟩, h⟩; exact ⟨c, hc, h⟩
  | .seq a b, s => (run_advances a s).comp (run_advances b s)
  | .alt a b, s => (run_advances a s).union (run_advances b s)
  | .opt a, s => Advances.nil.union (run_advances a s)
  | .star a, s => (run_advances a s).star
  | .plus a, s => by
    refine ((run_advances a s).comp (run_advances a s).star).congr (fun w => ?_)
    exact ⟨fun ⟨u, v, hw, hu, k, hv⟩ => ⟨k, u, v, hw, hu, hv⟩, fun ⟨k, u, v, hw, hu, hv⟩ => ⟨u, v, hw, hu, k, hv⟩⟩
  | .rep a lo hi, s => by
    intro m t
    rw [run]
    by_cases hlt : hi < lo
    · rw [if_pos hlt, mem_nil_mask]
      refine ⟨False.elim, ?_⟩
      rintro ⟨u, ⟨k, h1, h2, _⟩, _⟩
      omega
    · rw [if_neg hlt]
      refine (((run_advances a s).rep (hi - lo) lo).congr (fun w => ?_)) m t
      rw [show lo + (hi - lo) = hi by omega, lang_rep]

theorem matchesFull_iff (r : Rx) (s : List Char) : r.matchesFull s = true ↔ Rx.Lang r s := by
  unfold Rx.matchesFull
  rw [accepts_iff, run_advances]
  constructor
  · rintro ⟨u, hu, h⟩
    rw [mem_single, List.append_nil] at h
    subst h
    exact hu
  · intro h
    exact ⟨s, h, by rw [mem_single, List.append_nil]⟩

theorem matchesFull_eq_of_lang {r : Rx} {spec : List Char → Bool} {s : List Char}
    (h : Rx.Lang r s ↔ spec s = true) : r.matchesFull s = spec s := by
  rw [Bool.eq_iff_iff, matchesFull_iff, h]

end Abverif.Rx

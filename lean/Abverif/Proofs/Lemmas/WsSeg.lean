import Abverif.Proofs.Lemmas.WsExt
import Abverif.Proofs.C15
/-
What the segmentation and refinement proofs need about one payload chunk of a frame: failing by drop as an equation
(`violation_eq`, `Dropped`); `DeadSim`/`Sim`, the relations in which two runs are compared (`DeadSim` arises in two
ways: two states `Dropped` from the same state, and one CLOSED state kept with two different unread rests);
`consume`, the payload half of `processPayload`, in normal form for control frames (`consume_control`) and data frames
(`consume_data`, `afterChunk`); and how unmasking, the UTF-8 validator and `afterChunk` go over a chunk cut in two.
-/
namespace Abverif.Ws

theorem u8run_append (s : U8) (a b : Bytes) : u8run s (a ++ b) = u8run (u8run s a) b := by
  simp [u8run, List.foldl_append]

theorem U8.step_rej (b : UInt8) : U8.step .rej b = .rej := rfl

theorem u8run_rej (bs : Bytes) : u8run .rej bs = .rej := by
  induction bs with
  | nil => rfl
  | cons b bs ih => simpa [u8run, U8.step_rej] using ih

/-! ### failing by drop closes the connection -/

/-- `s'` is `s` after the connection has been failed by dropping it -/
structure Dropped (s s' : S) : Prop where
  st : s'.st = .closed
  log : s'.log = s.log ++ [.closedResolved, .closeConn true]
  lost : s'.lost = s.lost
  failed : s'.failedByMe = true

theorem failConnection_drop (s : S) (code : Nat) (hf : s.cfg.failByDrop = true) (hst : s.st ≠ .closed) :
    Dropped s (failConnection s code) := by
  rw [failConnection_fbd s code hf hst]
  exact ⟨rfl, rfl, rfl, rfl⟩

theorem failConnection_drop_of {s t : S} (hp : ParseEq s t) (code : Nat) (hf : s.cfg.failByDrop = true)
    (hst : s.st ≠ .closed) : Dropped s (failConnection t code) := by
  unfold ParseEq at hp
  have h := failConnection_drop t code (by rw [hp]; exact hf) (by rw [hp]; exact hst)
  exact ⟨h.st, by rw [h.log, hp], by rw [h.lost, hp], h.failed⟩

theorem failConnection_st (s : S) (code : Nat) (hf : s.cfg.failByDrop = true) : (failConnection s code).st = .closed := by
  by_cases hst : s.st = .closed
  · rw [failConnection_closed s code hst]; exact hst
  · exact (failConnection_drop s code hf hst).st

/-- every check of the receive path ends in `_protocol_violation` / `_invalid_payload`; under fail-by-drop the
connection is failed and processing stops.  With `failByDrop = false` `violation` returns `false` and processing goes
on behind the close frame sent: the root of F6.  The hypothesis enters the proofs here and in `failConnection_fbd`
(Lemmas/WsFrame.lean: what failing the connection does). -/
theorem violation_eq (s : S) (code : Nat) (hf : s.cfg.failByDrop = true) :
    violation s code = (failConnection s code, true) := by
  unfold violation; rw [hf]

/-- two states of a connection that is over look the same from outside -/
def DeadSim (a b : S) : Prop := a.st = .closed ∧ b.st = .closed ∧ a.log = b.log ∧ a.lost = b.lost

/-- equal, or both over with the same history -/
def Sim (a b : S) : Prop := a = b ∨ DeadSim a b

theorem Dropped.deadSim {s a b : S} (ha : Dropped s a) (hb : Dropped s b) : DeadSim a b :=
  ⟨ha.st, hb.st, ha.log.trans hb.log.symm, ha.lost.trans hb.lost.symm⟩

namespace DeadSim
variable {a b c : S}

theorem closed_left (h : DeadSim a b) : a.st = .closed := h.1
theorem closed_right (h : DeadSim a b) : b.st = .closed := h.2.1
theorem log (h : DeadSim a b) : a.log = b.log := h.2.2.1
theorem lost (h : DeadSim a b) : a.lost = b.lost := h.2.2.2

theorem refl_of_closed (a : S) (h : a.st = .closed) : DeadSim a a := ⟨h, h, rfl, rfl⟩

theorem symm (h : DeadSim a b) : DeadSim b a := ⟨h.closed_right, h.closed_left, h.log.symm, h.lost.symm⟩

theorem trans (h1 : DeadSim a b) (h2 : DeadSim b c) : DeadSim a c :=
  ⟨h1.closed_left, h2.closed_right, h1.log.trans h2.log, h1.lost.trans h2.lost⟩

end DeadSim

namespace Sim
variable {a b c : S}

theorem refl (a : S) : Sim a a := Or.inl rfl

theorem symm (h : Sim a b) : Sim b a := h.elim (fun e => Or.inl e.symm) (fun d => Or.inr d.symm)

theorem trans (h1 : Sim a b) (h2 : Sim b c) : Sim a c := by
  rcases h1 with rfl | h1
  · exact h2
  · rcases h2 with rfl | h2
    · exact Or.inr h1
    · exact Or.inr (h1.trans h2)

theorem log (h : Sim a b) : a.log = b.log := by
  rcases h with rfl | h
  · rfl
  · exact h.log

theorem st (h : Sim a b) : a.st = b.st := by
  rcases h with rfl | h
  · rfl
  · rw [h.closed_left, h.closed_right]

end Sim

/-! ### consuming payload octets of the current frame is compositional -/

/-- the payload part of `processPayload`: advance the masker pointer by the chunk and hand the unmasked chunk to
`onFrameData` -/
def consume (s : S) (h : Hdr) (chunk : Bytes) : S × Bool :=
  onFrameData { s with ptr := s.ptr + chunk.length } h (unmaskChunk s h chunk)

theorem unmaskChunk_append (s : S) (h : Hdr) (a b : Bytes) :
    unmaskChunk s h (a ++ b) = unmaskChunk s h a ++ unmaskChunk { s with ptr := s.ptr + a.length } h b := by
  unfold unmaskChunk
  split
  · split
    · rename_i k _
      exact (Abverif.Xor.process_append k s.ptr a b).1
    · rfl
  · rfl

theorem utf8Step_eq (s : S) (p : Bytes) (hf : s.cfg.failByDrop = true) :
    utf8Step s p =
      if (s.utf8On && !s.msgCompressed) && utf8Bad s p then (failConnection (setUtf8 s p) 1007, false)
      else (if s.utf8On && !s.msgCompressed then setUtf8 s p else s, true) := by
  unfold utf8Step
  rw [violation_eq (setUtf8 s p) 1007 hf]
  cases (s.utf8On && !s.msgCompressed) <;> cases utf8Bad s p <;> rfl

theorem utf8Bad_append (s : S) (a b : Bytes) (ha : a ≠ []) (hga : utf8Bad s a = false) :
    utf8Bad s (a ++ b) = utf8Bad (setUtf8 s a) b := by
  unfold utf8Bad at *
  have hu : (setUtf8 s a).utf8 = u8run s.utf8 a := rfl
  rw [hu, u8run_append]
  have hna : u8run s.utf8 a ≠ .rej := by
    intro hr
    have : a.isEmpty = false := by
      cases a with
      | nil => exact absurd rfl ha
      | cons _ _ => rfl
    simp [hr, this] at hga
  cases b with
  | nil =>
    have h1 : u8run (u8run s.utf8 a) [] = u8run s.utf8 a := rfl
    simp [h1, hna]
  | cons x xs =>
    have : (a ++ x :: xs).isEmpty = false := by cases a <;> rfl
    simp [this]

theorem utf8Bad_append_bad (s : S) (a b : Bytes) (hba : utf8Bad s a = true) : utf8Bad s (a ++ b) = true := by
  unfold utf8Bad at *
  simp only [Bool.and_eq_true, decide_eq_true_eq, Bool.not_eq_true'] at hba ⊢
  refine ⟨by rw [u8run_append, hba.1, u8run_rej], ?_⟩
  cases a with
  | nil => simp at hba
  | cons _ _ => rfl

theorem setUtf8_append (s : S) (a b : Bytes) (ha : a ≠ []) (hga : utf8Bad s a = false) :
    setUtf8 (setUtf8 s a) b = setUtf8 s (a ++ b) := by
  have hb := utf8Bad_append s a b ha hga
  have e1 : setUtf8 (setUtf8 s a) b =
      { s with utf8 := u8run (u8run s.utf8 a) b, utf8Ok := !(utf8Bad (setUtf8 s a) b),
               utf8Ends := u8run (u8run s.utf8 a) b = .s0 } := rfl
  have e2 : setUtf8 s (a ++ b) =
      { s with utf8 := u8run s.utf8 (a ++ b), utf8Ok := !(utf8Bad s (a ++ b)),
               utf8Ends := u8run s.utf8 (a ++ b) = .s0 } := rfl
  rw [e1, e2, hb, u8run_append]

theorem onMessageFrameData_proj (s : S) (p : Bytes) :
    (onMessageFrameData s p).ptr = s.ptr ∧ (onMessageFrameData s p).unmask = s.unmask ∧
    (onMessageFrameData s p).st = s.st ∧ (onMessageFrameData s p).cfg = s.cfg ∧
    (onMessageFrameData s p).utf8On = s.utf8On ∧ (onMessageFrameData s p).msgCompressed = s.msgCompressed ∧
    (onMessageFrameData s p).utf8 = s.utf8 ∧ (onMessageFrameData s p).failedByMe = s.failedByMe := by
  unfold onMessageFrameData; split <;> simp

theorem unmaskChunk_congr (a b : S) (h : Hdr) (c : Bytes) (h1 : a.unmask = b.unmask) (h2 : a.ptr = b.ptr) :
    unmaskChunk a h c = unmaskChunk b h c := by
  unfold unmaskChunk; rw [h1, h2]

theorem consume_control (s : S) (h : Hdr) (c : Bytes) (hc : h.opcode > 7) :
    consume s h c = ({ s with ptr := s.ptr + c.length, controlData := s.controlData ++ unmaskChunk s h c }, true) := by
  simp [consume, onFrameData, hc]

theorem consume_append_control (s : S) (h : Hdr) (a b : Bytes) (hc : h.opcode > 7) :
    consume (consume s h a).1 h b = consume s h (a ++ b) := by
  rw [consume_control s h a hc, consume_control s h (a ++ b) hc, consume_control _ h b hc, unmaskChunk_append s h a b]
  have : unmaskChunk { s with ptr := s.ptr + a.length, controlData := s.controlData ++ unmaskChunk s h a } h b
      = unmaskChunk { s with ptr := s.ptr + a.length } h b := unmaskChunk_congr _ _ _ _ rfl rfl
  rw [this]
  simp [List.append_assoc, Nat.add_assoc]

theorem unmaskChunk_length (s : S) (h : Hdr) (c : Bytes) : (unmaskChunk s h c).length = c.length := by
  unfold unmaskChunk
  split
  · split
    · exact Abverif.Xor.spec_length _ _ _
    · rfl
  · rfl

theorem unmaskChunk_ne_nil (s : S) (h : Hdr) (c : Bytes) (hc : c ≠ []) : unmaskChunk s h c ≠ [] := by
  intro he
  have := unmaskChunk_length s h c
  rw [he] at this
  cases c with
  | nil => exact hc rfl
  | cons _ _ => simp at this

/-- the data-frame state after a chunk that does not fail UTF-8 validation, in normal form -/
def afterChunk (s : S) (n : Nat) (u : Bytes) : S :=
  { s with ptr := s.ptr + n,
           utf8 := if s.utf8On && !s.msgCompressed then u8run s.utf8 u else s.utf8,
           utf8Ok := if s.utf8On && !s.msgCompressed then true else s.utf8Ok,
           utf8Ends := if s.utf8On && !s.msgCompressed then decide (u8run s.utf8 u = .s0) else s.utf8Ends,
           frameData := if s.failedByMe then s.frameData else s.frameData ++ u }

theorem onMessageFrameData_eq (s : S) (p : Bytes) :
    onMessageFrameData s p = { s with frameData := if s.failedByMe then s.frameData else s.frameData ++ p } := by
  unfold onMessageFrameData
  rcases Bool.eq_false_or_eq_true s.failedByMe with h | h
  · rw [if_neg (by rw [h]; decide), if_pos h]
  · rw [if_pos (by rw [h]; rfl), if_neg (by rw [h]; decide)]

theorem afterChunk_on (s : S) (n : Nat) (u : Bytes) (hon : (s.utf8On && !s.msgCompressed) = true) :
    afterChunk s n u =
      onMessageFrameData
        { s with ptr := s.ptr + n, utf8 := u8run s.utf8 u, utf8Ok := true, utf8Ends := decide (u8run s.utf8 u = .s0) }
        u := by
  rw [onMessageFrameData_eq]
  unfold afterChunk
  rw [hon]
  rfl

theorem afterChunk_off (s : S) (n : Nat) (u : Bytes) (hoff : (s.utf8On && !s.msgCompressed) = false) :
    afterChunk s n u = onMessageFrameData { s with ptr := s.ptr + n } u := by
  rw [onMessageFrameData_eq]
  unfold afterChunk
  rw [hoff]
  rfl

theorem utf8Bad_ptr (s : S) (n : Nat) (p : Bytes) : utf8Bad { s with ptr := n } p = utf8Bad s p := rfl

/-- a payload chunk of a data frame: the validator rejects it and the connection is failed, or it joins the frame -/
theorem consume_data (s : S) (h : Hdr) (c : Bytes) (hd : ¬ h.opcode > 7) (hf : s.cfg.failByDrop = true) :
    consume s h c =
      if (s.utf8On && !s.msgCompressed) && utf8Bad s (unmaskChunk s h c)
      then (failConnection (setUtf8 { s with ptr := s.ptr + c.length } (unmaskChunk s h c)) 1007, false)
      else (afterChunk s c.length (unmaskChunk s h c), true) := by
  have e := utf8Step_eq { s with ptr := s.ptr + c.length } (unmaskChunk s h c) hf
  change _ = if (s.utf8On && !s.msgCompressed) && utf8Bad s (unmaskChunk s h c) then _
    else (if s.utf8On && !s.msgCompressed then _ else _, true) at e
  unfold consume onFrameData
  rw [if_neg hd, e]
  cases hon : (s.utf8On && !s.msgCompressed)
  · rw [afterChunk_off _ _ _ hon]; rfl
  · cases hb : utf8Bad s (unmaskChunk s h c)
    · rw [afterChunk_on _ _ _ hon]
      simp only [Bool.and_false, Bool.false_eq_true, if_false, Bool.not_true, if_true, setUtf8, utf8Bad_ptr, hb,
        Bool.not_false]
    · rfl

/-- consuming a chunk either goes on, with the frame fields advanced and nothing else of interest touched, or fails
the connection -/
theorem consume_fbd (s : S) (h : Hdr) (c : Bytes) (hf : s.cfg.failByDrop = true) :
    ((consume s h c).2 = true ∧ (consume s h c).1.ptr = s.ptr + c.length ∧ (consume s h c).1.cur = s.cur ∧
      (consume s h c).1.st = s.st ∧ (consume s h c).1.cfg = s.cfg ∧ (consume s h c).1.wasClean = s.wasClean) ∨
    ((consume s h c).2 = false ∧ (consume s h c).1.st = .closed) := by
  by_cases hc : h.opcode > 7
  · rw [consume_control s h c hc]
    exact Or.inl ⟨rfl, rfl, rfl, rfl, rfl, rfl⟩
  · rw [consume_data s h c hc hf]
    split
    · exact Or.inr ⟨rfl, failConnection_st _ 1007 hf⟩
    · exact Or.inl ⟨rfl, rfl, rfl, rfl, rfl, rfl⟩

/-- whatever the validator had reached, the state in which a rejected chunk leaves the connection is `s` dropped -/
theorem consume_rejected (s : S) (h : Hdr) (c : Bytes) (hf : s.cfg.failByDrop = true) (hst : s.st ≠ .closed) :
    Dropped s (failConnection (setUtf8 { s with ptr := s.ptr + c.length } (unmaskChunk s h c)) 1007) :=
  -- `by exact`: elaborated last, when the goal has fixed the state that is failed
  failConnection_drop_of (by exact rfl) 1007 hf hst

theorem afterChunk_append (s : S) (n m : Nat) (u v : Bytes) :
    afterChunk (afterChunk s n u) m v = afterChunk s (n + m) (u ++ v) := by
  unfold afterChunk
  cases hon : (s.utf8On && !s.msgCompressed) <;> cases hfm : s.failedByMe <;>
    simp [hon, hfm, u8run_append, Nat.add_assoc, List.append_assoc]

theorem utf8Bad_afterChunk (s : S) (n : Nat) (u v : Bytes) (hon : (s.utf8On && !s.msgCompressed) = true) :
    utf8Bad (afterChunk s n u) v = utf8Bad (setUtf8 s u) v := by
  unfold utf8Bad afterChunk setUtf8
  simp [hon]

/-- the validator rejects two chunks in one piece exactly when it rejects the first, or the second behind the first
(the condition of `consume_data`, in the states in which the two chunks are consumed) -/
theorem rejects_append (s : S) (n : Nat) (p q : Bytes) (hp : p ≠ []) :
    (s.utf8On && !s.msgCompressed && utf8Bad s (p ++ q)) =
      (s.utf8On && !s.msgCompressed && utf8Bad s p ||
        (afterChunk s n p).utf8On && !(afterChunk s n p).msgCompressed && utf8Bad (afterChunk s n p) q) := by
  change _ = (_ || s.utf8On && !s.msgCompressed && _)
  cases hon : (s.utf8On && !s.msgCompressed)
  · rfl
  · cases hb : utf8Bad s p
    · rw [utf8Bad_append s p q hp hb, utf8Bad_afterChunk s n p q hon]; rfl
    · rw [utf8Bad_append_bad s p q hb]; rfl

end Abverif.Ws

import Abverif.Model.Handshake
import Abverif.Proofs.Lemmas.C07Str
/-!
C07 — the reconstructed origin `scheme://host:port` never contains a newline, so the `$`-before-trailing-newline
quirk of the regex that `wildcards2patterns` builds is unreachable and the model's `reMatch` is `Glob.fullMatch`.
-/
namespace Abverif.Handshake
open Abverif Abverif.Http Abverif.Url

def NoNl (s : Bytes) : Prop := (10 : UInt8) ∉ s

theorem NoNl.sub {s t : Bytes} (h : NoNl s) (hs : ∀ c ∈ t, c ∈ s) : NoNl t := fun m => h (hs _ m)

theorem noNl_append {a b : Bytes} : NoNl (a ++ b) ↔ NoNl a ∧ NoNl b := by
  simp [NoNl, List.mem_append, not_or]

theorem lowerC_nl : ∀ c : UInt8, lowerC c = 10 → c = 10 := by decide +kernel

theorem noNl_lower {s : Bytes} (h : NoNl s) : NoNl (lower s) := by
  intro m
  simp [lower] at m
  obtain ⟨c, hc, e⟩ := m
  exact h (lowerC_nl c e ▸ hc)

theorem noNl_sanitize (u : Bytes) : NoNl (sanitize u) := by
  intro m
  simp [sanitize] at m

theorem noNl_take {s : Bytes} (h : NoNl s) (n : Nat) : NoNl (s.take n) := h.sub fun _ m => List.mem_of_mem_take m
theorem noNl_drop {s : Bytes} (h : NoNl s) (n : Nat) : NoNl (s.drop n) := h.sub fun _ m => List.mem_of_mem_drop m
theorem noNl_takeWhile {s : Bytes} (h : NoNl s) (p : UInt8 → Bool) : NoNl (s.takeWhile p) :=
  h.sub fun _ m => (List.takeWhile_sublist p).subset m
theorem noNl_dropWhile {s : Bytes} (h : NoNl s) (p : UInt8 → Bool) : NoNl (s.dropWhile p) :=
  h.sub fun _ m => (List.dropWhile_sublist p).subset m

theorem noNl_of_split {c : UInt8} {s a b : Bytes} (h : NoNl s) (e : s = a ++ c :: b) : NoNl a ∧ NoNl b := by
  rw [e] at h
  exact ⟨(noNl_append.1 h).1, fun m => (noNl_append.1 h).2 (by simp [m])⟩

theorem noNl_cut {c : UInt8} {s a b : Bytes} (h : NoNl s) (e : cut c s = some (a, b)) : NoNl a ∧ NoNl b :=
  noNl_of_split h ((cut_some_iff c s a b).1 e).1

theorem noNl_rcut {c : UInt8} {s a b : Bytes} (h : NoNl s) (e : rcut c s = some (a, b)) : NoNl a ∧ NoNl b :=
  noNl_of_split h ((rcut_some_iff c s a b).1 e).1

theorem noNl_splitScheme {u : Bytes} (h : NoNl u) : NoNl (splitScheme u).1 ∧ NoNl (splitScheme u).2 := by
  unfold splitScheme
  split
  · split
    · exact ⟨noNl_lower (noNl_take h _), noNl_drop h _⟩
    · exact ⟨by simp [NoNl], h⟩
  · exact ⟨by simp [NoNl], h⟩

theorem noNl_splitAuthority (brOk : Bytes → Bool) {u : Bytes} (h : NoNl u) : NoNl (splitAuthority brOk u).1 := by
  unfold splitAuthority
  split
  · next r =>
    have : NoNl r := h.sub (by intro c m; simp [m])
    simp only [splitNetloc]
    exact noNl_takeWhile this _
  · simp [NoNl]

theorem noNl_urlsplit {brOk : Bytes → Bool} {url : Bytes} {u : Split} (e : urlsplit brOk url = some u) :
    NoNl u.scheme ∧ NoNl u.netloc := by
  unfold urlsplit at e
  have hs := noNl_splitScheme (noNl_sanitize url)
  simp only at e
  split at e
  · simp at e
  · simp at e
    rw [← e]
    exact ⟨hs.1, noNl_splitAuthority brOk hs.2⟩

theorem noNl_splitAt1 {c : UInt8} {s : Bytes} (h : NoNl s) : NoNl (splitAt1 c s).1 ∧ NoNl (splitAt1 c s).2 := by
  unfold splitAt1
  split
  · next a b e => exact noNl_cut h e
  · exact ⟨h, by simp [NoNl]⟩

theorem noNl_hostinfo {n : Bytes} (h : NoNl n) : NoNl (hostinfo n).1 := by
  unfold hostinfo
  have hhi : NoNl (afterUserinfo n) := by
    unfold afterUserinfo
    split
    · next p e => exact (noNl_rcut (a := p.1) (b := p.2) h e).2
    · exact h
  simp only
  split
  · next p e =>
    have hbr := (noNl_cut (a := p.1) (b := p.2) hhi e).2
    exact (noNl_splitAt1 hbr).1
  · exact (noNl_splitAt1 hhi).1

theorem noNl_hostname {n h : Bytes} (hn : NoNl n) (e : hostname n = some h) : NoNl h := by
  unfold hostname at e
  have hi := noNl_hostinfo hn
  generalize (hostinfo n).1 = x at e hi
  simp only at e
  split at e
  · simp at e
  · split at e
    · next a z ec =>
      simp at e
      rw [← e]
      have := noNl_cut hi ec
      have h1 := noNl_lower this.1
      simp [NoNl, List.mem_append] at *
      exact ⟨h1, this.2⟩
    · simp at e
      rw [← e]
      exact noNl_lower hi

theorem noNl_natDigits (n : Nat) : NoNl (natDigits n) := by
  intro m
  have := natDigits_digits n _ m
  simp [isDigit] at this

theorem noNl_originHeader {brOk : Bytes → Bool} {v s h : Bytes} {p : Option Nat}
    (e : urlToOrigin brOk v = some (.triple s h p)) : NoNl (originHeader s h p) := by
  unfold urlToOrigin at e
  split at e
  · simp at e
  · split at e
    · simp at e
    · next u hu =>
      have hu' := noNl_urlsplit hu
      split at e
      · simp at e
      · split at e
        · simp at e
        · next pp hp =>
          cases hh : hostname u.netloc with
          | none => simp [hh] at e
          | some hn =>
            simp [hh] at e
            obtain ⟨rfl, rfl, rfl⟩ := e
            have hh' := noNl_hostname hu'.2 hh
            unfold originHeader
            simp only [noNl_append]
            refine ⟨⟨⟨⟨hu'.1, by simp [NoNl]⟩, hh'⟩, by simp [NoNl]⟩, ?_⟩
            split
            · exact noNl_natDigits _
            · simp [NoNl]

/-- the model's regex reading of the allowed-origins policy is whole-string glob matching -/
theorem isSameOrigin_eq_fullMatch {brOk : Bytes → Bool} {v s h : Bytes} {p : Option Nat} (pats : List Bytes)
    (e : urlToOrigin brOk v = some (.triple s h p)) :
    isSameOrigin (.triple s h p) pats = pats.any (fun pat => Glob.fullMatch pat (originHeader s h p)) := by
  unfold isSameOrigin
  simp only
  congr 1
  funext pat
  exact Glob.reMatch_eq_fullMatch pat _ (noNl_originHeader e)

end Abverif.Handshake

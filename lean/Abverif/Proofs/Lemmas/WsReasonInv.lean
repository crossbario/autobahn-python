import Abverif.Proofs.Lemmas.WsWalk
import Abverif.Proofs.WsCloseReason
/-
The invariant behind "the reason of every close frame we send is valid UTF-8":
`V s`: every reason recorded in `closeSent` is valid UTF-8, and so is the peer's reason we hold (`remoteCloseReason`,
which an echoing endpoint sends back).  `VP a b := V a → V b` holds across every engine function (`VP.walk`).
-/
namespace Abverif.Ws

def V (s : S) : Prop :=
  (∀ c r, (c, some r) ∈ s.closeSent → utf8Valid r = true) ∧ (∀ r, s.remoteCloseReason = some r → utf8Valid r = true)

def VP (a b : S) : Prop := V a → V b

theorem VP.refl (a : S) : VP a a := id
theorem VP.trans {a b c : S} (h1 : VP a b) (h2 : VP b c) : VP a c := fun h => h2 (h1 h)

theorem VP.of_eq {a b : S} (h2 : b.closeSent = a.closeSent) (h3 : b.remoteCloseReason = a.remoteCloseReason) :
    VP a b := by
  intro v; unfold V at *; rw [h2, h3]; exact v

theorem VP.of_ApiEq {a b : S} (h : ApiEq a b) : VP a b :=
  h ▸ VP.of_eq rfl rfl

theorem timer_VP (s : S) (d : Nat) : VP s (s.timer d).1 := VP.of_eq rfl rfl
theorem armCloseHs_VP (s : S) : VP s (armCloseHs s) := VP.of_eq rfl rfl

/-- a close frame is recorded with the reason given: valid if that reason is -/
theorem sendCloseFrame_VP (s : S) (c : Option Nat) (r : Option Bytes) (i : Bool)
    (hr : ∀ x, r = some x → utf8Valid x = true) : VP s (sendCloseFrame s c r i) := by
  refine sendCloseFrame_of (R := VP) VP.trans armCloseHs_VP s c r i (VP.refl s) (VP.of_eq rfl rfl) fun t h _ v => ?_
  have e := h.eq
  refine ⟨fun c' r' hm => ?_, fun r' hm => v.2 r' (e.remoteCloseReason ▸ hm)⟩
  rcases List.mem_append.mp hm with h | h
  · exact v.1 c' r' (e.closeSent ▸ h)
  · simp only [List.mem_singleton, Prod.mk.injEq] at h
    exact hr r' h.2.symm

theorem replyClose_VP (s : S) : VP s (replyClose s) := fun v =>
  replyClose_of s (sendCloseFrame_VP _ _ _ _ (truncated_valid _ v.2)) (sendCloseFrame_VP _ _ _ _ fun x hx => by cases hx) v

theorem VP.base : Walk.Base VP where
  refl := VP.refl
  trans := VP.trans
  parse h := h ▸ VP.of_eq rfl rfl
  emit _ _ _ := VP.of_eq rfl rfl
  armServerDrop _ := VP.of_eq rfl rfl
  armPingNext _ := VP.of_eq rfl rfl
  armPingTimeout _ := VP.of_eq rfl rfl
  sends h _ := VP.of_ApiEq h.eq.toApiEq
  dropped _ _ _ _ := VP.of_eq rfl rfl
  failClose _ _ _ := sendCloseFrame_VP _ _ _ _ (by intro x hx; cases hx)
  unclean _ _ := VP.of_eq rfl rfl
  peerReason _ _ hr v := ⟨v.1, hr⟩
  tick _ _ := VP.of_eq rfl rfl

theorem connectionLost_VP (s : S) : VP s (connectionLost s) :=
  connectionLost_of VP.refl s fun _ _ => VP.of_eq rfl rfl

theorem VP.walk : Walk VP :=
  Walk.ofSteps VP.base (mark := fun _ _ _ => VP.of_eq rfl rfl) (replyClose := replyClose_VP)
    (ping := fun _ _ _ _ _ => VP.of_eq rfl rfl) (opened := fun _ _ => VP.of_eq rfl rfl)
    (forget := fun _ _ _ _ _ => VP.of_eq rfl rfl) (buffer := fun _ _ => VP.of_eq rfl rfl)

/-- the reason `sendClose` sends is the application's text cut by `encode_truncate`: valid if the text is -/
theorem sendClose_VP (s : S) (c : Option Nat) (r : Option Bytes) (hr : ∀ x, r = some x → utf8Valid x = true) :
    VP s (sendClose s c r) :=
  VP.base.sendClose_of s c r (sendCloseFrame_VP _ _ _ _ (truncated_valid r hr))

end Abverif.Ws

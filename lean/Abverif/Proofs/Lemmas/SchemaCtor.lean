import Abverif.Proofs.Lemmas.SchemaStrict
import Abverif.Proofs.Lemmas.SchemaTotal
/-
The constructor assertions are unreachable from `parse` (C08).

The model keeps the constructor `Klass(...)` with its `assert`s (`ctorStage`, exception class `AssertionError`)
exactly as message.py has it; `parse` validates every value the constructor asserts on before it calls it
(`ProtocolError`).  Here that is a theorem about the model: whenever the part of `parse` in front of the constructor
call succeeds, none of the assertions fires, for every schema whose assertions are *covered* (`Schema.ctorCovered`, a
decidable property of the schema; it holds for all 25 classes).
-/
namespace Abverif.Wamp
open Schema

/-- the type `parse` checks an option for covers what the constructor asserts about it -/
def OptStep.ctyCovered (s : OptStep) : Bool :=
  match s.cty with
  | .none => true
  | .strOrNone => (match s.ty with | .strOrNull => true | .strUri _ => true | _ => false) && s.dflt.isNull
  | .dictOrNone => (match s.ty with | .dictOrNull => true | _ => false) && s.dflt.isNull
  | .ffItems => (match s.ty with | .forwardFor b => b | _ => false) && s.dflt.isNull

/-- every cross-field assertion is either about the tail of a class that has one (then `parseTail` establishes it)
or is checked by `parse` itself (`pcross`) -/
def Schema.crossCovered (σ : Schema) : Bool :=
  σ.cross.all (fun c => match c with
    | .zeroExcl _ _ => σ.pcross.contains c
    | _ => σ.tail.isSome)

def Schema.ctorCovered (σ : Schema) : Bool := σ.opts.all OptStep.ctyCovered && σ.crossCovered

theorem ffItemCtorOk_of_parseOk (v : WVal) (h : ffItemParseOk v = true) : ffItemCtorOk v = true := by
  unfold ffItemParseOk at h
  unfold ffItemCtorOk
  simp only [Bool.and_eq_true] at h ⊢
  obtain ⟨⟨⟨isDict, session⟩, authid⟩, authrole⟩ := h
  refine ⟨⟨⟨isDict, session⟩, ?_⟩, authrole⟩
  split at authid
  · rename_i heq; rw [heq]
  · rename_i heq; rw [heq]
  · simp at authid

theorem all_ffItemCtorOk (xs : List WVal) (h : xs.all ffItemParseOk = true) : xs.all ffItemCtorOk = true := by
  rw [List.all_eq_true] at h ⊢
  exact fun x hx => ffItemCtorOk_of_parseOk x (h x hx)

/-- a value that passed the option's check satisfies the constructor's assertion on it: it is the default `None`,
or of a checked type that is the asserted type or narrower -/
theorem cty_ok_of_parse {O : Oracles} {d : Dict} {s : OptStep} {v : WVal}
    (hwf : OptStep.wf s = true) (hc : s.ctyCovered = true) (h : s.parse O d = .ok v) : s.cty.ok v = true := by
  unfold OptStep.ctyCovered at hc
  cases hcty : s.cty with
  | none => rfl
  | _ =>
    rw [hcty] at hc
    simp only [Bool.and_eq_true] at hc
    obtain ⟨hty, hd⟩ := hc
    rcases s.ty.roles_or_not with ⟨a, f, hr⟩ | hr
    · rw [hr] at hty; cases hty
    rcases OptStep.parse_ok hwf hr h with h0 | h1
    · rw [isDflt_eq h0, WVal.eq_null_of_isNull hd]; rfl
    · -- `ctyCovered` leaves `strOrNull` / `strUri` under `strOrNone`, `dictOrNull` under `dictOrNone` and
      -- `forwardFor true` under `ffItems`; by constructor of the value, the assertion then is the type test `h1`
      -- itself, computes to `true`, or holds item by item
      revert hty h1
      cases s.ty <;> intro hty h1 <;> first | cases hty | skip
      all_goals cases v <;> first | exact h1 | rfl | exact all_ffItemCtorOk _ h1

theorem cross_ok_of_parseStage {σ : Schema} {O : Oracles} {w : List WVal} {m : Msg}
    (hcov : σ.crossCovered = true) (inv : FieldsInv σ O w m) (hpc : ctorCross .protocol O m σ.pcross = .ok ()) :
    ∀ c ∈ σ.cross, c.ok O m = true := by
  intro c hc
  have hcv := List.all_eq_true.mp hcov c hc
  have htail : (σ.tail.isSome = true) → ∃ t, σ.tail = some t := by
    intro h; cases ht : σ.tail with
    | none => simp [ht] at h
    | some t => exact ⟨t, rfl⟩
  cases c with
  | payloadBytes =>
    obtain ⟨t, ht⟩ := htail hcv
    simpa [Cross.ok] using (inv.tail t ht).payload
  | encTypes =>
    obtain ⟨t, ht⟩ := htail hcv
    have tl := inv.tail t ht
    simp only [Cross.ok, Bool.and_eq_true, Bool.or_eq_true]
    exact ⟨⟨tl.algo, tl.key⟩, tl.ser⟩
  | encTriple =>
    obtain ⟨t, ht⟩ := htail hcv
    simp only [Cross.ok, Bool.and_eq_true, Bool.or_eq_true, Bool.not_eq_true']
    exact (inv.tail t ht).triple.imp_left fun h => ⟨⟨h.1, h.2.1⟩, h.2.2⟩
  | zeroExcl a b =>
    have hmem : Cross.zeroExcl a b ∈ σ.pcross := by simpa using hcv
    exact (ctorCross_ok_iff σ.pcross).mp hpc _ hmem

/-- **the constructor assertions are unreachable from `parse`**: after the part of `parse` in front of the
constructor call has succeeded, the constructor does nothing but `_validate_kwargs` -/
theorem ctor_unreachable (σ : Schema) (O : Oracles) (w : List WVal) (m : Msg)
    (hwf : σ.wf = true) (hcov : σ.ctorCovered = true) (h : σ.parseStage O w = .ok m) :
    σ.ctorStage O m = (if σ.tail.isSome then kwargsCheck m else pure ()) := by
  simp only [Schema.ctorCovered, Bool.and_eq_true] at hcov
  obtain ⟨hf, hpc⟩ := parseStage_fields h
  have inv := parseFields_inv hwf hf
  have ho : ctorOpts σ.ctorErr m σ.opts = .ok () := by
    apply (ctorOpts_ok_iff σ.opts).mpr
    intro s hs
    exact cty_ok_of_parse ((wf_parts hwf).opts s hs) (List.all_eq_true.mp hcov.1 s hs) (inv.opts s hs)
  have hc : ctorCross σ.ctorErr O m σ.cross = .ok () :=
    (ctorCross_ok_iff σ.cross).mpr (cross_ok_of_parseStage hcov.2 inv hpc)
  unfold Schema.ctorStage
  rw [ho, hc]
  rfl

/-- hence `parse` raises only the library's own errors — any class whose assertions are covered, HELLO and WELCOME
included -/
theorem parse_allowed_of_covered (σ : Schema) (O : Oracles) (w : List WVal)
    (hwf : σ.wf = true) (hcov : σ.ctorCovered = true) : ErrIn Allowed (σ.parse O w) := by
  unfold Schema.parse
  apply ErrIn.bind (parseStage_allowed σ O w)
  intro m hm
  have hcs : ErrIn Allowed (σ.ctorStage O m) := by
    rw [ctor_unreachable σ O w m hwf hcov hm]
    exact ErrIn.ite kwargsCheck_spec.errIn (ErrIn.ok _)
  exact hcs.map _

end Abverif.Wamp

import Abverif.Proofs.Lemmas.SchemaStrict
/-
HELLO / WELCOME `roles`: the parse model accepts a roles value iff the Spec `rolesAccept` does (C08).
-/
namespace Abverif.Wamp
open Schema

def isOkB (r : Except Err α) : Bool :=
  match r with
  | .ok _ => true
  | .error _ => false

theorem isOkB_bind_pure {x : Except Err α} (f : α → β) : isOkB (x >>= fun a => pure (f a)) = isOkB x := by
  cases x <;> rfl

theorem featBad_eq (fd : Dict) (f : Str) : featBad fd f = !featureValueOk (Dict.get? fd f) := by
  unfold featBad featureValueOk
  cases h : Dict.get? fd f with
  | none => rfl
  | some v => cases v <;> rfl

theorem featuresCheck_isOk (site : Str) (known : List Str) (fd : Dict) :
    isOkB (featuresCheck site known fd) = featuresAccept known fd := by
  unfold featuresCheck featuresAccept
  rw [List.all_eq_not_any_not, funext (featBad_eq fd)]
  cases known.any fun f => !featureValueOk (Dict.get? fd f) <;> rfl

theorem rolesLoop_isOk (site : Str) (allowed : List Str) (feats : List (Str × List Str)) :
    ∀ dr : Dict, isOkB (rolesLoop site allowed feats dr) = dr.all (roleEntryAccept allowed feats) := by
  intro dr
  induction dr with
  | nil => rfl
  | cons rv t ih =>
    obtain ⟨role, v⟩ := rv
    simp only [List.all_cons]
    unfold rolesLoop
    by_cases hr : strMem role allowed = true
    · simp only [hr, Bool.not_true, Bool.false_eq_true, if_false, roleEntryAccept, Bool.true_and]
      cases v with
      | dict drole =>
        simp only
        cases hg : Dict.get? drole cs!"features" with
        | none =>
          simp only [Bool.true_and]
          rw [← ih]
          exact isOkB_bind_pure _
        | some fv =>
          cases fv with
          | dict fd =>
            simp only
            rw [← featuresCheck_isOk site, ← ih]
            cases featuresCheck site (roleKnown feats role) fd <;>
              cases rolesLoop site allowed feats t <;> rfl
          | _ => simp [fail, isOkB]
      | _ => simp [fail, isOkB]
    · have hr' : strMem role allowed = false := by
        cases hc : strMem role allowed with
        | true => exact absurd hc hr
        | false => rfl
      simp [hr', fail, isOkB, roleEntryAccept]

/-- **the parse model accepts a `roles` value iff the Spec does** — for HELLO (client roles) and WELCOME (router
roles) alike, with the role and feature names regenerated from message.py / role.py -/
theorem rolesCheck_isOk_iff (site : Str) (allowed : List Str) (feats : List (Str × List Str)) (v : WVal) :
    isOkB (rolesCheck site allowed feats v) = rolesAccept allowed feats v := by
  unfold rolesCheck rolesAccept
  cases v with
  | dict dr =>
    cases dr with
    | nil => rfl
    | cons rv t =>
      simp only
      rw [← rolesLoop_isOk site]
      exact isOkB_bind_pure _
  | _ => rfl

/-- a message class with a mandatory `roles` entry accepts only inputs whose details carry a `roles` value that the
Spec accepts -/
theorem parse_roles_spec (σ : Schema) (hwf : σ.wf = true) (O : Oracles) (w : List WVal) (m : Msg)
    (h : σ.parse O w = .ok m)
    (s : OptStep) (hs : s ∈ σ.opts) (allowed : List Str) (feats : List (Str × List Str))
    (hty : s.ty = .roles allowed feats) (hreq : s.required = true) :
    ∃ rv, Dict.get? (σ.optsOf w) s.key = some rv ∧ rolesAccept allowed feats rv = true := by
  have hv := (parse_inv hwf h).opts s hs
  cases hg : Dict.get? (σ.optsOf w) s.key with
  | none =>
    obtain ⟨_, hnr, _⟩ := (OptStep.parse_absent_iff hg).mp hv
    rw [hnr] at hreq
    cases hreq
  | some rv =>
    rw [OptStep.parse_present hg, hty] at hv
    refine ⟨rv, rfl, ?_⟩
    rw [← rolesCheck_isOk_iff s.field]
    exact congrArg isOkB hv

end Abverif.Wamp

import Abverif.Model.Component
/-!
C14 — lemmas about the model (no monitors yet): list update, rationals, `_Transport.next_delay`, and the
`itertools.cycle` cursor loop `pick`.
-/
namespace Abverif.Comp

theorem updAt_length (f : Tr → Tr) (l : List Tr) (i : Nat) : (updAt f l i).length = l.length := by
  induction l generalizing i with
  | nil => simp [updAt]
  | cons t ts ih => cases i <;> simp [updAt, ih]

theorem updAt_get (f : Tr → Tr) (l : List Tr) (i j : Nat) :
    (updAt f l i)[j]? = if j = i then (l[j]?).map f else l[j]? := by
  induction l generalizing i j with
  | nil => simp [updAt]
  | cons t ts ih =>
    cases i with
    | zero => cases j <;> simp [updAt]
    | succ i =>
      cases j with
      | zero => simp [updAt]
      | succ j => simp [updAt, ih]

theorem updAt_get_same (f : Tr → Tr) (l : List Tr) (i : Nat) (t : Tr) (h : l[i]? = some t) :
    (updAt f l i)[i]? = some (f t) := by simp [updAt_get, h]

theorem updAt_get_ne (f : Tr → Tr) (l : List Tr) (i j : Nat) (h : j ≠ i) :
    (updAt f l i)[j]? = l[j]? := by simp [updAt_get, h]

theorem updAt_id (l : List Tr) (i : Nat) : updAt (fun t => t) l i = l := by
  induction l generalizing i with
  | nil => rfl
  | cons t ts ih => cases i <;> simp [updAt, ih]

theorem Q.le_refl (a : Q) : a.le a = true := by simp [Q.le]

theorem Q.le_of_not_lt (a b : Q) (h : a.lt b = false) : b.le a = true := by
  simp [Q.lt, Q.le] at *; omega

theorem Q.zero_le (a : Q) (h : 0 ≤ a.num) : Q.zero.le a = true := by
  simp [Q.le, Q.zero]; omega

theorem Q.zero_not_pos : Q.zero.pos = false := by simp [Q.pos, Q.zero]

theorem Q.zero_isZero : Q.zero.isZero = true := by simp [Q.isZero, Q.zero]

theorem Tr.nextDelay_some_of_can (t : Tr) (z : Q) (h : t.canReconnect = true) :
    ∃ r, t.nextDelay z = some r := by
  unfold Tr.canReconnect at h
  unfold Tr.nextDelay
  by_cases h0 : t.attempts = 0
  · simp [h0]
  · simp only [h0, if_false]
    split
    · rename_i hx
      split at h
      · simp at h
      · split at h
        · omega
        · simp at h; omega
    · exact ⟨_, rfl⟩

/-- `t'` is the record `t` with `a` attempts, as far as `can_reconnect` and the Spec read it -/
structure TrAs (t t' : Tr) (a : Nat) : Prop where
  mr : t'.maxRetries = t.maxRetries
  maxD : t'.maxDelay = t.maxDelay
  att : t'.attempts = a
  pf : t'.permFail = t.permFail

/-- what `next_delay()` leaves of the record (all but `retryDelay`) and what it promises of the delay `d` -/
structure NextDelayFacts (t t' : Tr) (d : Q) : Prop extends TrAs t t' t.attempts where
  le : 0 ≤ t.maxDelay.num → d.le t.maxDelay = true
  zero : t.attempts = 0 → d = Q.zero

theorem Tr.nextDelay_facts (t t' : Tr) (z d : Q) (h : t.nextDelay z = some (t', d)) :
    NextDelayFacts t t' d := by
  unfold Tr.nextDelay at h
  by_cases h0 : t.attempts = 0
  · simp [h0] at h
    obtain ⟨rfl, rfl⟩ := h
    exact ⟨⟨rfl, rfl, rfl, rfl⟩, fun hm => Q.zero_le _ hm, fun _ => rfl⟩
  · simp only [h0, if_false] at h
    split at h
    · simp at h
    · simp only [Option.some.injEq, Prod.mk.injEq] at h
      obtain ⟨rfl, rfl⟩ := h
      refine ⟨⟨rfl, rfl, rfl, rfl⟩, ?_, fun h => absurd h h0⟩
      intro _
      split
      · exact Q.le_refl _
      · rename_i hlt
        exact Q.le_of_not_lt _ _ (by simpa using hlt)

theorem find?_congr {α : Type} {l : List α} {p q : α → Bool} (h : ∀ x ∈ l, p x = q x) :
    l.find? p = l.find? q := by
  induction l with
  | nil => rfl
  | cons a r ih =>
    simp only [List.find?_cons, h a (by simp)]
    rw [ih (fun x hx => h x (by simp [hx]))]

def canAt (trs : List Tr) (j : Nat) : Bool :=
  match trs[j]? with
  | some t => t.canReconnect
  | none => false

theorem pick_eq_find (trs : List Tr) (cur fuel : Nat) :
    pick trs cur fuel = ((List.range fuel).map (fun j => (cur + j) % trs.length)).find? (canAt trs) := by
  induction fuel generalizing cur with
  | zero => simp [pick]
  | succ f ih =>
    rw [List.range_succ_eq_map]
    simp only [List.map_cons, List.map_map, Nat.add_zero, List.find?_cons]
    unfold pick
    cases hg : trs[cur % trs.length]? with
    | none =>
      -- only possible for the empty list, where `canAt` is false everywhere
      have hl : trs = [] := by
        cases trs with
        | nil => rfl
        | cons t ts =>
          have := Nat.mod_lt cur (Nat.succ_pos ts.length)
          rw [List.getElem?_eq_none_iff] at hg
          exact absurd hg (by simpa using this)
      subst hl
      have hf : ∀ j, canAt [] j = false := fun _ => rfl
      simp only [hf]
      symm
      rw [List.find?_eq_none]
      intro x _
      simp [hf]
    | some t =>
      simp only [canAt, hg]
      by_cases hc : t.canReconnect = true
      · simp [hc]
      · have hc' : t.canReconnect = false := by simpa using hc
        simp only [hc', Bool.false_eq_true, if_false]
        rw [ih]
        congr 1
        apply List.map_congr_left
        intro a _
        simp [Function.comp, Nat.add_assoc, Nat.add_comm 1 a]

theorem pick_can (trs : List Tr) (cur fuel i : Nat) (h : pick trs cur fuel = some i) :
    ∃ t, trs[i]? = some t ∧ t.canReconnect = true := by
  rw [pick_eq_find] at h
  have := List.find?_some h
  unfold canAt at this
  split at this
  · exact ⟨_, by assumption, this⟩
  · simp at this

theorem exists_offset (n cur j : Nat) (hj : j < n) : ∃ k, k < n ∧ (cur + k) % n = j := by
  have hn : 0 < n := Nat.zero_lt_of_lt hj
  have hr := Nat.mod_lt cur hn
  refine ⟨(j + (n - cur % n)) % n, Nat.mod_lt _ hn, ?_⟩
  rw [← Nat.mod_add_mod, Nat.add_mod_mod, show cur % n + (j + (n - cur % n)) = j + n by omega,
    Nat.add_mod_right, Nat.mod_eq_of_lt hj]

theorem pick_some_of_any (trs : List Tr) (cur : Nat) (h : trs.any Tr.canReconnect = true) :
    ∃ i, pick trs cur trs.length = some i := by
  rw [pick_eq_find]
  rw [List.any_eq_true] at h
  obtain ⟨t, hmem, hcan⟩ := h
  obtain ⟨j, hj, hget⟩ := List.getElem_of_mem hmem
  obtain ⟨k, hk, hkj⟩ := exists_offset trs.length cur j hj
  cases hf : ((List.range trs.length).map (fun j => (cur + j) % trs.length)).find? (canAt trs) with
  | some i => exact ⟨i, rfl⟩
  | none =>
    rw [List.find?_eq_none] at hf
    have := hf j (by
      rw [List.mem_map]
      exact ⟨k, List.mem_range.mpr hk, hkj⟩)
    simp [canAt, List.getElem?_eq_getElem hj, hget, hcan] at this

end Abverif.Comp

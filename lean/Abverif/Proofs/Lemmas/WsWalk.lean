import Abverif.Proofs.Lemmas.WsFrame
/-
Walking the engine once for every relation.

The close, deadline and ping invariants of C05/C17 are all proved the same way: a relation `R a b` between an engine
state and a later one (mostly `Inv a → Inv b`) is shown for every function of the receive path, the timers and the
closing machinery, bottom-up.  Most of these functions are compositions of a few steps with updates of fields no
invariant reads, so what has to be shown per relation is small.  `Walk.Base` lists the steps every function is built
from.  `Walk.Recv` adds the three functions the receive path calls across which some invariant holds only as a whole;
from it follows `R s (f s)` for every `f` up to the read loop `drain`.  `Walk.Timers` is what the timer callbacks need,
with each deadline handler as a whole; from it follow `fire`, `advance`, `pump`.  `Walk` is both, with the read buffer
and the end of the opening handshake; from it follows every scripted operation but the calls of the data-sending API,
`sendClose` and `_connectionLost` (`Walk.stepCore`, in WsStep), which have normal forms of their own.
-/
namespace Abverif.Ws

def Out.isOnClose : Out → Bool
  | .onClose .. => true
  | _ => false

/-- `b` equals `a` except in fields none of the relations walked here mentions: the frame and message in progress, the
UTF-8 validator, `failedByMe`, and the peer's close code (the read buffer `data` is touched by `dataReceived` alone:
`Walk.buffer`).  An equation: a relation is carried across by rewriting along it, `h ▸ X.of_same rfl …` -/
def ParseEq (a b : S) : Prop :=
  b = { a with cur := b.cur, unmask := b.unmask, ptr := b.ptr, insideMessage := b.insideMessage,
               msgCompressed := b.msgCompressed, msgBinary := b.msgBinary, utf8On := b.utf8On, utf8 := b.utf8,
               utf8Ok := b.utf8Ok, utf8Ends := b.utf8Ends, messageData := b.messageData, frameData := b.frameData,
               totalLen := b.totalLen, controlData := b.controlData, failedByMe := b.failedByMe,
               remoteCloseCode := b.remoteCloseCode }

/-- a deadline passed: with its handle forgotten (`s1`) the connection is, unless CLOSED already, marked unclean and
dropped -/
theorem timeout_rel {R : S → S → Prop} (trans : ∀ {a b c}, R a b → R b c → R a c)
    (unclean : ∀ (s : S) n, R s { s with wasClean := false, notClean := n })
    (drop : ∀ s a, R s (dropConnection s a)) (s s1 : S) (n : Option NCR) (h1 : R s s1) :
    R s (if s1.st ≠ .closed then dropConnection { s1 with wasClean := false, notClean := n } true else s1) := by
  split
  · exact trans h1 (trans (unclean _ _) (drop _ _))
  · exact h1

/-- the steps the engine functions are composed of -/
structure Walk.Base (R : S → S → Prop) : Prop where
  refl : ∀ s, R s s
  trans : ∀ {a b c}, R a b → R b c → R a c
  /-- `R` reads none of the fields the parser keeps for itself (`h ▸ X.of_same rfl …`) -/
  parse : ∀ {a b}, ParseEq a b → R a b
  /-- only `_connectionLost` logs an `onClose` -/
  emit : ∀ s o, o.isOnClose = false → R s (s.emit o)
  armServerDrop : ∀ s, R s (armServerDrop s)
  armPingNext : ∀ s, R s (armPingNext s)
  armPingTimeout : ∀ s, R s (armPingTimeout s)
  /-- the send path, when all it sends are ping and pong frames of an OPEN connection -/
  sends : ∀ {a b : S} {d : List Nat}, Sends a b d → (∀ x ∈ d, (x = 9 ∨ x = 10) ∧ a.st = .opened) → R a b
  /-- `dropConnection` on a connection not yet CLOSED (`dropConnection_eq`) -/
  dropped : ∀ (s : S) (q : List Bytes) (l : List Out), (∀ o ∈ l, o.isOnClose = false) →
    R s { s with sendQueue := q, droppedByMe := true, st := .closed, log := s.log ++ l }
  /-- the close frame of `_fail_connection`: a code that may appear on the wire, no reason text -/
  failClose : ∀ s code, WsSpec.closeCodeOk code = true → R s (sendCloseFrame s (some code) none false)
  /-- a failure or a passed deadline marks the close unclean, with any reason -/
  unclean : ∀ s n, R s { s with wasClean := false, notClean := n }
  /-- the peer's close reason is stored only after it passed the UTF-8 check -/
  peerReason : ∀ (s : S) (r : Option Bytes), (∀ x, r = some x → utf8Valid x = true) → R s { s with remoteCloseReason := r }
  /-- the clock only moves forward -/
  tick : ∀ (s : S) d, R s { s with now := max s.now d }

namespace Walk.Base
variable {R : S → S → Prop} (W : Walk.Base R)
include W

theorem pre {a a' b : S} (h' : R a' b) (h : ParseEq a a') : R a b := W.trans (W.parse h) h'
theorem post {a b b' : S} (h' : R a b) (h : ParseEq b b') : R a b' := W.trans h' (W.parse h)

theorem sendTick (s : S) : R s (sendTick s) := W.sends (sendTick_Sends s) (by simp)

theorem sendPing (s : S) (p : Bytes) : R s (sendPing s p) :=
  (sendPing_Sends s p).elim fun _ h => W.sends h.1 fun x hx => ⟨Or.inl (h.2 x hx).1, (h.2 x hx).2⟩

theorem sendPong (s : S) (p : Bytes) : R s (sendPong s p) :=
  (sendPong_Sends s p).elim fun _ h => W.sends h.1 fun x hx => ⟨Or.inr (h.2 x hx).1, (h.2 x hx).2⟩

theorem dropConnection (s : S) (a : Bool) : R s (dropConnection s a) := by
  by_cases h : s.st = .closed
  · rw [dropConnection_closed s a h]; exact W.refl s
  · rw [dropConnection_eq s a h]
    refine W.dropped s _ _ fun o ho => ?_
    rcases List.mem_append.mp ho with h | h
    · cases a
      · obtain ⟨b, _, rfl⟩ := List.mem_map.mp h; rfl
      · cases h
    · rcases List.mem_cons.mp h with rfl | h
      · rfl
      · rw [List.mem_singleton.mp h]; rfl

theorem failConnection (s : S) (code : Nat) (hc : WsSpec.closeCodeOk code = true) : R s (failConnection s code) := by
  unfold Ws.failConnection
  split
  · dsimp only
    split
    · exact W.pre (W.trans (W.unclean { s with failedByMe := true } _) (W.dropConnection _ _)) rfl
    · split
      · exact W.pre (W.failClose _ _ hc) rfl
      · exact W.pre (W.dropConnection _ _) rfl
  · exact W.refl s

theorem violation (s : S) (code : Nat) (hc : WsSpec.closeCodeOk code = true) : R s (violation s code).1 :=
  W.failConnection s code hc

theorem closeCodeStep (s : S) (c : Option Nat) : R s (closeCodeStep s c).1 := by
  unfold Ws.closeCodeStep
  split
  · split
    · have hv := W.violation s 1002 (by decide)
      generalize Ws.violation s 1002 = r at hv
      dsimp only
      split
      · exact hv
      · exact W.post hv rfl
    · exact W.parse rfl
  · exact W.parse rfl

theorem afterCloseHandshake (s : S) (a : Bool) : R s (afterCloseHandshake s a).1 := by
  unfold Ws.afterCloseHandshake
  split
  · exact W.dropConnection _ _
  · split
    · exact W.armServerDrop _
    · exact W.refl s

/-- `sendClose`, given the close frame with the reason the API makes of the application's text -/
theorem sendClose_of (s : S) (c : Option Nat) (r : Option Bytes)
    (h : R s (sendCloseFrame s c (r.map (encodeTruncate · 123)) false)) : R s (sendClose s c r) :=
  Ws.sendClose_of s c r (W.emit _ _ rfl) fun _ => h

/-- `_sendAutoPing`, for a relation that holds across its bookkeeping step by itself -/
theorem sendAutoPing_of (hb : ∀ s, R s (beginAutoPing s)) (s : S) : R s (sendAutoPing s) := by
  rw [sendAutoPing_eq]
  have h : R s (pinged s) := W.trans (hb s) (W.sendPing _ _)
  split
  · exact W.trans h (W.armPingTimeout _)
  · split
    · exact W.trans h (W.armPingNext _)
    · exact h

theorem cancelAutoPingTimeout_of (hc : ∀ s : S, R s { s with tPingTimeout := none, pingPending := none, tPingNext := none })
    (s : S) : R s (cancelAutoPingTimeout s) := by
  rw [cancelAutoPingTimeout_eq]
  split
  · exact W.trans (hc s) (W.armPingNext _)
  · exact hc s

theorem onPongFrame_of (hc : ∀ s : S, R s { s with tPingTimeout := none, pingPending := none }) (s : S) (p : Bytes) :
    R s (onPongFrame s p) := by
  rw [onPongFrame_eq]
  split
  · split
    · exact W.trans (hc s) (W.armPingNext _)
    · exact hc s
  · exact W.refl s

/-- `closeStateStep`, for a relation that holds across marking the close clean or unclean (and forgetting the
closing-handshake timer) by itself.  One hypothesis covers both updates: a Bool flag `keep` says whether the handle stays
(`if keep then s.x else none`); an instance whose relation reads the field makes `cases keep` -/
theorem closeStateStep_of
    (hm : ∀ (s : S) (keep w : Bool), R s { s with tCloseHs := if keep then s.tCloseHs else none, wasClean := w })
    (hr : ∀ s, R s (replyClose s)) (s : S) : R s (closeStateStep s).1 := by
  unfold Ws.closeStateStep
  split
  · exact W.trans (hm s false true) (W.afterCloseHandshake _ _)
  · exact W.trans (hm s true true) (W.trans (hr _) (W.afterCloseHandshake _ _))
  · exact hm s true false
  · exact W.emit _ _ rfl

theorem handshakeDone_of (ho : ∀ s : S, s.st = .connecting → R s { s with st := .opened, tOpenHs := none }) (s : S) :
    R s (handshakeDone s) := by
  by_cases hc : s.st = .connecting
  · rw [handshakeDone_opens s hc]
    split
    · exact W.trans (ho s hc) (W.armPingNext _)
    · exact ho s hc
  · rw [handshakeDone_idle s hc]; exact W.refl s

theorem timeout_of (s s1 : S) (n : Option NCR) (h1 : R s s1) :
    R s (if s1.st ≠ .closed then Ws.dropConnection { s1 with wasClean := false, notClean := n } true else s1) :=
  timeout_rel (R := R) W.trans W.unclean W.dropConnection s s1 n h1

/-- the three deadlines that drop a connection in any state but CLOSED, for a relation that holds across forgetting
their handles by itself -/
theorem timedOut_of (hc : ∀ (s : S) (keepCloseHs keepServerDrop keepPingTimeout : Bool), R s { s with
      tCloseHs := if keepCloseHs then s.tCloseHs else none, tServerDrop := if keepServerDrop then s.tServerDrop else none,
      tPingTimeout := if keepPingTimeout then s.tPingTimeout else none })
    (s : S) (k : TK) (hk : k = .closeHs ∨ k = .serverDrop ∨ k = .pingTimeout) : R s (fire s k) := by
  rcases hk with rfl | rfl | rfl
  · exact W.timeout_of s _ _ (hc s false true true)
  · exact W.timeout_of s _ _ (hc s true false true)
  · exact W.timeout_of s _ _ (hc s true true false)

theorem applyViolations (s : S) (vs : List HV) : R s (applyViolations s vs).1 := by
  induction vs generalizing s with
  | nil => exact W.refl s
  | cons v vs ih =>
    unfold Ws.applyViolations
    have hv := W.violation s 1002 (by decide)
    generalize Ws.violation s 1002 = r at hv
    dsimp only
    split
    · exact hv
    · exact W.trans hv (ih _)

theorem extLenStep (s : S) (a b : Nat) : R s (extLenStep s a b).1 := by
  rw [extLenStep_eq]
  split
  · exact W.refl s
  · exact W.violation _ _ (by decide)

theorem onMessageFrameBegin (s : S) (n : Nat) : R s (onMessageFrameBegin s n) := by
  unfold Ws.onMessageFrameBegin
  dsimp only
  split
  · split
    · exact W.pre (W.failConnection _ _ (by decide)) rfl
    · split
      · exact W.pre (W.failConnection _ _ (by decide)) rfl
      · exact W.parse rfl
  · exact W.parse rfl

theorem onFrameBegin (s : S) (h : Hdr) : R s (onFrameBegin s h) := by
  unfold Ws.onFrameBegin
  split
  · exact W.parse rfl
  · dsimp only
    split
    · split
      · exact W.pre (W.onMessageFrameBegin _ _) rfl
      · exact W.pre (W.onMessageFrameBegin _ _) rfl
    · exact W.onMessageFrameBegin _ _

theorem utf8Step (s : S) (p : Bytes) : R s (utf8Step s p).1 := by
  unfold Ws.utf8Step
  split
  · split
    · exact W.pre (W.violation _ _ (by decide)) rfl
    · exact W.parse rfl
  · exact W.refl s

theorem onFrameData (s : S) (h : Hdr) (p : Bytes) : R s (onFrameData s h p).1 := by
  unfold Ws.onFrameData
  split
  · exact W.parse rfl
  · dsimp only
    have h0 := W.utf8Step s p
    generalize Ws.utf8Step s p = r at h0
    split
    · exact h0
    · unfold onMessageFrameData
      split
      · exact W.post h0 rfl
      · exact h0

theorem onPingFrame (s : S) (p : Bytes) : R s (onPingFrame s p) := by
  unfold Ws.onPingFrame
  dsimp only
  split
  · exact W.trans (W.emit _ _ rfl) (W.sendPong _ _)
  · exact W.emit _ _ rfl

theorem endMessageStep (s : S) : R s (endMessageStep s).1 := by
  unfold Ws.endMessageStep
  dsimp only
  have h0 : R s (if (s.utf8On && !s.msgCompressed && !s.utf8Ends) = true
      then ((Ws.violation s 1007).1, !(Ws.violation s 1007).2) else (s, true)).1 := by
    split
    · exact W.violation _ _ (by decide)
    · exact W.refl s
  generalize (if (s.utf8On && !s.msgCompressed && !s.utf8Ends) = true
      then ((Ws.violation s 1007).1, !(Ws.violation s 1007).2) else (s, true)) = r at h0
  split
  · exact h0
  · unfold resetMessage deliverMessage
    split
    · exact W.post (W.trans h0 (W.emit _ _ rfl)) rfl
    · exact W.post h0 rfl

theorem closeReasonStep (s : S) (r : Option Bytes) : R s (closeReasonStep s r).1 := by
  unfold Ws.closeReasonStep
  split
  · rename_i x
    split
    · exact W.violation _ _ (by decide)
    · rename_i hv
      exact W.peerReason s (some x) (fun y hy => by cases hy; simpa using hv)
  · exact W.refl s

/-- `onCloseFrame` for a relation that holds across `closeStateStep`; `hcs`: the closing step on the state in which the
peer's code and reason have been checked and stored -/
theorem onCloseFrame_of (s : S) (c : Option Nat) (r : Option Bytes)
    (hcs : R (Ws.closeReasonStep (Ws.closeCodeStep { s with remoteCloseCode := none, remoteCloseReason := none } c).1 r).1
      (closeStateStep (Ws.closeReasonStep
        (Ws.closeCodeStep { s with remoteCloseCode := none, remoteCloseReason := none } c).1 r).1).1) :
    R s (onCloseFrame s c r).1 := by
  unfold Ws.onCloseFrame
  dsimp only
  have h0 : R s { s with remoteCloseCode := none, remoteCloseReason := none } :=
    W.post (W.peerReason s none (fun _ h => by cases h)) rfl
  have h1 := W.closeCodeStep { s with remoteCloseCode := none, remoteCloseReason := none } c
  generalize Ws.closeCodeStep { s with remoteCloseCode := none, remoteCloseReason := none } c = r1 at h1 hcs
  split
  · exact W.trans h0 h1
  · have h2 := W.closeReasonStep r1.1 r
    generalize Ws.closeReasonStep r1.1 r = r2 at h2 hcs
    split
    · exact W.trans (W.trans h0 h1) h2
    · exact W.trans (W.trans (W.trans h0 h1) h2) hcs

end Walk.Base

/-- `Walk.Base` and the three functions the receive path calls across which some invariant holds only as a whole: the
close is marked clean inside `onCloseFrame` before our reply is out (`J`) and the peer's close code is checked there
before it is echoed (`Ext`); in the ping bookkeeping neither ping timer is armed for a moment (`PK`) -/
structure Walk.Recv (R : S → S → Prop) : Prop extends Walk.Base R where
  onCloseFrame : ∀ s c r, R s (onCloseFrame s c r).1
  cancelAutoPingTimeout : ∀ s, R s (cancelAutoPingTimeout s)
  onPongFrame : ∀ s p, R s (onPongFrame s p)

namespace Walk.Recv
variable {R : S → S → Prop} (W : Walk.Recv R)
include W

theorem processControlFrame (s : S) (h : Hdr) : R s (processControlFrame s h) := by
  unfold Ws.processControlFrame
  split
  · exact W.pre (W.onCloseFrame _ _ _) rfl
  · split
    · exact W.pre (W.onPingFrame _ _) rfl
    · split
      · exact W.pre (W.trans (W.onPongFrame _ _) (W.emit _ _ rfl)) rfl
      · exact W.parse rfl

theorem endDataFrame (s : S) : R s (endDataFrame s) := by
  unfold Ws.endDataFrame
  dsimp only
  split <;> split <;> first | exact W.parse rfl | exact W.pre (W.cancelAutoPingTimeout _) rfl

theorem onFrameEnd (s : S) (h : Hdr) : R s (onFrameEnd s h).1 := by
  unfold Ws.onFrameEnd
  split
  · exact W.post (W.processControlFrame s h) rfl
  · split
    · exact W.trans (W.endDataFrame s) (W.endMessageStep _)
    · exact W.post (W.endDataFrame s) rfl

/-- the header step (`headerStep`) is the rule cascade, then the extended-length rules, then `onFrameBegin` on the new
frame -/
theorem processHeader (s : S) (o0 o1 : UInt8) (buf : Bytes) : R s (processHeader s o0 o1 buf).1 := by
  rw [processHeader_eq]
  generalize WsSpec.Hd.ofOctets o0 o1 = h
  unfold headerStep
  dsimp only
  have h0 := W.applyViolations s (headerViolations s.cfg s.insideMessage h.fin h.rsv h.opcode h.masked h.len7)
  generalize Ws.applyViolations s (headerViolations s.cfg s.insideMessage h.fin h.rsv h.opcode h.masked h.len7) = r0
    at h0
  split
  · exact h0
  · split
    · have h1 := W.extLenStep r0.1 h.len7 (hdrRec h (buf.drop 2)).length
      generalize Ws.extLenStep r0.1 h.len7 (hdrRec h (buf.drop 2)).length = r1 at h1
      split
      · exact W.trans h0 h1
      · exact W.trans (W.trans h0 h1) (W.pre (W.onFrameBegin _ _) rfl)
    · exact h0

theorem processPayload (s : S) (h : Hdr) (buf : Bytes) : R s (processPayload s h buf).1 := by
  unfold Ws.processPayload
  dsimp only
  have h1 : R s (Ws.onFrameData { s with ptr := s.ptr + (buf.take (h.length - s.ptr)).length }
      h (unmaskChunk s h (buf.take (h.length - s.ptr)))).1 := W.pre (W.onFrameData _ _ _) rfl
  generalize Ws.onFrameData { s with ptr := s.ptr + (buf.take (h.length - s.ptr)).length }
    h (unmaskChunk s h (buf.take (h.length - s.ptr))) = r at h1
  split
  · exact h1
  · have h2 : R r.1 (if r.1.ptr = h.length then Ws.onFrameEnd r.1 h else (r.1, true)).1 := by
      split
      · exact W.onFrameEnd _ _
      · exact W.refl _
    generalize (if r.1.ptr = h.length then Ws.onFrameEnd r.1 h else (r.1, true)) = r2 at h2
    split
    · exact W.trans h1 h2
    · exact W.trans h1 h2

theorem processData (s : S) (buf : Bytes) : R s (processData s buf).1 := by
  unfold Ws.processData
  split
  · split
    · exact W.processHeader _ _ _ _
    · exact W.refl s
  · exact W.processPayload _ _ _

theorem drain (fuel : Nat) (s : S) (buf : Bytes) : R s (drain fuel s buf).1 := by
  induction fuel generalizing s buf with
  | zero => exact W.refl s
  | succ n ih =>
    unfold Ws.drain
    split
    · exact W.refl s
    · have h := W.processData s buf
      generalize Ws.processData s buf = r at h
      dsimp only
      split
      · exact W.trans h (ih _ _)
      · exact h

end Walk.Recv

/-- what the timers need: from it follow `fire`, `advanceTo`, `advance`, `pump`.  Nothing of the receive path is in
it, so it also serves relations the receive path does not keep. -/
structure Walk.Timers (R : S → S → Prop) : Prop where
  refl : ∀ s, R s s
  trans : ∀ {a b c}, R a b → R b c → R a c
  tick : ∀ (s : S) d, R s { s with now := max s.now d }
  unclean : ∀ s n, R s { s with wasClean := false, notClean := n }
  dropConnection : ∀ s a, R s (dropConnection s a)
  sendTick : ∀ s, R s (sendTick s)
  /-- forgetting the handle of a fired timer that enforces no deadline (`true` = kept) -/
  forget : ∀ (s : S) (keepOpenHs keepSendTick : Bool), R s { s with
    tOpenHs := if keepOpenHs then s.tOpenHs else none, tSendTick := if keepSendTick then s.tSendTick else none }
  /-- the closing-handshake, server-drop or pong deadline passed (see `timeout_rel`): between forgetting the handle and
  the drop a CLOSING connection has no drop timer (`Ext`) and an OPEN one no ping timer (`PK`) -/
  timedOut : ∀ (s : S) (k : TK), k = .closeHs ∨ k = .serverDrop ∨ k = .pingTimeout → R s (fire s k)
  sendAutoPing : ∀ s, R s (sendAutoPing s)

namespace Walk.Timers
variable {R : S → S → Prop} (W : Walk.Timers R)
include W

theorem fire (s : S) (k : TK) : R s (fire s k) := by
  cases k
  · have h := W.forget s false true
    show R s (if _ then _ else _)
    split
    · exact W.trans h (W.trans (W.unclean _ _) (W.dropConnection _ _))
    · exact h
  · exact W.timedOut s _ (Or.inl rfl)
  · exact W.timedOut s _ (Or.inr (Or.inl rfl))
  · exact W.timedOut s _ (Or.inr (Or.inr rfl))
  · exact W.sendAutoPing s
  · exact W.trans (W.forget s true false) (W.sendTick _)

theorem advanceTo (target fuel : Nat) (s : S) : R s (advanceTo target fuel s) :=
  advanceTo_rel W.refl W.trans W.tick (fun s k _ _ _ => W.fire s k) target fuel s

theorem pump (s : S) : R s (pump s) := W.advanceTo _ _ _
theorem advance (s : S) (dt : Nat) : R s (advance s dt) := W.advanceTo _ _ _

end Walk.Timers

/-- `Walk.Recv`, what the timers need (`Walk.timers`), the read buffer and the end of the opening handshake -/
structure Walk (R : S → S → Prop) : Prop extends Walk.Recv R where
  /-- the read buffer between two reads -/
  buffer : ∀ (s : S) (d : Bytes), R s { s with data := d }
  /-- as in `Walk.Timers`: the fired opening-handshake or send-tick handle forgotten -/
  forget : ∀ (s : S) (keepOpenHs keepSendTick : Bool), R s { s with
    tOpenHs := if keepOpenHs then s.tOpenHs else none, tSendTick := if keepSendTick then s.tSendTick else none }
  /-- as in `Walk.Timers`: a deadline handler as a whole (step by step: `Walk.Base.timedOut_of`) -/
  timedOut : ∀ (s : S) (k : TK), k = .closeHs ∨ k = .serverDrop ∨ k = .pingTimeout → R s (fire s k)
  /-- `_sendAutoPing` as a whole: in between no ping timer is armed (step by step: `Walk.Base.sendAutoPing_of`) -/
  sendAutoPing : ∀ s, R s (sendAutoPing s)
  /-- the end of the opening handshake as a whole: OPEN before the first ping is scheduled (`Walk.Base.handshakeDone_of`) -/
  handshakeDone : ∀ s, R s (handshakeDone s)

/-- a relation that holds across each bookkeeping step by itself.  `mark`: `closeStateStep` marks the close clean or unclean
and forgets the closing-handshake timer; `replyClose`: our reply to the peer's close frame; `ping`: every update of the ping
bookkeeping (`beginAutoPing`, `cancelAutoPingTimeout`, a matching pong, the pong deadline forgetting its handle); `opened`:
the end of the opening handshake; `forget`: a fired timer forgets its handle; `buffer`: `dataReceived` writes the read
buffer.  The Bool flags say which handles stay (`true` = kept) -/
theorem Walk.ofSteps {R : S → S → Prop} (B : Walk.Base R)
    (mark : ∀ (s : S) (keep w : Bool), R s { s with tCloseHs := if keep then s.tCloseHs else none, wasClean := w })
    (replyClose : ∀ s, R s (Ws.replyClose s))
    (ping : ∀ (s : S) (keepT keepN : Bool) (p : Option Bytes) (q : Nat), R s { s with
      tPingTimeout := if keepT then s.tPingTimeout else none, tPingNext := if keepN then s.tPingNext else none,
      pingPending := p, pingSeq := q })
    (opened : ∀ s : S, s.st = .connecting → R s { s with st := .opened, tOpenHs := none })
    (forget : ∀ (s : S) (keepOpenHs keepCloseHs keepServerDrop keepSendTick : Bool), R s { s with
      tOpenHs := if keepOpenHs then s.tOpenHs else none, tCloseHs := if keepCloseHs then s.tCloseHs else none,
      tServerDrop := if keepServerDrop then s.tServerDrop else none,
      tSendTick := if keepSendTick then s.tSendTick else none })
    (buffer : ∀ (s : S) (d : Bytes), R s { s with data := d }) : Walk R where
  toBase := B
  onCloseFrame s c r := B.onCloseFrame_of s c r (B.closeStateStep_of mark replyClose _)
  cancelAutoPingTimeout := B.cancelAutoPingTimeout_of fun s => ping s false false none s.pingSeq
  onPongFrame := B.onPongFrame_of fun s => ping s false true none s.pingSeq
  buffer := buffer
  forget s keepOpenHs keepSendTick := forget s keepOpenHs true true keepSendTick
  timedOut := B.timedOut_of fun s keepC keepS keepP =>
    B.trans (forget s true keepC keepS true) (ping _ keepP true s.pingPending s.pingSeq)
  sendAutoPing := B.sendAutoPing_of fun s => ping s true false _ _
  handshakeDone := B.handshakeDone_of opened

namespace Walk
variable {R : S → S → Prop} (W : Walk R)
include W

theorem dataReceived (s : S) (d : Bytes) : R s (dataReceived s d) := by
  unfold Ws.dataReceived
  split
  · exact W.refl s
  · have hd := W.drain (drainFuel (s.data ++ d)) { s with data := [] } (s.data ++ d)
    split
    · exact W.trans (W.buffer s []) (W.trans hd (W.buffer _ _))
    · exact W.trans (W.buffer s []) (W.trans hd (W.buffer _ _))
    · exact W.buffer s _

theorem timers : Walk.Timers R :=
  { W with sendTick := W.sendTick, dropConnection := W.dropConnection }

theorem pump (s : S) : R s (pump s) := W.timers.pump s
theorem advance (s : S) (dt : Nat) : R s (advance s dt) := W.timers.advance s dt

end Walk

end Abverif.Ws

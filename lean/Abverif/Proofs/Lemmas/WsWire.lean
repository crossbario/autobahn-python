import Abverif.Proofs.Lemmas.WsFrame
/-
What the send path puts on the wire.  `wire s`: the octets written so far and those still queued, in order.
`Wrote a b W`: the send path or the data-sending API ran between `a` and `b` and, `a` being able to write (`Live`),
appended `W` to the wire.  It composes (`Wrote.trans`), so the modes of `sendData` (direct, queued, synchronous, chopped)
are read in one place, `sendData_Wrote`.  Then one lemma per function that writes, each reading the definition of its
function: `sendFrame_Wrote` (as an equation: `sendFrame_wire`), `sendPrepared_Wrote`, and for the streaming API
`beginMessageFrameCore_Wrote`, `sendMessageFrameData_Wrote` with `encodeFrame_stream`.
-/
namespace Abverif.Ws

def writeOf : Out → Option Bytes
  | .write b => some b
  | _ => none

/-- all octets handed to `transport.write` so far -/
def written (s : S) : Bytes := (s.log.filterMap writeOf).flatten

/-- octets written or still queued, in order -/
def wire (s : S) : Bytes := written s ++ s.sendQueue.flatten

theorem wire_emit (s : S) (o : Out) (h : writeOf o = none) : wire (s.emit o) = wire s := by
  simp [wire, written, S.emit, List.filterMap_append, h]

theorem wire_start (cfg : Cfg) : wire (start cfg) = [] := by
  unfold start
  simp only []
  split <;> rfl

/-- the endpoint can still write: it is not CLOSED and its transport is there -/
structure Live (s : S) : Prop where
  st : s.st ≠ .closed
  conn : ¬ (s.lost = true ∧ s.cfg.asyncio = true)

theorem Live.of_ApiEq {a b : S} (h : Live a) (e : ApiEq a b) : Live b :=
  ⟨by rw [e.st]; exact h.st, by rw [e.lost, e.cfg]; exact h.conn⟩

/-- the send path or the data-sending API ran between `a` and `b` (`ApiEq`) and, `a` being able to write, put the octets
`W` on the wire -/
structure Wrote (a b : S) (W : Bytes) : Prop where
  eq : ApiEq a b
  wire_eq : Live a → wire b = wire a ++ W

namespace Wrote

theorem quiet {a b : S} (e : ApiEq a b) (hw : wire b = wire a) : Wrote a b [] :=
  ⟨e, fun _ => by rw [hw, List.append_nil]⟩

theorem refl (a : S) : Wrote a a [] := quiet (ApiEq.refl a) rfl

theorem trans {a b c : S} {W1 W2 : Bytes} (h1 : Wrote a b W1) (h2 : Wrote b c W2) : Wrote a c (W1 ++ W2) :=
  ⟨h1.eq.trans h2.eq, fun hl => by rw [h2.wire_eq (hl.of_ApiEq h1.eq), h1.wire_eq hl, List.append_assoc]⟩

theorem post {a b c : S} {W : Bytes} (h : Wrote a b W) (e : ApiEq b c) (hw : wire c = wire b) : Wrote a c W :=
  ⟨h.eq.trans e, fun hl => hw.trans (h.wire_eq hl)⟩

end Wrote

/-! ### `sendData` -/

theorem sendTick_wire (s : S) (h : s.st ≠ .closed) : wire (sendTick s) = wire s := by
  unfold sendTick wire written
  split
  · rename_i e rest hq
    simp [S.timer, S.emit, h, hq, List.filterMap_append, writeOf]
  · rename_i hq
    simp

theorem trigger_wire (s : S) (h : s.st ≠ .closed) : wire (trigger s) = wire s := by
  unfold trigger
  split
  · rw [sendTick_wire _ (by simpa using h)]; rfl
  · rfl

theorem flatten_chop (c : Nat) (hc : 1 ≤ c) :
    ∀ (fuel : Nat) (d : Bytes), d.length ≤ fuel → (chop c fuel d).flatten = d := by
  intro fuel
  induction fuel with
  | zero => intro d h; simp [chop]
  | succ n ih =>
    intro d h
    unfold chop
    split
    · simp
    · rename_i hlt
      simp only [List.flatten_cons]
      rw [ih (d.drop c) (by simp; omega)]
      exact List.take_append_drop _ _

theorem sendData_Wrote (s : S) (d : Bytes) (sync : Bool) (chopsize : Nat) : Wrote s (sendData s d sync chopsize) d := by
  refine ⟨(sendData_SendEq s d sync chopsize).toApiEq, fun ⟨h, hl⟩ => ?_⟩
  unfold sendData
  split
  · rename_i hc
    rw [trigger_wire _ (by simpa using h)]
    simp [wire, written, flatten_chop chopsize (by omega) d.length d (Nat.le_refl _)]
  · split
    · rw [trigger_wire _ (by simpa using h)]
      simp [wire, written]
    · rename_i h1 h2
      have hq : s.sendQueue = [] := by
        cases hs : s.sendQueue with
        | nil => rfl
        | cons a b => simp [hs] at h2
      split
      · rename_i h3; exact absurd (by simpa using h3) hl
      · simp [wire, written, S.emit, List.filterMap_append, writeOf, hq]

/-! ### frames -/

theorem drawKey_Wrote (s : S) : Wrote s (drawKey s).1 [] := by
  rw [drawKey_fst]; exact Wrote.quiet rfl rfl

theorem prepareKey_Wrote (s : S) : Wrote s (prepareKey s).1 [] := by
  rw [prepareKey_fst]; exact Wrote.quiet rfl rfl

theorem recordOp_Wrote (s : S) (op : Nat) : Wrote s (recordOp s op) [] := Wrote.quiet rfl rfl

theorem setFrameState_Wrote (s : S) (n : Nat) (k : Option Xor.Key) (op : Nat) :
    Wrote s (setFrameState s n k op) [] := Wrote.quiet rfl rfl

theorem sendFrame_Wrote (s : S) (op : Nat) (pl : Bytes) (fin : Bool) (rsv : Nat) (sync : Bool) (chop : Nat) (raw : Bytes)
    (henc : encodeFrame fin rsv op (drawKey s).2 s.cfg.applyMask pl = some raw) :
    Wrote s (sendFrame s op pl fin rsv sync chop) raw := by
  unfold sendFrame
  simp only [(drawKey_Wrote s).eq.cfg, henc]
  exact (drawKey_Wrote s).trans ((recordOp_Wrote _ op).trans (sendData_Wrote _ raw sync chop))

theorem sendFrame_wire (s : S) (op : Nat) (pl : Bytes) (fin : Bool) (rsv : Nat) (sync : Bool) (chop : Nat) (raw : Bytes)
    (hst : s.st ≠ .closed) (hl : ¬ (s.lost = true ∧ s.cfg.asyncio = true))
    (henc : encodeFrame fin rsv op (drawKey s).2 s.cfg.applyMask pl = some raw) :
    wire (sendFrame s op pl fin rsv sync chop) = wire s ++ raw :=
  (sendFrame_Wrote s op pl fin rsv sync chop raw henc).wire_eq ⟨hst, hl⟩

/-- a prepared message on an OPEN connection: the frame built at prepare time goes onto the wire -/
theorem sendPrepared_Wrote (s : S) (pl : Bytes) (binary : Bool) (raw : Bytes) (hst : s.st = .opened)
    (henc : encodeFrame true 0 (if binary then 2 else 1) (prepareKey s).2 true pl = some raw) :
    Wrote s (sendPrepared s pl binary) raw := by
  unfold sendPrepared
  simp only [henc]
  rw [if_neg (not_not_intro ((prepareKey_Wrote s).eq.st.trans hst))]
  exact (prepareKey_Wrote s).trans ((recordOp_Wrote _ _).trans (sendData_Wrote _ raw false 0))

/-! ### the streaming API -/

/-- `beginMessageFrame(n)` before or between the frames of a streamed message: the header goes out and the frame state is
set up -/
theorem beginMessageFrameCore_Wrote (s : S) (n l7 : Nat) (el : Bytes)
    (hs : s.sendSt = .messageBegin ∨ s.sendSt = .insideMessage) (hel : encodeLen n = some (l7, el)) :
    ∃ s', beginMessageFrameCore s n = some s' ∧
      Wrote s s' (frameHeader (if s.sendSt = .messageBegin then s.sendOpcode else 0) (drawKey s).2 l7 el) ∧
      SendEq { s with sendSt := .insideFrame, framePtr := 0, frameLen := n, frameKey := (drawKey s).2,
                      frameMasking := (drawKey s).2.isSome && decide (n > 0) && s.cfg.applyMask } s' := by
  have hcore := (beginMessageFrameCore_iff s _ n).mpr ⟨hs, l7, el, hel, rfl⟩
  generalize (if s.sendSt = .messageBegin then s.sendOpcode else 0) = op at hcore ⊢
  have e := sendData_SendEq (setFrameState (drawKey s).1 n (drawKey s).2 op) (frameHeader op (drawKey s).2 l7 el) false 0
  have w := sendData_Wrote (setFrameState (drawKey s).1 n (drawKey s).2 op) (frameHeader op (drawKey s).2 l7 el) false 0
  -- the state behind `sendData` enters only through `e` and `w`
  generalize sendData (setFrameState (drawKey s).1 n (drawKey s).2 op) (frameHeader op (drawKey s).2 l7 el) false 0 = s2
    at hcore e w
  refine ⟨_, hcore, ((drawKey_Wrote s).trans ((setFrameState_Wrote _ n _ op).trans w)).post rfl rfl, ?_⟩
  unfold SendEq at e ⊢
  rw [e, drawKey_fst s]
  rfl

/-- a payload chunk that completes the open frame goes out masked, and the frame is left -/
theorem sendMessageFrameData_Wrote (s : S) (pl : Bytes) (sync : Bool) (hst : s.st = .opened) (hb : s.begun = true)
    (hf : s.sendSt = .insideFrame) (hfit : s.framePtr + pl.length = s.frameLen) :
    Wrote s (sendMessageFrameData s pl sync) (maskFrameChunk s pl) ∧
    SendEq { s with sendSt := .insideMessage, framePtr := s.framePtr + pl.length } (sendMessageFrameData s pl sync) := by
  have e := sendData_SendEq (advanceFramePtr s pl.length) (maskFrameChunk s pl) sync 0
  have w := sendData_Wrote (advanceFramePtr s pl.length) (maskFrameChunk s pl) sync 0
  have hd : sendMessageFrameData s pl sync
      = { sendData (advanceFramePtr s pl.length) (maskFrameChunk s pl) sync 0 with sendSt := .insideMessage } := by
    unfold sendMessageFrameData leaveFrameIfDone
    have open_ : ¬ s.st ≠ .opened := not_not_intro hst
    have inFrame : ¬ s.sendSt ≠ .insideFrame := by rw [hf]; simp
    have fits : ¬ (s.framePtr + pl.length > s.frameLen) := by omega
    have done : (sendData (advanceFramePtr s pl.length) (maskFrameChunk s pl) sync 0).framePtr
        ≥ (sendData (advanceFramePtr s pl.length) (maskFrameChunk s pl) sync 0).frameLen := by
      rw [e.framePtr, e.frameLen]; exact Nat.le_of_eq hfit.symm
    simp only [open_, if_false, hb, Bool.not_true, Bool.false_eq_true, inFrame, fits, done, if_true]
  rw [hd]
  -- the state behind `sendData` enters only through `e` and `w`
  generalize sendData (advanceFramePtr s pl.length) (maskFrameChunk s pl) sync 0 = s2 at e w
  refine ⟨((Wrote.quiet (b := advanceFramePtr s pl.length) rfl rfl).trans w).post rfl rfl, ?_⟩
  unfold SendEq at e ⊢
  rw [e]
  rfl

/-- header and masked chunk of a frame streamed in one piece are the frame `encodeFrame` builds (FIN clear) -/
theorem encodeFrame_stream (s : S) (op l7 : Nat) (el : Bytes) (key : Option Xor.Key) (am : Bool) (pl : Bytes)
    (hel : encodeLen pl.length = some (l7, el)) (hk : s.frameKey = key) (hp : s.framePtr = 0)
    (hm : s.frameMasking = (key.isSome && decide (pl.length > 0) && am)) :
    encodeFrame false 0 op key am pl = some (frameHeader op key l7 el ++ maskFrameChunk s pl) := by
  unfold encodeFrame maskFrameChunk frameHeader
  rw [hel, hk, hp, hm]
  cases key with
  | none => simp
  | some k => cases hq : (decide (pl.length > 0) && am) <;> simp [hq]

end Abverif.Ws

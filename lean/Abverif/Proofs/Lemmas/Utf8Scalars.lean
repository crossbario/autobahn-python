import Abverif.Proofs.Lemmas.Utf8Dfa
/-
UTF8-char ⇔ shortest-form encoding of a Unicode scalar value (arithmetic by omega), for `WF_iff_scalars` of C09.
From `encodeAll_cons` on, for C19 only: `encode` read back one sequence at a time (`readFirst`), hence injective on
texts, and ASCII octets of an encoded text are characters of the text.
-/
namespace Abverif.Utf8

theorem encode1 (cp : Nat) (h : cp < 0x80) : encode cp = [UInt8.ofNat cp] := by
  rw [encode, if_pos h]
theorem encode2 (cp : Nat) (h1 : ¬ cp < 0x80) (h : cp < 0x800) :
    encode cp = [UInt8.ofNat (0xC0 + cp / 64), UInt8.ofNat (0x80 + cp % 64)] := by
  rw [encode, if_neg h1, if_pos h]
theorem encode3 (cp : Nat) (h1 : ¬ cp < 0x80) (h2 : ¬ cp < 0x800) (h : cp < 0x10000) :
    encode cp = [UInt8.ofNat (0xE0 + cp / 4096), UInt8.ofNat (0x80 + cp / 64 % 64), UInt8.ofNat (0x80 + cp % 64)] := by
  rw [encode, if_neg h1, if_neg h2, if_pos h]
theorem encode4 (cp : Nat) (h1 : ¬ cp < 0x80) (h2 : ¬ cp < 0x800) (h3 : ¬ cp < 0x10000) :
    encode cp = [UInt8.ofNat (0xF0 + cp / 262144), UInt8.ofNat (0x80 + cp / 4096 % 64),
      UInt8.ofNat (0x80 + cp / 64 % 64), UInt8.ofNat (0x80 + cp % 64)] := by
  rw [encode, if_neg h1, if_neg h2, if_neg h3]

theorem isScalar_iff (c : Nat) : isScalar c = true ↔ c ≤ 0x10FFFF ∧ ¬ (0xD800 ≤ c ∧ c ≤ 0xDFFF) := by
  simp only [isScalar, Bool.and_eq_true, decide_eq_true_eq, Bool.not_eq_true', Bool.and_eq_false_iff,
    decide_eq_false_iff_not]
  omega

/-! `encode` on a code point given by its base-64 digits: dividing by 64, 4096 = 64², 262144 = 64³ strips digits -/

theorem div64 (m w : Nat) (hw : w < 64) : (m * 64 + w) / 64 = m := by omega

theorem mod64 (m w : Nat) (hw : w < 64) : (m * 64 + w) % 64 = w := by omega

theorem encode_digits2 (x y : Nat) (hy : y < 64) (hlo : 0x80 ≤ x * 64 + y) (hhi : x * 64 + y < 0x800) :
    encode (x * 64 + y) = [UInt8.ofNat (0xC0 + x), UInt8.ofNat (0x80 + y)] := by
  rw [encode2 _ (by omega) hhi, div64 _ _ hy, mod64 _ _ hy]

theorem encode_digits3 (x y z : Nat) (hy : y < 64) (hz : z < 64) (hlo : 0x800 ≤ (x * 64 + y) * 64 + z)
    (hhi : (x * 64 + y) * 64 + z < 0x10000) :
    encode ((x * 64 + y) * 64 + z) = [UInt8.ofNat (0xE0 + x), UInt8.ofNat (0x80 + y), UInt8.ofNat (0x80 + z)] := by
  rw [encode3 _ (by omega) (by omega) hhi, show 4096 = 64 * 64 from rfl]
  simp only [← Nat.div_div_eq_div_mul, div64 _ _ hz, div64 _ _ hy, mod64 _ _ hz, mod64 _ _ hy]

theorem encode_digits4 (x y z w : Nat) (hy : y < 64) (hz : z < 64) (hw : w < 64)
    (hlo : 0x10000 ≤ ((x * 64 + y) * 64 + z) * 64 + w) :
    encode (((x * 64 + y) * 64 + z) * 64 + w) =
      [UInt8.ofNat (0xF0 + x), UInt8.ofNat (0x80 + y), UInt8.ofNat (0x80 + z), UInt8.ofNat (0x80 + w)] := by
  rw [encode4 _ (by omega) (by omega) (by omega), show 262144 = 64 * 64 * 64 from rfl, show 4096 = 64 * 64 from rfl]
  simp only [← Nat.div_div_eq_div_mul, div64 _ _ hw, div64 _ _ hz, div64 _ _ hy, mod64 _ _ hw, mod64 _ _ hz,
    mod64 _ _ hy]

/-! decoding: lead octet minus its marker and tail octets minus 0x80 are the digits -/

theorem ofNat_add_sub {a : UInt8} {m : Nat} (h : m ≤ a.toNat) : UInt8.ofNat (m + (a.toNat - m)) = a := by
  rw [Nat.add_sub_cancel' h, UInt8.ofNat_toNat]

theorem tail_digit {b : UInt8} (hb : 0x80 ≤ b.toNat ∧ b.toNat ≤ 0xBF) : b.toNat - 0x80 < 64 := by omega

theorem dec2 (a b : UInt8) (ha : 0xC2 ≤ a.toNat ∧ a.toNat ≤ 0xDF) (hb : 0x80 ≤ b.toNat ∧ b.toNat ≤ 0xBF) :
    ∃ cp, isScalar cp = true ∧ [a, b] = encode cp := by
  refine ⟨(a.toNat - 0xC0) * 64 + (b.toNat - 0x80), (isScalar_iff _).mpr (by omega), ?_⟩
  rw [encode_digits2 _ _ (tail_digit hb) (by omega) (by omega), ofNat_add_sub (by omega), ofNat_add_sub hb.1]

theorem dec3 (a b c : UInt8) (ha : 0xE0 ≤ a.toNat ∧ a.toNat ≤ 0xEF) (hb : 0x80 ≤ b.toNat ∧ b.toNat ≤ 0xBF)
    (hc : 0x80 ≤ c.toNat ∧ c.toNat ≤ 0xBF) (hE0 : a.toNat = 0xE0 → 0xA0 ≤ b.toNat) (hED : a.toNat = 0xED → b.toNat ≤ 0x9F) :
    ∃ cp, isScalar cp = true ∧ [a, b, c] = encode cp := by
  refine ⟨((a.toNat - 0xE0) * 64 + (b.toNat - 0x80)) * 64 + (c.toNat - 0x80), (isScalar_iff _).mpr (by omega), ?_⟩
  rw [encode_digits3 _ _ _ (tail_digit hb) (tail_digit hc) (by omega) (by omega), ofNat_add_sub ha.1,
    ofNat_add_sub hb.1, ofNat_add_sub hc.1]

theorem dec4 (a b c d : UInt8) (ha : 0xF0 ≤ a.toNat ∧ a.toNat ≤ 0xF4) (hb : 0x80 ≤ b.toNat ∧ b.toNat ≤ 0xBF)
    (hc : 0x80 ≤ c.toNat ∧ c.toNat ≤ 0xBF) (hd : 0x80 ≤ d.toNat ∧ d.toNat ≤ 0xBF)
    (hF0 : a.toNat = 0xF0 → 0x90 ≤ b.toNat) (hF4 : a.toNat = 0xF4 → b.toNat ≤ 0x8F) :
    ∃ cp, isScalar cp = true ∧ [a, b, c, d] = encode cp := by
  refine ⟨(((a.toNat - 0xF0) * 64 + (b.toNat - 0x80)) * 64 + (c.toNat - 0x80)) * 64 + (d.toNat - 0x80),
    (isScalar_iff _).mpr (by omega), ?_⟩
  rw [encode_digits4 _ _ _ _ (tail_digit hb) (tail_digit hc) (tail_digit hd) (by omega), ofNat_add_sub ha.1,
    ofNat_add_sub hb.1, ofNat_add_sub hc.1, ofNat_add_sub hd.1]

theorem UChar_encode (c : Bytes) (h : UChar c) : ∃ cp, isScalar cp = true ∧ c = encode cp := by
  cases h <;> simp only [isTail, inR_iff] at *
  case utf8_1 a h =>
    refine ⟨a.toNat, (isScalar_iff _).mpr (by omega), ?_⟩
    rw [encode1 _ (by omega), UInt8.ofNat_toNat]
  case utf8_2 a b h hb => exact dec2 a b h hb
  case utf8_3_e0 a b c h hb hc => exact dec3 a b c (by omega) (by omega) hc (by omega) (by omega)
  case utf8_3_e1_ec a b c h hb hc => exact dec3 a b c (by omega) hb hc (by omega) (by omega)
  case utf8_3_ed a b c h hb hc => exact dec3 a b c (by omega) (by omega) hc (by omega) (by omega)
  case utf8_3_ee_ef a b c h hb hc => exact dec3 a b c (by omega) hb hc (by omega) (by omega)
  case utf8_4_f0 a b c d h hb hc hd => exact dec4 a b c d (by omega) (by omega) hc hd (by omega) (by omega)
  case utf8_4_f1_f3 a b c d h hb hc hd => exact dec4 a b c d (by omega) hb hc hd (by omega) (by omega)
  case utf8_4_f4 a b c d h hb hc hd => exact dec4 a b c d (by omega) (by omega) hc hd (by omega) (by omega)

/-- membership of a computed octet in a range of the grammar is linear arithmetic: both hypotheses are found at the
call site, from the bounds on `n` in its context -/
theorem inR_ofNat {lo hi n : Nat} (h : lo ≤ n ∧ n ≤ hi := by omega) (h256 : hi < 256 := by decide) :
    inR lo hi (UInt8.ofNat n) = true := by
  rw [inR_iff, UInt8.toNat_ofNat_of_lt' (Nat.lt_of_le_of_lt h.2 h256)]; exact h

/-- continuation octets `10xxxxxx` -/
theorem isTail_ofNat (n : Nat) : isTail (UInt8.ofNat (0x80 + n % 64)) = true := inR_ofNat

theorem encode_UChar (cp : Nat) (h : isScalar cp = true) : UChar (encode cp) := by
  rw [isScalar_iff] at h
  by_cases h1 : cp < 0x80
  · rw [encode1 cp h1]; exact UChar.utf8_1 _ inR_ofNat
  by_cases h2 : cp < 0x800
  · rw [encode2 cp h1 h2]; exact UChar.utf8_2 _ _ inR_ofNat (isTail_ofNat _)
  by_cases h3 : cp < 0x10000
  · rw [encode3 cp h1 h2 h3]
    by_cases c1 : cp < 0x1000
    · exact UChar.utf8_3_e0 _ _ _ inR_ofNat inR_ofNat (isTail_ofNat _)
    by_cases c2 : cp < 0xD000
    · exact UChar.utf8_3_e1_ec _ _ _ inR_ofNat (isTail_ofNat _) (isTail_ofNat _)
    by_cases c3 : cp < 0xE000
    · exact UChar.utf8_3_ed _ _ _ inR_ofNat inR_ofNat (isTail_ofNat _)
    · exact UChar.utf8_3_ee_ef _ _ _ inR_ofNat (isTail_ofNat _) (isTail_ofNat _)
  · rw [encode4 cp h1 h2 h3]
    by_cases c1 : cp < 0x40000
    · exact UChar.utf8_4_f0 _ _ _ _ inR_ofNat inR_ofNat (isTail_ofNat _) (isTail_ofNat _)
    by_cases c2 : cp < 0x100000
    · exact UChar.utf8_4_f1_f3 _ _ _ _ inR_ofNat (isTail_ofNat _) (isTail_ofNat _) (isTail_ofNat _)
    · exact UChar.utf8_4_f4 _ _ _ _ inR_ofNat inR_ofNat (isTail_ofNat _) (isTail_ofNat _)

theorem encodeAll_cons (c : Nat) (t : List Nat) : encodeAll (c :: t) = encode c ++ encodeAll t :=
  List.flatMap_cons

theorem encodeAll_append (a b : List Nat) : encodeAll (a ++ b) = encodeAll a ++ encodeAll b :=
  List.flatMap_append

/-- one continuation octet: six more bits for the value -/
def readTail : Nat × Bytes → Nat × Bytes
  | (v, b :: r) => (v * 64 + b.toNat % 64, r)
  | (v, []) => (v, [])

/-- reads one RFC 3629 sequence off the front: the first octet tells the length, the octets tell the code point -/
def readFirst : Bytes → Option (Nat × Bytes)
  | [] => none
  | a :: r => some <|
    if a.toNat < 0x80 then (a.toNat, r)
    else if a.toNat < 0xE0 then readTail (a.toNat % 32, r)
    else if a.toNat < 0xF0 then readTail (readTail (a.toNat % 16, r))
    else readTail (readTail (readTail (a.toNat % 8, r)))

/-- a continuation octet gives back the base-64 digit it was made from -/
theorem readTail_digit (n : Nat) (r : Bytes) : readTail (n / 64, UInt8.ofNat (0x80 + n % 64) :: r) = (n, r) := by
  show (n / 64 * 64 + (UInt8.ofNat (0x80 + n % 64)).toNat % 64, r) = (n, r)
  rw [UInt8.toNat_ofNat']
  exact congrArg (·, r) (by omega)

/-- a first octet with marker bits `110`, `1110`, `11110` and payload `q` announces one, two, three
continuation octets -/
theorem readFirst_lead2 {q : Nat} (hq : q < 32) (r : Bytes) :
    readFirst (UInt8.ofNat (0xC0 + q) :: r) = some (readTail (q, r)) := by
  simp only [readFirst, UInt8.toNat_ofNat']
  rw [if_neg (by omega), if_pos (by omega), show (0xC0 + q) % 2 ^ 8 % 32 = q by omega]

theorem readFirst_lead3 {q : Nat} (hq : q < 16) (r : Bytes) :
    readFirst (UInt8.ofNat (0xE0 + q) :: r) = some (readTail (readTail (q, r))) := by
  simp only [readFirst, UInt8.toNat_ofNat']
  rw [if_neg (by omega), if_neg (by omega), if_pos (by omega), show (0xE0 + q) % 2 ^ 8 % 16 = q by omega]

theorem readFirst_lead4 {q : Nat} (hq : q < 8) (r : Bytes) :
    readFirst (UInt8.ofNat (0xF0 + q) :: r) = some (readTail (readTail (readTail (q, r)))) := by
  simp only [readFirst, UInt8.toNat_ofNat']
  rw [if_neg (by omega), if_neg (by omega), if_neg (by omega), show (0xF0 + q) % 2 ^ 8 % 8 = q by omega]

/-- `readFirst` undoes `encode`, whatever follows (so RFC 3629 encodings are prefix-free and never empty):
the first octet holds `c / 64 / 64 / …`, every further octet one more base-64 digit -/
theorem readFirst_encode {c : Nat} (hc : c ≤ 0x10FFFF) (x : Bytes) : readFirst (encode c ++ x) = some (c, x) := by
  have e2 : c / 4096 = c / 64 / 64 := (Nat.div_div_eq_div_mul c 64 64).symm
  have e3 : c / 262144 = c / 64 / 64 / 64 := e2 ▸ (Nat.div_div_eq_div_mul c 4096 64).symm
  by_cases h1 : c < 0x80
  · rw [encode1 c h1]
    simp only [List.cons_append, List.nil_append, readFirst, UInt8.toNat_ofNat']
    rw [Nat.mod_eq_of_lt (Nat.lt_trans h1 (by decide)), if_pos h1]
  by_cases h2 : c < 0x800
  · rw [encode2 c h1 h2, List.cons_append, readFirst_lead2 (Nat.div_lt_of_lt_mul h2)]
    simp only [List.cons_append, List.nil_append, readTail_digit]
  by_cases h3 : c < 0x10000
  · rw [encode3 c h1 h2 h3, List.cons_append, readFirst_lead3 (Nat.div_lt_of_lt_mul h3), e2]
    simp only [List.cons_append, List.nil_append, readTail_digit]
  · rw [encode4 c h1 h2 h3, List.cons_append,
      readFirst_lead4 (Nat.div_lt_of_lt_mul (Nat.lt_of_le_of_lt hc (by decide))), e3, e2]
    simp only [List.cons_append, List.nil_append, readTail_digit]

theorem le_of_isScalar {t : List Nat} (h : ∀ c ∈ t, isScalar c = true) {c : Nat} (hc : c ∈ t) : c ≤ 0x10FFFF :=
  ((isScalar_iff c).mp (h c hc)).1

theorem readFirst_encodeAll : ∀ {t : List Nat}, (∀ c ∈ t, isScalar c = true) →
    readFirst (encodeAll t) = t.head?.map (·, encodeAll t.tail)
  | [], _ => rfl
  | c :: t, h => by rw [encodeAll_cons, readFirst_encode (le_of_isScalar h (List.mem_cons_self ..))]; rfl

theorem encodeAll_injective {s t : List Nat} (hs : ∀ c ∈ s, isScalar c = true) (ht : ∀ c ∈ t, isScalar c = true)
    (h : encodeAll s = encodeAll t) : s = t := by
  have e := congrArg readFirst h
  rw [readFirst_encodeAll hs, readFirst_encodeAll ht] at e
  match s, t, e with
  | [], [], _ => rfl
  | c :: s, d :: t, e =>
    obtain ⟨hcd, hr⟩ := Prod.mk.inj (Option.some.inj e)
    rw [hcd, encodeAll_injective (List.forall_mem_cons.mp hs).2 (List.forall_mem_cons.mp ht).2 hr]

theorem encode_high {c : Nat} (h1 : ¬ c < 0x80) (hc : c ≤ 0x10FFFF) : ∀ b ∈ encode c, 0x80 ≤ b.toNat := by
  rw [encode, if_neg h1]
  -- row by row of the table: every octet is a marker `≥ 0x80` plus a payload that keeps the sum below 256
  repeat' split
  all_goals
    simp only [List.forall_mem_cons, List.not_mem_nil, false_implies, implies_true, and_true, UInt8.toNat_ofNat']
    omega

/-- an ASCII octet in an encoded text is a character of the text: it is a sequence of its own -/
theorem mem_of_ascii_mem_encodeAll {t : List Nat} (hs : ∀ c ∈ t, isScalar c = true) {b : UInt8}
    (hb : b.toNat < 0x80) (hm : b ∈ encodeAll t) : b.toNat ∈ t := by
  obtain ⟨c, hc, hm⟩ := List.mem_flatMap.mp hm
  by_cases h1 : c < 0x80
  · rw [encode1 c h1, List.mem_singleton] at hm
    rw [hm, UInt8.toNat_ofNat', Nat.mod_eq_of_lt (Nat.lt_trans h1 (by decide))]
    exact hc
  · exact absurd (encode_high h1 (le_of_isScalar hs hc) _ hm) (by omega)

end Abverif.Utf8

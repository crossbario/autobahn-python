import Abverif.Model.WampInst
import Abverif.Proofs.Lemmas.SchemaCtor
import Abverif.Proofs.Lemmas.UriGrammar
/-
The Spec's verdict on accepted messages (C08): `Schema.specViolations` of whatever `parse` accepts is empty, except
for the `args` of a class whose tail admits `str`/`bytes` arguments (PUBLISH).

This connects the *checked* types of the parse model (`OTy.valid`, `PosStep.strict`, the tail invariant) with the
*intended* types of the Spec (`specIdOk` = [0, 2^53] as the protocol defines it, `specUriOk` = the intended URI grammar,
the intended option types), which are written without reference to the code.
-/
namespace Abverif.Wamp
open Schema

theorem idOk_eq_spec (i : Int) : idOk i = specIdOk i := by
  simp [idOk, specIdOk, (by decide : Generated.WampCodes.idBound = 2 ^ 53)]

theorem specUriOk_of_uriOk {fl : UriFlags} {v : WVal} (h : uriOk oracles fl v = true) : specUriOk Uri.Spec.ok fl v = true := by
  cases v <;> simp_all [uriOk, specUriOk, oracles, Uri.uri_equiv _ _ _ _]

theorem allIdOk_of_allId : ∀ xs : List WVal, allId xs = true → allInt xs = true ∧ allIdOk xs = true := by
  intro xs
  induction xs with
  | nil => intro _; exact ⟨rfl, rfl⟩
  | cons x t ih =>
    intro h
    cases x <;> simp only [allId, Bool.false_eq_true, Bool.and_eq_true] at h
    rename_i i
    obtain ⟨h1, h2⟩ := ih h.2
    refine ⟨by simpa [allInt] using h1, ?_⟩
    simp only [allIdOk, Bool.and_eq_true]
    exact ⟨by rw [← idOk_eq_spec]; exact h.1, h2⟩

theorem pos_spec_clean {m : Msg} {p : PosStep} (h : PosStep.strict oracles m p = true) :
    p.specViolation Uri.Spec.ok m = none := by
  cases p with
  | id f =>
    simp only [PosStep.strict] at h
    simp only [PosStep.specViolation]
    split at h
    · rename_i i hi
      simp only [← idOk_eq_spec, h, if_true]
    · simp at h
  | uri f fl => exact if_pos (specUriOk_of_uriOk h)
  | str f => exact if_pos h
  | extra f =>
    simp only [PosStep.strict] at h
    simp only [PosStep.specViolation]
    split at h
    · rfl
    · simp at h
  | intEnum f allowed =>
    simp only [PosStep.strict] at h
    simp only [PosStep.specViolation]
    split at h
    · rename_i i hi
      simp only [h, if_true]
    · simp at h
  | opts => rfl
  | uriByMatch f op key vals => exact if_pos (specUriOk_of_uriOk h)

/-- what the Spec needs of an entry beyond its checked type: a repaired `forward_for` loop, and `None` as the default
of the types that admit `None` as a value -/
def OptStep.specReady (s : OptStep) : Bool :=
  match s.ty with
  | .forwardFor b => b
  | .boolOrNull => s.dflt.isNull
  | .strOrNull => s.dflt.isNull
  | .dictOrNull => s.dflt.isNull
  | .strUri _ => s.dflt.isNull
  | _ => true

theorem isDflt_null {d : WVal} (h : d.isNull = true) : isDflt d .null = true := by
  cases d <;> simp_all [WVal.isNull, isDflt]

/-- a value of the checked type is of the intended type.  By type and constructor of the value: the value is not of
the checked type, or the Spec's verdict computes to `none`, or it is a test that the checked type implies. -/
theorem opt_spec_of_valid {m : Msg} {s : OptStep} (hr : s.ty.isRoles = false) (hrd : s.specReady = true)
    (h : s.ty.valid oracles (m.get s.field) = true) : s.specViolation Uri.Spec.ok m = none := by
  unfold OptStep.specViolation
  simp only
  by_cases hnd : isDflt s.dflt (m.get s.field) = true
  · rw [if_pos hnd]
  rw [if_neg hnd]
  unfold OptStep.specReady at hrd
  revert hr hrd hnd h
  generalize m.get s.field = v
  cases s.ty with
  | bool | str | dict =>
    intro _ _ h _
    cases v <;> first | exact absurd h Bool.false_ne_true | rfl
  | int lo =>
    intro _ _ h _
    cases lo <;> cases v <;> first | exact absurd h Bool.false_ne_true | rfl
  | strEnum | listInt | listStr =>
    intro _ _ h _
    cases v <;> first | exact absurd h Bool.false_ne_true | exact if_pos h
  | id =>
    intro _ _ h _
    cases v <;> first | exact absurd h Bool.false_ne_true | exact if_pos (idOk_eq_spec _ ▸ h)
  | listId =>
    intro _ _ h _
    cases v <;> first | exact absurd h Bool.false_ne_true | skip
    obtain ⟨h1, h2⟩ := allIdOk_of_allId _ h
    simp [h1, h2]
  | uri fl =>
    intro _ _ h _
    exact if_pos (specUriOk_of_uriOk h)
  | strUri n =>
    intro _ hrd h hnd
    cases v <;> first | exact absurd h Bool.false_ne_true | exact absurd (isDflt_null hrd) hnd | skip
    exact if_pos ((Uri.uri_equiv false false false _).symm.trans h)
  | forwardFor b =>
    intro _ hrd h _
    cases hrd
    cases v <;> first | exact absurd h Bool.false_ne_true | exact if_pos (all_ffItemCtorOk _ h)
  | boolOrNull | strOrNull | dictOrNull =>
    intro _ hrd h hnd
    cases v <;> first | exact absurd h Bool.false_ne_true | rfl | exact absurd (isDflt_null hrd) hnd
  | roles a f => intro hr; cases hr

theorem opt_spec_clean {m : Msg} {d : Dict} {s : OptStep} (hwf : OptStep.wf s = true) (hrd : s.specReady = true)
    (h : s.parse oracles d = .ok (m.get s.field)) : s.specViolation Uri.Spec.ok m = none := by
  cases hg : Dict.get? d s.key with
  | none =>
    unfold OptStep.specViolation
    simp only [OptStep.parse_absent hg h, OptStep.isDflt_dflt hwf, if_true]
  | some x =>
    rw [OptStep.parse_present hg] at h
    rcases s.ty.roles_or_not with ⟨allowed, feats, hty⟩ | hr
    · rw [hty] at h
      obtain ⟨dd, hd⟩ := rolesCheck_dict h
      unfold OptStep.specViolation
      simp only [hty, hd, ite_self]
    · obtain ⟨hx, hv⟩ := (OTy.check_spec hr).ok h
      exact opt_spec_of_valid hr hrd (hx ▸ hv)

def Schema.codeOk (σ : Schema) : Bool :=
  match specCodes.find? (fun e => e.1 == σ.name) with
  | some e => e.2 == σ.code
  | none => false

/-- does the parser model check this option as the kind the Spec's own table gives the field? -/
def kindMatches : SpecKind → OTy → Bool
  | .uri, .uri fl => !fl.strict && !fl.allowEmpty && !fl.allowLastEmpty
  | .uri, .strUri _ => true
  | .id, .id => true
  | .idList, .listId => true
  | _, _ => false

/-- every entry of the Spec's field table for this class is an option the parser model checks as that kind -/
def Schema.tableCovered (σ : Schema) : Bool :=
  σ.tableEntries.all (fun e => σ.opts.any (fun s => s.field == e.2.1 && s.dflt.isNull && kindMatches e.2.2 s.ty))

def Schema.specReady (σ : Schema) : Bool := σ.codeOk && σ.opts.all OptStep.specReady && σ.tableCovered

theorem specKindOk_null (k : SpecKind) : specKindOk Uri.Spec.ok k .null = true := by cases k <;> rfl

theorem kind_ok_of_valid {k : SpecKind} {ty : OTy} {v : WVal} (hk : kindMatches k ty = true)
    (hv : ty.valid oracles v = true) : specKindOk Uri.Spec.ok k v = true := by
  cases k <;> cases ty <;> simp only [kindMatches, Bool.false_eq_true] at hk
  · rename_i fl
    simp only [Bool.and_eq_true, Bool.not_eq_true'] at hk
    obtain ⟨⟨h1, h2⟩, h3⟩ := hk
    cases v <;> simp only [OTy.valid, uriOk, Bool.false_eq_true] at hv
    · rfl
    · simp only [specKindOk]
      rw [h1, h2, h3] at hv
      simpa [oracles, Uri.uri_equiv _ _ _ _] using hv
  · cases v <;> simp only [OTy.valid, Bool.false_eq_true] at hv
    · rfl
    · simp only [specKindOk]
      simpa [oracles, Uri.uri_equiv _ _ _ _] using hv
  · cases v <;> simp only [OTy.valid, Bool.false_eq_true] at hv
    simp only [specKindOk, ← idOk_eq_spec, hv]
  · cases v <;> simp only [OTy.valid, Bool.false_eq_true] at hv
    simp only [specKindOk]
    exact (allIdOk_of_allId _ hv).2

/-- **what the Spec can still object to in an accepted message**: nothing but the `args` of a class whose tail admits
`str` / `bytes` arguments -/
theorem specViolations_of_parse (σ : Schema) (hwf : σ.wf = true) (hrd : σ.specReady = true)
    (w : List WVal) (m : Msg) (h : σ.parse oracles w = .ok m) :
    ∀ fr ∈ σ.specViolations Uri.Spec.ok m,
      fr = (cs!"args", cs!"type") ∧ ∃ t, σ.tail = some t ∧ t.variant = .publish := by
  have inv := parse_inv hwf h
  have hkw := (parse_ok_parts h).2
  simp only [Schema.specReady, Bool.and_eq_true] at hrd
  obtain ⟨⟨hcode, hopts⟩, htab⟩ := hrd
  intro fr hfr
  unfold Schema.specViolations at hfr
  simp only [List.mem_append] at hfr
  rcases hfr with (((hfr | hfr) | hfr) | hfr) | hfr
  · -- type code
    unfold Schema.codeOk at hcode
    split at hfr
    · rename_i e he
      rw [he] at hcode
      simp only [hcode, if_true] at hfr
      cases hfr
    · rename_i he
      rw [he] at hcode
      cases hcode
  · -- positions
    obtain ⟨p, hp, hv⟩ := List.mem_filterMap.mp hfr
    rw [pos_spec_clean (inv.pos p hp)] at hv
    cases hv
  · -- typed entries
    obtain ⟨s, hs, hv⟩ := List.mem_filterMap.mp hfr
    rw [opt_spec_clean ((wf_parts hwf).opts s hs) (List.all_eq_true.mp hopts s hs) (inv.opts s hs)] at hv
    simp at hv
  · -- tail
    cases hts : σ.tail with
    | none => rw [hts] at hfr; cases hfr
    | some t =>
      rw [hts] at hfr
      have tl := inv.tail t hts
      simp only [List.mem_append] at hfr
      rcases hfr with (hfr | hfr) | hfr
      · have : ((m.get cs!"payload").isNull || (m.get cs!"payload").isBytes) = true := by
          simpa using tl.payload
        rw [this] at hfr
        cases hfr
      · split at hfr
        · cases hfr
        · rename_i hna
          simp only [List.mem_singleton] at hfr
          refine ⟨hfr, t, rfl, ?_⟩
          cases hv : t.variant with
          | publish => rfl
          | std =>
            have ha := tl.args
            rw [hv] at ha
            exact absurd ha hna
      · rcases hkw t hts with hk | ⟨kvs, hk⟩ <;> rw [hk] at hfr <;> cases hfr
  · -- the Spec's own field table
    obtain ⟨e, he, hv⟩ := List.mem_filterMap.mp hfr
    have hcv := List.all_eq_true.mp htab e he
    simp only [List.any_eq_true, Bool.and_eq_true, beq_iff_eq] at hcv
    obtain ⟨s, hs, ⟨hf, hd⟩, hk⟩ := hcv
    have hr : s.ty.isRoles = false := by
      cases hty : s.ty <;> first | rfl | (rw [hty] at hk; cases e.2.2 <;> simp [kindMatches] at hk)
    have hok : specKindOk Uri.Spec.ok e.2.2 (Msg.get m e.2.1) = true := by
      rw [← hf]
      rcases OptStep.parse_ok ((wf_parts hwf).opts s hs) hr (inv.opts s hs) with h0 | h1
      · rw [isDflt_eq h0, WVal.eq_null_of_isNull hd]; exact specKindOk_null _
      · exact kind_ok_of_valid hk h1
    rw [hok] at hv
    simp at hv

end Abverif.Wamp

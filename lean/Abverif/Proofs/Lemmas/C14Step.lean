import Abverif.Proofs.Lemmas.C14Rel
/-!
C14 — the shapes of `transport_check` and of a step (what is logged around which entry point of the retry logic), and
what it means for a monitor to accept the result of one of the model's functions (`Monitor`, `Accepted`), with the
two inductions over a history.
-/
namespace Abverif.Comp
open Spec

/-- what the life of one session puts on the log besides its firings -/
def Obs.ofSession : Obs → Bool
  | .fail _ | .sess _ _ | .join _ | .cleanEnd _ | .mainRaised _ => true
  | _ => false

theorem ofSession_quiet (o : Obs) (h : o.ofSession = true) : o.quiet = true := by
  cases o <;> first | rfl | cases h

/-- A log that is a sequence of whole session firings (`sfire cfg ev n`: the firing, then the component's calls) and
of single observations, each of which satisfies `p`. -/
inductive Shaped (cfg : Cfg) (p : Obs → Prop) : List Obs → Prop
  | nil : Shaped cfg p []
  | one {o : Obs} {r : List Obs} : p o → Shaped cfg p r → Shaped cfg p (o :: r)
  | fire (ev : Ev) (n : Nat) {r : List Obs} : Shaped cfg p r → Shaped cfg p (sfire cfg ev n ++ r)

namespace Shaped
variable {cfg : Cfg} {p q : Obs → Prop} {a b l : List Obs} {o : Obs}

theorem append (ha : Shaped cfg p a) (hb : Shaped cfg p b) : Shaped cfg p (a ++ b) := by
  induction ha with
  | nil => exact hb
  | one h _ ih => exact .one h ih
  | fire ev n _ ih => rw [List.append_assoc]; exact .fire ev n ih

theorem single (h : p o) : Shaped cfg p [o] := .one h .nil

theorem sfire (cfg : Cfg) (p : Obs → Prop) (ev : Ev) (n : Nat) : Shaped cfg p (sfire cfg ev n) := by
  have := fire (p := p) ev n (nil (cfg := cfg))
  rwa [List.append_nil] at this

theorem mono (h : Shaped cfg p l) (hpq : ∀ o, p o → q o) : Shaped cfg q l := by
  induction h with
  | nil => exact .nil
  | one h _ ih => exact .one (hpq _ h) ih
  | fire ev n _ ih => exact .fire ev n ih

theorem all {Q : Obs → Prop} (h : Shaped cfg p l) (hp : ∀ o, p o → Q o) (hn : ∀ o, o.neutral = true → Q o) :
    ∀ o ∈ l, Q o := by
  induction h with
  | nil => intro o ho; cases ho
  | one h _ ih =>
    intro o ho
    rcases List.mem_cons.mp ho with rfl | ho
    · exact hp _ h
    · exact ih o ho
  | fire ev n _ ih =>
    intro o ho
    rcases List.mem_append.mp ho with ho | ho
    · exact hn o (sfire_neutral _ _ _ o ho)
    · exact ih o ho

theorem joinedPre (cfg : Cfg) (n i : Nat) (hs : p (.sess n i)) (hj : p (.join i)) :
    Shaped cfg p (joinedPre cfg n i) :=
  ((((single hs).append (sfire ..)).append (single hj)).append (sfire ..)).append (sfire ..)

end Shaped

theorem ofSession_single (cfg : Cfg) (o : Obs) (h : o.ofSession = true) :
    Shaped cfg (·.ofSession = true) [o] := .single h

theorem ofSession_joinedPre (cfg : Cfg) (n i : Nat) : Shaped cfg (·.ofSession = true) (joinedPre cfg n i) :=
  .joinedPre cfg n i rfl rfl

theorem joinedPre_quiet (cfg : Cfg) (n i : Nat) : ∀ o ∈ joinedPre cfg n i, o.quiet = true :=
  (ofSession_joinedPre cfg n i).all ofSession_quiet neutral_quiet

@[simp] theorem feedAll_sfire (c : Conf) (k : Core) (cfg : Cfg) (ev : Ev) (n : Nat) :
    feedAll c k (sfire cfg ev n) = k := feedAll_neutral c k _ (sfire_neutral cfg ev n)

@[simp] theorem feed_fail (c : Conf) (k : Core) (i : Nat) : k.feed c (.fail i) = k := rfl
@[simp] theorem feed_sess (c : Conf) (k : Core) (n i : Nat) : k.feed c (.sess n i) = k := rfl
@[simp] theorem feed_lateDone (c : Conf) (k : Core) (b : Bool) : k.feed c (.lateDone b) = k := rfl

theorem joinOn_stopping (i : Nat) (s : State) : (joinOn i s).stopping = s.stopping := rfl

@[simp] theorem feedAll_joinedPre (c : Conf) (k : Core) (cfg : Cfg) (n i : Nat) :
    feedAll c k (joinedPre cfg n i) = k.feed c (.join i) := by
  simp [joinedPre, feedAll_append, feedAll_cons]

/-- state after `transport_check` chose transport `i` (record `t`, updated to `t'` by `next_delay`) -/
def tcState (s : State) (i : Nat) (t t' : Tr) : State :=
  { s with trs := updAt (fun _ => t') s.trs i, cursor := (i + 1) % s.trs.length,
           zs := if t.attempts = 0 then s.zs else s.zs.tail }

inductive TcCase (s : State) : State × List Obs → Prop
  | stopped (hs : s.stopping = true) : TcCase s (stopCheck s)
  | giveUp (hs : s.stopping = false) (h : s.trs.any Tr.canReconnect = false) :
      TcCase s ({ (setDone false s).1 with phase := .dead }, (setDone false s).2)
  | wait (hs : s.stopping = false) (i : Nat) (t t' : Tr) (d : Q)
      (hpick : pick s.trs s.cursor s.trs.length = some i) (hget : s.trs[i]? = some t)
      (hnd : t.nextDelay (s.zs.headD Q.zero) = some (t', d)) :
      TcCase s ({ tcState s i t t' with phase := .waiting i d }, [])
  | now (hs : s.stopping = false) (i : Nat) (t t' : Tr) (d : Q)
      (hpick : pick s.trs s.cursor s.trs.length = some i) (hget : s.trs[i]? = some t)
      (hnd : t.nextDelay (s.zs.headD Q.zero) = some (t', d)) :
      TcCase s (attemptConnect i Q.zero (tcState s i t t'))

theorem tc_cases (s : State) : TcCase s (transportCheck s) := by
  unfold transportCheck
  by_cases hst : s.stopping = true
  · rw [if_pos hst]
    exact TcCase.stopped hst
  rw [if_neg hst]
  have hs : s.stopping = false := by simpa using hst
  by_cases hany : s.trs.any Tr.canReconnect = true
  · simp only [hany, Bool.not_true, Bool.false_eq_true, if_false]
    obtain ⟨i, hi⟩ := pick_some_of_any s.trs s.cursor hany
    obtain ⟨t, hget, hcan⟩ := pick_can _ _ _ _ hi
    obtain ⟨⟨t', d⟩, hnd⟩ := Tr.nextDelay_some_of_can t (s.zs.headD Q.zero) hcan
    simp only [hi, hget, hnd]
    by_cases hpos : d.pos = true
    · simp only [hpos, if_true]
      exact TcCase.wait hs i t t' d hi hget hnd
    · have hpos' : d.pos = false := by simpa using hpos
      simp only [hpos', Bool.false_eq_true, if_false]
      exact TcCase.now hs i t t' d hi hget hnd
  · have hany' : s.trs.any Tr.canReconnect = false := by simpa using hany
    simp only [hany', Bool.not_false, if_true]
    exact TcCase.giveUp hs hany'

/-- the result `r` of an entry point of the retry logic, between what the ending session logged before it ran and
what that session fires afterwards -/
def around (pre post : List Obs) (r : State × List Obs) : State × List Obs := (r.1, pre ++ r.2 ++ post)

/-- what the bookkeeping sees of a session up to its end, if there was a WELCOME -/
def joinMark : Bool → Nat → List Obs
  | true, i => [.join i]
  | false, _ => []

/-- What the end of a connection has done to its transport record by the time the retry logic runs: configuration,
attempts and `permFail` stand, except that after a WELCOME `on_join` has zeroed the attempts. -/
def EndsTr (joined : Bool) (g : Tr → Tr) : Prop := ∀ t, TrAs t (g t) (if joined then 0 else t.attempts)

/-- the log around the retry logic at the end of a connection; `marks` is what the bookkeeping sees in `pre` -/
structure EndLog (cfg : Cfg) (marks pre post : List Obs) : Prop where
  before : Shaped cfg (·.ofSession = true) pre
  after : Shaped cfg (fun _ => False) post
  feed : ∀ c k, feedAll c k pre = feedAll c k marks

/-- The forms a step takes.  In the last three a connection on transport `i` ends: the session's bookkeeping has
changed the transport record by `g` and the session count to `m`; then `failRetry` runs (`retry`; `raised` when the
reason is a raising main) or `sessionDone` (`finish`, after a normal end). -/
inductive StepCase (s : State) : Event → State × List Obs → Prop
  | skip (e : Event) : StepCase s e (s, [])
  | check (hp : s.phase = .idle) : StepCase s .start (transportCheck s)
  | elapsed (i : Nat) (d : Q) (hp : s.phase = .waiting i d) :
      StepCase s .delayElapsed (attemptConnect i d { s with now := s.now.add d })
  | stop (hp : s.phase ≠ .idle) : StepCase s .stop (onStop s)
  | joined (i : Nat) (f : Bool) (hp : s.phase = .connecting i) :
      StepCase s (.outcome .joined f)
        ({ joinOn i { s with nsess := s.nsess + 1 } with phase := .up i }, joinedPre s.cfg s.nsess i)
  | retry {e : Event} (i : Nat) (f joined : Bool) (g : Tr → Tr) (m : Nat) (pre post : List Obs)
      {r : State × List Obs} (hl : Live s i) (hg : EndsTr joined g)
      (hlog : EndLog s.cfg (joinMark joined i) pre post)
      (hr : r = around pre post (failRetry i f { s with trs := updAt g s.trs i, nsess := m })) : StepCase s e r
  | raised (i : Nat) (f : Bool) {f' : Bool} (g : Tr → Tr) (m : Nat) (pre post : List Obs)
      {r : State × List Obs} (hl : Live s i) (hg : EndsTr true g)
      (hlog : EndLog s.cfg [.join i, .mainRaised i] pre post)
      (hr : r = around pre post (failRetry i f { s with trs := updAt g s.trs i, nsess := m })) :
      StepCase s (.outcome .mainRaises f') r
  | finish {e : Event} (i : Nat) (f joined : Bool) (g : Tr → Tr) (m : Nat) (pre post : List Obs)
      {r : State × List Obs} (hl : Live s i) (hg : EndsTr joined g)
      (hlog : EndLog s.cfg (joinMark joined i ++ [.cleanEnd i]) pre post)
      (hr : r = around pre post (sessionDone i f { s with trs := updAt g s.trs i, nsess := m })) : StepCase s e r

theorem EndsTr.same : EndsTr false (fun t => t) := fun _ => ⟨rfl, rfl, rfl, rfl⟩

theorem EndsTr.reset : EndsTr true (fun t => { t.reset with successes := 1 }) := fun _ => ⟨rfl, rfl, rfl, rfl⟩

section
attribute [local simp] feedAll_append feedAll_cons feedAll_nil joinMark

theorem outcome_cases (s : State) (i : Nat) (hp : s.phase = .connecting i) (o : Outcome) (f : Bool) :
    StepCase s (.outcome o f) (onOutcome i o f s) := by
  have fire := fun p ev n => Shaped.sfire s.cfg p ev n
  have session := ofSession_joinedPre s.cfg
  have one := ofSession_single s.cfg
  have hl : Live s i := .inl hp
  have left : ∀ r, r = around (joinedPre s.cfg s.nsess i ++ [.cleanEnd i] ++ sfire s.cfg .leave s.nsess)
      (sfire s.cfg .disconnect s.nsess) (sessionDone i f (joinOn i { s with nsess := s.nsess + 1 })) →
      StepCase s (.outcome o f) r := fun r hr =>
    .finish i f true (g := _) (m := s.nsess + 1) (pre := _) (post := _) hl .reset
      ⟨((session ..).append (one _ rfl)).append (fire ..), fire .., fun _ _ => by simp⟩ hr
  cases o with
  | refused =>
    exact .retry i f false (g := fun t => { t with failures := t.failures + (if s.cfg.aio then 2 else 1) })
      (m := s.nsess) (pre := [.fail i]) (post := []) hl (fun _ => ⟨rfl, rfl, rfl, rfl⟩)
      ⟨one _ rfl, .nil, fun _ _ => rfl⟩ (by simp [onOutcome, around])
  | hsFail =>
    exact .retry i f false (g := _) (m := s.nsess) (pre := [.fail i]) (post := []) hl .same
      ⟨one _ rfl, .nil, fun _ _ => rfl⟩ (by simp [onOutcome, around, updAt_id])
  | abort =>
    exact .retry i f false (g := _) (m := s.nsess + 1)
      (pre := [.fail i, .sess s.nsess i] ++ sfire s.cfg .connect s.nsess ++ sfire s.cfg .leave s.nsess)
      (post := sfire s.cfg .disconnect s.nsess) hl .same
      ⟨(((one (.fail i) rfl).append (one _ rfl)).append (fire ..)).append (fire ..), fire .., fun _ _ => by simp⟩
      (by simp [onOutcome, around, updAt_id])
  | joinedLost =>
    exact .retry i f true (g := _) (m := s.nsess + 1)
      (pre := .fail i :: joinedPre s.cfg s.nsess i ++ sfire s.cfg .leave s.nsess)
      (post := sfire s.cfg .disconnect s.nsess) hl .reset
      ⟨(one _ rfl).append ((session ..).append (fire ..)), fire .., fun _ _ => by simp⟩
      (by simp [onOutcome, around, joinOn])
  | joinedLeave => exact left _ (by simp [onOutcome, around, joinOn])
  | mainReturns =>
    simp only [onOutcome]
    split
    · exact left _ (by simp [around, joinOn])
    · exact .skip _
  | mainRaises =>
    simp only [onOutcome]
    split
    · exact .raised i f (g := _) (m := s.nsess + 1) (pre := joinedPre s.cfg s.nsess i ++ [.mainRaised i])
        (post := sfire s.cfg .leave s.nsess ++ sfire s.cfg .disconnect s.nsess) hl .reset
        ⟨(session ..).append (one _ rfl), (fire ..).append (fire ..), fun _ _ => by simp⟩
        (by simp [around, joinOn])
    · exact .skip _
  | joined => exact .joined i f hp

/-- a session that is up is lost, or ends with a leave or the router's GOODBYE -/
theorem sess_cases (s : State) (ev : SessEv) (f : Bool) : StepCase s (.sess ev f) (onSess ev f s) := by
  have fire := fun p ev n => Shaped.sfire s.cfg p ev n
  have one := ofSession_single s.cfg
  have lost : ∀ i, Live s i → StepCase s (.sess ev f) (around (.fail i :: sfire s.cfg .leave (s.nsess - 1))
      (sfire s.cfg .disconnect (s.nsess - 1)) (failRetry i f s)) := fun i hl =>
    .retry i f false (g := _) (m := s.nsess) (pre := .fail i :: sfire s.cfg .leave (s.nsess - 1))
      (post := sfire s.cfg .disconnect (s.nsess - 1)) hl .same
      ⟨(one _ rfl).append (fire ..), fire .., fun _ _ => by simp⟩ (by rw [updAt_id])
  have left : ∀ i, Live s i → StepCase s (.sess ev f) (around ([.cleanEnd i] ++ sfire s.cfg .leave (s.nsess - 1))
      (sfire s.cfg .disconnect (s.nsess - 1)) (sessionDone i f s)) := fun i hl =>
    .finish i f false (g := _) (m := s.nsess) (pre := [.cleanEnd i] ++ sfire s.cfg .leave (s.nsess - 1))
      (post := sfire s.cfg .disconnect (s.nsess - 1)) hl .same
      ⟨(one _ rfl).append (fire ..), fire .., fun _ _ => by simp⟩ (by rw [updAt_id])
  unfold onSess
  split
  · next i hp => exact lost i (.inr (.inl hp))
  · next i hp => exact lost i (.inr (.inr hp))
  · next i hp => exact left i (.inr (.inl hp))
  · next i hp => exact left i (.inr (.inr hp))
  · exact .skip _

end

theorem step_cases (s : State) (e : Event) : StepCase s e (step s e) := by
  cases e with
  | start =>
    simp only [step]
    split
    · next hp => exact .check hp
    · exact .skip _
  | delayElapsed =>
    simp only [step]
    split
    · next i d hp => exact .elapsed i d hp
    · exact .skip _
  | stop =>
    by_cases hp : s.phase = .idle
    · have : step s .stop = (s, []) := by simp [step, onStop, hp]
      rw [this]; exact .skip _
    · exact .stop hp
  | outcome o f =>
    simp only [step]
    split
    · next i hp => exact outcome_cases s i hp o f
    · exact .skip _
  | sess ev f => exact sess_cases s ev f

/-- `M k l`: a property of a piece `l` of the log read from bookkeeping `k` (for instance: a check accepts every
observation of `l`).  A monitor can be followed along a run if it composes over `++`, the second piece read from
the bookkeeping fed with the first, and holds of every piece without attempts and completions. -/
structure Monitor (c : Conf) (M : Core → List Obs → Prop) : Prop where
  append : ∀ {k a b}, M k a → M (feedAll c k a) b → M k (a ++ b)
  quiet : ∀ k l, (∀ o ∈ l, o.quiet = true) → M k l

theorem Monitor.ofChk (c : Conf) (chk : Chk) (hc : ChkAttDone chk) :
    Monitor c (fun k l => specAll chk finTrue c k false l = true) :=
  ⟨specAll_append_true, specAll_quiet chk hc c⟩

/-- `r` is the result (new state, log) of one of the model's functions — `transportCheck`, `failRetry`, `step`, … —
called when the bookkeeping stood at `k`: the monitor accepts the log, `I` holds afterwards -/
structure Accepted (c : Conf) (M : Core → List Obs → Prop) (I : State → Core → Prop) (k : Core)
    (r : State × List Obs) : Prop where
  chk : M k r.2
  inv : I r.1 (feedAll c k r.2)

namespace Accepted
variable {c : Conf} {M : Core → List Obs → Prop} {I : State → Core → Prop} {k : Core} {r : State × List Obs}

theorem skip (hM : Monitor c M) {s : State} (h : I s k) : Accepted c M I k (s, []) :=
  ⟨hM.quiet _ _ (by simp), h⟩

theorem wrap (hM : Monitor c M) {pre post : List Obs} (hpre : ∀ o ∈ pre, o.quiet = true)
    (hpost : ∀ o ∈ post, o.neutral = true) (h : Accepted c M I (feedAll c k pre) r) :
    Accepted c M I k (r.1, pre ++ r.2 ++ post) :=
  ⟨hM.append (hM.append (hM.quiet _ _ hpre) h.chk) (hM.quiet _ _ fun o ho => neutral_quiet o (hpost o ho)), by
    show I r.1 (feedAll c k (pre ++ r.2 ++ post))
    rw [feedAll_append, feedAll_append, feedAll_neutral _ _ post hpost]
    exact h.inv⟩

theorem cons (hM : Monitor c M) (o : Obs) (ho : o.quiet = true) {s : State} {l : List Obs}
    (h : Accepted c M I (k.feed c o) (s, l)) : Accepted c M I k (s, o :: l) := by
  have := wrap hM (pre := [o]) (post := []) (k := k) (by simpa using ho) (by simp) h
  simpa using this

theorem around (hM : Monitor c M) {cfg : Cfg} {marks pre post : List Obs} (hl : EndLog cfg marks pre post)
    (h : Accepted c M I (feedAll c k marks) r) : Accepted c M I k (around pre post r) :=
  wrap hM (hl.before.all ofSession_quiet neutral_quiet) (hl.after.all (fun _ h => h.elim) (fun _ h => h))
    (by rw [hl.feed]; exact h)

end Accepted

theorem run_accepted {c : Conf} {M : Core → List Obs → Prop} {I : State → Core → Prop} (hM : Monitor c M)
    (es : List Event) (hstep : ∀ e ∈ es, ∀ s k, I s k → Accepted c M I k (step s e)) {s : State} {k : Core}
    (h : I s k) : Accepted c M I k (run s es) := by
  induction es generalizing s k with
  | nil => exact .skip hM h
  | cons e es ih =>
    have h1 := hstep e (by simp) s k h
    have h2 := ih (fun e' he' => hstep e' (by simp [he'])) h1.inv
    exact ⟨hM.append h1.chk h2.chk, by simp only [run]; rw [feedAll_append]; exact h2.inv⟩

theorem run_inv {I : State → Prop} {L : List Obs → Prop} (nil : L []) (app : ∀ {a b}, L a → L b → L (a ++ b))
    (hstep : ∀ s e, I s → I (step s e).1 ∧ L (step s e).2) {s : State} (h : I s) (es : List Event) :
    I (run s es).1 ∧ L (run s es).2 := by
  induction es generalizing s with
  | nil => exact ⟨h, nil⟩
  | cons e es ih =>
    have h1 := hstep s e h
    have h2 := ih h1.1
    exact ⟨h2.1, app h1.2 h2.2⟩

end Abverif.Comp

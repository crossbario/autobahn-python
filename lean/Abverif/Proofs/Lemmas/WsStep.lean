import Abverif.Proofs.Lemmas.WsWalk
/-
From a relation that holds across every engine function (`Walk`) to every scripted operation (`Walk.stepCore`), to an
invariant kept by one operation (`Walk.inv_step`) and by every history (`Walk.history`).
-/
namespace Abverif.Ws

/-- the operations a `Walk` does not reach are hypotheses: a call of the data-sending API (`hdata`: from `stepCore_ApiEq` for
a relation that reads only the frame, else from `stepCore_DataStep`), `_connectionLost` (`hlost`: `connectionLost_of`) and
`sendClose` (`hclose`: `Walk.Base.sendClose_of` with the relation's `sendCloseFrame` lemma) -/
theorem Walk.stepCore {R : S → S → Prop} (W : Walk R) (s : S) (op : Op)
    (hdata : op.isData = true → R s (stepCore s op)) (hlost : op = .lost → R s (connectionLost s))
    (hclose : ∀ c r, op = .close c r → R s (sendClose s c r)) : R s (stepCore s op) := by
  cases op with
  | feed d => exact W.dataReceived s d
  | lost => exact hlost rfl
  | advance dt => exact W.advance s dt
  | ping pl => exact W.sendPing s pl
  | pong pl => exact W.sendPong s pl
  | close c r => exact hclose c r rfl
  | hsDone => exact W.handshakeDone s
  | hsThenFeed d => exact W.trans (W.handshakeDone s) (W.dataReceived _ d)
  | _ => exact hdata rfl

/-- one operation keeps `Inv`: a `Walk` keeps it, and so do this call of the data-sending API, the loss of the transport
(`_connectionLost` runs once) and this `sendClose`.  The first two are asked for at the level of `Inv`, since some relation
does not hold across them (`Ext` across the loss, `OpsRel` across a data frame); `sendClose` at the level of `R`: it is
one more engine function built on `sendCloseFrame`, only under a condition on what the application passes.  Discharged as
for `Walk.stepCore` -/
theorem Walk.inv_step {R : S → S → Prop} {Inv : S → Prop} (W : Walk R) (keeps : ∀ {a b}, R a b → Inv a → Inv b)
    (s : S) (op : Op) (hdata : op.isData = true → Inv s → Inv (Ws.stepCore s op))
    (hlost : s.lost = false → Inv s → Inv (Ws.connectionLost s))
    (hclose : ∀ c r, op = .close c r → R s (Ws.sendClose s c r)) (h : Inv s) : Inv (Ws.step s op) := by
  refine keeps (W.pump _) ?_
  by_cases hd : op.isData = true
  · exact hdata hd h
  · by_cases hl : op = .lost
    · subst hl
      show Inv (Ws.connectionLost s)
      cases hs : s.lost
      · exact hlost hs h
      · rw [connectionLost_idem s hs]; exact h
    · exact keeps (W.stepCore s op (fun h => absurd h hd) (fun e => absurd e hl) hclose) h

/-- an invariant of all reachable states: a `Walk` keeps it, and so do the data-sending API, the loss of the transport
and `sendClose` (for the calls the history makes: `ok`); `hdata`, `hlost`, `hclose` as for `Walk.stepCore` (`run_PK` is the
shortest instance) -/
theorem Walk.history {R : S → S → Prop} {Inv : S → Prop} {ok : Op → Prop} (W : Walk R)
    (keeps : ∀ {a b}, R a b → Inv a → Inv b)
    (hdata : ∀ s op, op.isData = true → Inv s → Inv (Ws.stepCore s op))
    (hlost : ∀ s, s.lost = false → Inv s → Inv (Ws.connectionLost s))
    (hclose : ∀ s c r, ok (.close c r) → R s (Ws.sendClose s c r))
    (ops : List Op) (hok : ∀ op ∈ ops, ok op) (s : S) (h : Inv s) : Inv (Ws.run s ops) :=
  run_induction (fun s op ho => W.inv_step keeps s op (hdata s op) (hlost s) fun c r e => hclose s c r (e ▸ ho)) ops hok s h

end Abverif.Ws

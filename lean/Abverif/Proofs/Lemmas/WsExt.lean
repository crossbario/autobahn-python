import Abverif.Proofs.Lemmas.WsStep
import Abverif.Proofs.C02
/-
`Ext a b`: what every operation of the engine except `connectionLost` guarantees —
the state only moves forward, `lost` and the configuration are untouched, the log is extended by entries none
of which is an `onClose`, at most one legal close frame is recorded (`CloseStep`), and a CLOSING connection keeps a
drop timer armed (`CBInv`).  `ExtW` ("weak") is `Ext` without the `CBInv` clause: what holds also in the middle of
`onCloseFrame` and of a deadline handler, where a CLOSING connection is for a moment without a drop timer; most lemmas below
are stated in it.  `LegalClose`: a close frame that may be sent; `RCLegal`: the peer's code as recorded may be echoed.
An instance of the engine walk (`Ext.walk`); the send path and the data-sending API through their normal forms
(`Sends.toExt`, `DataStep.toExt`).  At the end: `stepCore_Ext` / `step_Ext` (one operation), `Ext.history` (an invariant that
every extension keeps), `step_cfg` / `run_cfg`.
-/
namespace Abverif.Ws

/-- a close frame that may legally be sent: the status code is one RFC 6455 §7.4 allows on the wire and the reason
is at most 123 octets long -/
def LegalClose (x : Option Nat × Option Bytes) : Prop :=
  (∀ c, x.1 = some c → WsSpec.closeCodeOk c = true) ∧ (∀ r, x.2 = some r → r.length ≤ 123)

/-- how an operation may change the record of close frames sent: not at all, or by sending one legal close frame while
moving from (at most) OPEN to (at least) CLOSING -/
def CloseStep (a b : S) : Prop :=
  b.closeSent = a.closeSent ∨
  (a.st.rank ≤ 1 ∧ 2 ≤ b.st.rank ∧ ∃ x, b.closeSent = a.closeSent ++ [x] ∧ LegalClose x)

/-- while CLOSING a drop timer is armed (unless that timeout is configured off): the closing-handshake timer while we
wait for the peer's close frame, or — client only — the server-connection-drop timer while we wait for the TCP drop -/
def CBInv (s : S) : Prop :=
  s.st = .closing →
    (s.tCloseHs.isSome ∨ s.cfg.closeHsTimeout = 0) ∨
    (s.cfg.isServer = false ∧ (s.tServerDrop.isSome ∨ s.cfg.serverDropTimeout = 0))

/-- the part of `Ext` that every function satisfies, including those that leave the connection momentarily CLOSING
without a timer (the reply to a peer close, before `afterCloseHandshake` runs) -/
structure ExtW (a b : S) : Prop where
  rank : a.st.rank ≤ b.st.rank
  lost : b.lost = a.lost
  cfg : b.cfg = a.cfg
  log : ∃ d, b.log = a.log ++ d ∧ ∀ o ∈ d, o.isOnClose = false
  cs : CloseStep a b

structure Ext (a b : S) : Prop extends ExtW a b where
  cb : CBInv a → CBInv b

theorem CBInv.of_eq {a b : S} (hst : b.st = a.st) (hcfg : b.cfg = a.cfg) (hclose : b.tCloseHs = a.tCloseHs)
    (hdrop : b.tServerDrop = a.tServerDrop) (h : CBInv a) : CBInv b := by
  unfold CBInv at *
  rw [hst, hcfg, hclose, hdrop]; exact h

theorem ExtW.of_eq {a b : S} (hst : b.st = a.st) (hlost : b.lost = a.lost) (hcfg : b.cfg = a.cfg)
    (hlog : b.log = a.log) (hsent : b.closeSent = a.closeSent) : ExtW a b :=
  ⟨by rw [hst]; exact Nat.le_refl _, hlost, hcfg, LogGrows.of_eq hlog, Or.inl hsent⟩

theorem ExtW.refl (a : S) : ExtW a a := ExtW.of_eq rfl rfl rfl rfl rfl

theorem ExtW.trans {a b c : S} (h1 : ExtW a b) (h2 : ExtW b c) : ExtW a c := by
  refine ⟨Nat.le_trans h1.rank h2.rank, by rw [h2.lost, h1.lost], by rw [h2.cfg, h1.cfg],
    LogGrows.trans h1.log h2.log, ?_⟩
  · rcases h1.cs with c1 | ⟨ra, rb, x, ex, lx⟩
    · rcases h2.cs with c2 | ⟨rb, rc, x, ex, lx⟩
      · exact Or.inl (by rw [c2, c1])
      · exact Or.inr ⟨Nat.le_trans h1.rank rb, rc, x, by rw [ex, c1], lx⟩
    · rcases h2.cs with c2 | ⟨rb', rc, y, ey, ly⟩
      · exact Or.inr ⟨ra, Nat.le_trans rb h2.rank, x, by rw [c2, ex], lx⟩
      -- two close frames: `b` would be CLOSING at least (`rb`) and OPEN at most (`rb'`)
      · omega

theorem Ext.refl (a : S) : Ext a a := ⟨ExtW.refl a, id⟩

theorem Ext.trans {a b c : S} (h1 : Ext a b) (h2 : Ext b c) : Ext a c :=
  ⟨h1.toExtW.trans h2.toExtW, fun h => h2.cb (h1.cb h)⟩

theorem Ext.of_eq {a b : S} (hst : b.st = a.st) (hlost : b.lost = a.lost) (hcfg : b.cfg = a.cfg)
    (hlog : b.log = a.log) (hsent : b.closeSent = a.closeSent) (hclose : b.tCloseHs = a.tCloseHs)
    (hdrop : b.tServerDrop = a.tServerDrop) : Ext a b :=
  ⟨ExtW.of_eq hst hlost hcfg hlog hsent, CBInv.of_eq hst hcfg hclose hdrop⟩

theorem emit_Ext (s : S) (o : Out) (h : o.isOnClose = false) : Ext s (s.emit o) :=
  ⟨⟨Nat.le_refl _, rfl, rfl, LogGrows.emit s o h, Or.inl rfl⟩, id⟩

theorem SendEq.toExt {a b : S} (h : SendEq a b) (hl : ∃ d, b.log = a.log ++ d ∧ ∀ o ∈ d, o.isOnClose = false) :
    Ext a b := ⟨⟨by rw [h.st]; exact Nat.le_refl _, h.lost, h.cfg, hl, Or.inl h.closeSent⟩,
      CBInv.of_eq h.st h.cfg h.tCloseHs h.tServerDrop⟩

theorem timer_Ext (s : S) (d : Nat) : Ext s (s.timer d).1 := Ext.of_eq rfl rfl rfl rfl rfl rfl rfl

theorem Out.notOnClose_of_isSent {o : Out} (h : o.isSent = true) : o.isOnClose = false := by
  cases o <;> simp [Out.isSent] at h <;> rfl

/-- the send path: `SendEq`, and what it logs is never an `onClose` -/
theorem Sends.toExt {a b : S} {d : List Nat} (h : Sends a b d) : Ext a b :=
  h.eq.toExt (h.log.mono fun _ => Out.notOnClose_of_isSent)

theorem Ext.of_st {a b : S} (hr : a.st.rank ≤ b.st.rank) (h2 : b.lost = a.lost) (h3 : b.cfg = a.cfg)
    (h4 : b.log = a.log) (h5 : b.closeSent = a.closeSent) (hnc : b.st ≠ .closing) : Ext a b :=
  ⟨⟨hr, h2, h3, LogGrows.of_eq h4, Or.inl h5⟩, fun _ hc => absurd hc hnc⟩

theorem armCloseHs_Ext (s : S) : Ext s (armCloseHs s) :=
  ⟨ExtW.of_eq rfl rfl rfl rfl rfl,
   fun _ _ => Or.inl (Or.inl rfl)⟩
theorem armServerDrop_Ext (s : S) : Ext s (armServerDrop s) :=
  ⟨ExtW.of_eq rfl rfl rfl rfl rfl,
   fun h hc => by
     rcases h hc with h1 | ⟨h2, _⟩
     · exact Or.inl h1
     · exact Or.inr ⟨h2, Or.inl rfl⟩⟩
theorem armPingNext_Ext (s : S) : Ext s (armPingNext s) := Ext.of_eq rfl rfl rfl rfl rfl rfl rfl
theorem armPingTimeout_Ext (s : S) : Ext s (armPingTimeout s) := Ext.of_eq rfl rfl rfl rfl rfl rfl rfl

theorem sendCloseFrame_ExtW (s : S) (code : Option Nat) (reason : Option Bytes) (isReply : Bool)
    (hl : LegalClose (code, reason)) :
    ExtW s (sendCloseFrame s code reason isReply) := by
  refine sendCloseFrame_of (R := ExtW) ExtW.trans (fun t => (armCloseHs_Ext t).toExtW) s code reason isReply
    (ExtW.refl s) (emit_Ext _ _ rfl).toExtW fun t h hst => ?_
  have h1 := h.toExt
  exact ⟨by rw [hst]; simp [St.rank], h1.lost, h1.cfg, h1.log,
    Or.inr ⟨by rw [hst]; simp [St.rank], by simp [St.rank], (code, reason), rfl, hl⟩⟩

/-- when we initiate the closing handshake (`isReply = False`) the closing-handshake timer is armed -/
theorem sendCloseFrame_Ext (s : S) (code : Option Nat) (reason : Option Bytes)
    (hl : LegalClose (code, reason)) :
    Ext s (sendCloseFrame s code reason false) := by
  refine ⟨sendCloseFrame_ExtW s code reason false hl, ?_⟩
  intro hcb
  unfold sendCloseFrame
  split
  · exact hcb
  · exact hcb
  · exact hcb
  · dsimp only
    split
    · intro _; exact Or.inl (Or.inl rfl)
    · rename_i hne
      intro _
      left; right
      have : (sendFrame s 8 (closePayload code reason)).cfg.closeHsTimeout = 0 := by
        simpa using hne
      simpa using this

theorem dropIncompleteTail_length (bs : Bytes) (fuel : Nat) : (dropIncompleteTail bs fuel).length ≤ bs.length := by
  induction fuel generalizing bs with
  | zero => simp [dropIncompleteTail]
  | succ n ih =>
    unfold dropIncompleteTail
    split
    · exact Nat.le_refl _
    · exact Nat.le_trans (ih _) (by simp)

/-- `encode_truncate(text, limit)` never yields more than `limit` octets -/
theorem encodeTruncate_le (u : Bytes) (n : Nat) : (encodeTruncate u n).length ≤ n := by
  unfold encodeTruncate
  split
  · exact Nat.le_trans (dropIncompleteTail_length _ _) (by simp; omega)
  · omega

/-- the reason `sendClose` and the echoing reply put into a close frame (the text, if any, cut by `encode_truncate`) is at
most 123 octets long -/
theorem truncated_le (r : Option Bytes) (x : Bytes) (h : r.map (encodeTruncate · 123) = some x) : x.length ≤ 123 := by
  cases r with
  | none => cases h
  | some u => cases h; exact encodeTruncate_le u 123

theorem sendClose_Ext (s : S) (code : Option Nat) (reason : Option Bytes) : Ext s (sendClose s code reason) := by
  refine sendClose_of s code reason (emit_Ext _ _ rfl) fun hbad => sendCloseFrame_Ext _ _ _ ⟨?_, truncated_le reason⟩
  -- a code the API takes is 1000 or in 3000..4999
  intro c hc
  subst hc
  simp only [sendCloseCodeBad] at hbad
  simp only [WsSpec.closeCodeOk]
  by_cases h1 : c = 1000
  · subst h1; decide
  · have : (3000 ≤ c ∧ c ≤ 4999) := by
      simp [h1] at hbad; exact hbad
    simp; omega

theorem rank_le_closed (st : St) : st.rank ≤ St.closed.rank := by cases st <;> decide

theorem Ext.base : Walk.Base Ext where
  refl := Ext.refl
  trans := Ext.trans
  parse h := h ▸ Ext.of_eq rfl rfl rfl rfl rfl rfl rfl
  emit := emit_Ext
  armServerDrop := armServerDrop_Ext
  armPingNext := armPingNext_Ext
  armPingTimeout := armPingTimeout_Ext
  sends h _ := h.toExt
  dropped s _ l hl := ⟨⟨rank_le_closed _, rfl, rfl, ⟨l, rfl, hl⟩, Or.inl rfl⟩, fun _ hc => by cases hc⟩
  failClose s code hc := sendCloseFrame_Ext s (some code) none
    ⟨fun c h => by cases h; exact hc, fun r h => by cases h⟩
  unclean _ _ := Ext.of_eq rfl rfl rfl rfl rfl rfl rfl
  peerReason _ _ _ := Ext.of_eq rfl rfl rfl rfl rfl rfl rfl
  tick _ _ := Ext.of_eq rfl rfl rfl rfl rfl rfl rfl

/-- what `onCloseFrame` has recorded about the peer's close frame is fit to be echoed -/
def RCLegal (s : S) : Prop :=
  ∀ c, s.remoteCloseCode = some c → WsSpec.closeCodeOk c = true

theorem replyClose_ExtW (s : S) (h : RCLegal s) : ExtW s (replyClose s) :=
  replyClose_of s (sendCloseFrame_ExtW _ _ _ _ ⟨h, truncated_le _⟩)
    (sendCloseFrame_ExtW _ _ _ _ ⟨fun c hc => by cases hc; decide, fun r hr => by cases hr⟩)

/-- after `afterCloseHandshake` the connection is CLOSED (server) or a client with the server-drop timer armed
(or that timeout configured off): `CBInv` holds whatever came before -/
theorem afterCloseHandshake_cb (s : S) (a : Bool) : CBInv (afterCloseHandshake s a).1 := by
  rcases afterCloseHandshake_cases s a with e | ⟨hs, t, q, e, ht⟩ <;> rw [e]
  · intro hc; rw [dropConnection_st] at hc; cases hc
  · intro _
    by_cases hz : s.cfg.serverDropTimeout = 0
    · exact Or.inr ⟨hs, Or.inr hz⟩
    · exact Or.inr ⟨hs, Or.inl (ht (Nat.pos_of_ne_zero hz))⟩

theorem closeStateStep_Ext (s : S) (h : RCLegal s) : Ext s (closeStateStep s).1 := by
  unfold closeStateStep
  split
  · have h0 : ExtW s { s with tCloseHs := none, wasClean := true } :=
      ExtW.of_eq rfl rfl rfl rfl rfl
    exact ⟨h0.trans (Ext.base.afterCloseHandshake _ _).toExtW, fun _ => afterCloseHandshake_cb _ _⟩
  · have h0 : ExtW s { s with wasClean := true } := ExtW.of_eq rfl rfl rfl rfl rfl
    exact ⟨(h0.trans (replyClose_ExtW { s with wasClean := true } h)).trans (Ext.base.afterCloseHandshake _ _).toExtW,
      fun _ => afterCloseHandshake_cb _ _⟩
  · exact Ext.of_eq rfl rfl rfl rfl rfl rfl rfl
  · exact emit_Ext _ _ rfl

/-- after the code check of `onCloseFrame` the recorded peer code (if any) is one that may appear on the wire -/
theorem closeCodeStep_legal (s : S) (code : Option Nat) (h0 : s.remoteCloseCode = none) :
    RCLegal (closeCodeStep s code).1 := by
  unfold closeCodeStep RCLegal
  split
  · rename_i c
    split
    · have hr := (failConnection_CloseEq s 1002).remoteCloseCode
      unfold violation
      dsimp only
      split
      · intro c' hc'; rw [hr, h0] at hc'; cases hc'
      · intro c' hc'; simp at hc'; subst hc'; decide
    · rename_i hv
      intro c' hc'
      simp at hc'; subst hc'
      exact (close_code_rule c).mp (by simpa using hv)
  · intro c' hc'; simp at hc'

theorem closeReasonStep_rcc (s : S) (r : Option Bytes) : (closeReasonStep s r).1.remoteCloseCode = s.remoteCloseCode := by
  unfold closeReasonStep
  split
  · split
    · exact (failConnection_CloseEq _ _).remoteCloseCode
    · rfl
  · rfl

theorem onCloseFrame_Ext (s : S) (code : Option Nat) (reason : Option Bytes) : Ext s (onCloseFrame s code reason).1 :=
  Ext.base.onCloseFrame_of s code reason <| closeStateStep_Ext _ fun c hc =>
    closeCodeStep_legal { s with remoteCloseCode := none, remoteCloseReason := none } code rfl c
      (closeReasonStep_rcc _ reason ▸ hc)

theorem Ext.recv : Walk.Recv Ext where
  toBase := Ext.base
  onCloseFrame := onCloseFrame_Ext
  cancelAutoPingTimeout := Ext.base.cancelAutoPingTimeout_of fun _ => Ext.of_eq rfl rfl rfl rfl rfl rfl rfl
  onPongFrame := Ext.base.onPongFrame_of fun _ => Ext.of_eq rfl rfl rfl rfl rfl rfl rfl

/-- the data-sending API: `ApiEq`, and what it logs is never an `onClose` -/
theorem DataStep.toExt {a b : S} (h : DataStep a b) : Ext a b := by
  have e := h.eq
  exact ⟨⟨by rw [e.st]; exact Nat.le_refl _, e.lost, e.cfg, h.log.mono fun _ => Out.notOnClose_of_isSent, Or.inl e.closeSent⟩,
    CBInv.of_eq e.st e.cfg (e ▸ rfl) (e ▸ rfl)⟩

/-- a timeout handler of the form "clear my handle (`s1`); if not yet CLOSED: mark unclean (`s2`) and drop": in between
a CLOSING connection may be without a drop timer, afterwards it is CLOSED -/
theorem fire_drop_Ext (s s1 s2 : S) (h1w : ExtW s s1) (h2w : ExtW s1 s2) :
    Ext s (if s1.st ≠ .closed then dropConnection s2 true else s1) := by
  split
  · exact ⟨h1w.trans (h2w.trans (Ext.base.dropConnection _ _).toExtW),
      fun _ hc => by rw [dropConnection_st] at hc; cases hc⟩
  · rename_i hcl
    exact ⟨h1w, fun _ hc => by simp at hcl; rw [hcl] at hc; cases hc⟩

theorem Ext.walk : Walk Ext where
  toRecv := Ext.recv
  buffer _ _ := Ext.of_eq rfl rfl rfl rfl rfl rfl rfl
  forget _ _ _ := Ext.of_eq rfl rfl rfl rfl rfl rfl rfl
  timedOut s k hk := by
    rcases hk with rfl | rfl | rfl
    · exact fire_drop_Ext s { s with tCloseHs := none } _ (ExtW.of_eq rfl rfl rfl rfl rfl)
        (ExtW.of_eq rfl rfl rfl rfl rfl)
    · exact fire_drop_Ext s { s with tServerDrop := none } _ (ExtW.of_eq rfl rfl rfl rfl rfl)
        (ExtW.of_eq rfl rfl rfl rfl rfl)
    · exact Ext.base.timeout_of s _ _ (Ext.of_eq rfl rfl rfl rfl rfl rfl rfl)
  sendAutoPing := Ext.base.sendAutoPing_of fun _ => Ext.of_eq rfl rfl rfl rfl rfl rfl rfl
  handshakeDone := Ext.base.handshakeDone_of fun s hc => Ext.of_st (by rw [hc]; simp [St.rank]) rfl rfl rfl rfl (by simp)

theorem handshakeDone_Ext (s : S) : Ext s (handshakeDone s) := Ext.walk.handshakeDone s
theorem dataReceived_Ext (s : S) (d : Bytes) : Ext s (dataReceived s d) := Ext.walk.dataReceived s d
theorem pump_Ext (s : S) : Ext s (pump s) := Ext.walk.pump s

theorem stepCore_Ext_data (s : S) (op : Op) (h : op.isData = true) : Ext s (stepCore s op) :=
  (stepCore_DataStep s op h).toExt

theorem Ext.history {Inv : S → Prop} (keeps : ∀ {a b}, Ext a b → Inv a → Inv b)
    (hlost : ∀ s, s.lost = false → Inv s → Inv (connectionLost s)) (ops : List Op) (s : S) (h : Inv s) : Inv (run s ops) :=
  Ext.walk.history (ok := fun _ => True) keeps (fun s op hd => keeps (stepCore_Ext_data s op hd)) hlost
    (fun s c r _ => sendClose_Ext s c r) ops (fun _ _ => trivial) s h

theorem stepCore_Ext (s : S) (op : Op) (h : op ≠ .lost) : Ext s (stepCore s op) :=
  Ext.walk.stepCore s op (stepCore_Ext_data s op) (fun e => absurd e h) fun c r _ => sendClose_Ext s c r

/-- every operation extends the state; the loss of the transport does so after `_connectionLost` has run, which it does
once -/
theorem step_Ext (s : S) (op : Op) :
    Ext s (step s op) ∨ (s.lost = false ∧ Ext (connectionLost s) (step s op)) := by
  by_cases hop : op = .lost
  · subst hop
    cases hl : s.lost
    · exact Or.inr ⟨rfl, pump_Ext _⟩
    · rw [show step s .lost = pump (connectionLost s) from rfl, connectionLost_idem s hl]
      exact Or.inl (pump_Ext s)
  · exact Or.inl ((stepCore_Ext s op hop).trans (pump_Ext _))

theorem step_cfg (s : S) (op : Op) : (step s op).cfg = s.cfg :=
  (step_Ext s op).elim (fun e => e.cfg) fun e => e.2.cfg.trans (connectionLost_cfg s)

theorem run_cfg (ops : List Op) (s : S) : (run s ops).cfg = s.cfg :=
  run_induction (Inv := fun t => t.cfg = s.cfg) (ok := fun _ => True) (fun t op _ e => (step_cfg t op).trans e) ops
    (fun _ _ => trivial) s rfl

end Abverif.Ws

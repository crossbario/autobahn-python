import Abverif.Proofs.Lemmas.WsSeg2
/-
The engine's receive path against the frame-by-frame RFC 6455 judge (`WsSpec.judge`), the pieces.  `evsOf`: the events
of a log.  The relations: `Quiet`, what the refinement needs of the connection throughout (OPEN, nothing failed, no
auto-ping in flight, the endpoint fails by dropping); `Rel`: `Quiet` and the message bookkeeping agrees, between
frames; `Mid`: the same inside a data frame, behind its header; `Agree`: what a verdict of the judge says about a final
state, with `Dropped` (Lemmas/WsSeg.lean) → `Failed` → `Agree … (.fail _)` for every way the connection is failed.
Fail-by-drop (`Quiet.fbd`) makes each check of the receive path end the run at once (`violation_eq`), as the judge's
first verdict does, and hides the status code; it is read wherever a check is met (`consume_Mid`, `onFrameEnd_Mid`,
`payload_refines`, `onCloseFrame_fbd`, the header checks in `step_refines`), for the loop's termination (`drain_turn`)
and for the lift to any segmentation (`feed_flatten`).  Then the judge's data frame in steps (`J.enter`, `uAfter`,
`J.after`, `J.deliver`) and a data frame through the engine, each step in the judge's terms: header, begin, payload
chunk, end (`payload_refines`).  Control frames and the frame as a whole are in Lemmas/WsJudge2.lean.
-/
namespace Abverif.Ws
open Abverif.WsSpec

/-! ### the events of a log; a connection that was failed -/

/-- events of a log in the judge's vocabulary -/
def evsOf (log : List Out) : List Ev := log.filterMap evOfOut

theorem evsOf_append (a b : List Out) : evsOf (a ++ b) = evsOf a ++ evsOf b := by
  simp [evsOf, List.filterMap_append]

theorem mem_evsOf {log : List Out} {o : Out} {e : Ev} (ho : o ∈ log) (he : evOfOut o = some e) : e ∈ evsOf log :=
  List.mem_filterMap.mpr ⟨o, ho, he⟩

/-- the send path never adds a receive event to the log: what it logs are writes and raised exceptions -/
theorem Sends.evs {a b : S} {d : List Nat} (h : Sends a b d) : evsOf b.log = evsOf a.log := by
  obtain ⟨l, e, hl⟩ := h.log
  rw [e, evsOf_append]
  have : evsOf l = [] := List.filterMap_eq_nil_iff.mpr fun o ho => by
    have := hl o ho
    cases o <;> simp [Out.isSent] at this <;> rfl
  rw [this, List.append_nil]

/-- what the refinement keeps of `Dropped`: `s'` is `s` with the connection failed — CLOSED, marked, no event more.
Every failing check yields it (`failConnection_Failed`), and it is the judge's `fail` (`Agree.of_Failed`) -/
def Failed (s s' : S) : Prop := s'.st = .closed ∧ s'.failedByMe = true ∧ evsOf s'.log = evsOf s.log

theorem Dropped.toFailed {s s' : S} (h : Dropped s s') : Failed s s' :=
  ⟨h.st, h.failed, by rw [h.log, evsOf_append]; exact List.append_nil _⟩

theorem failConnection_Failed (s : S) (code : Nat) (hf : s.cfg.failByDrop = true) (hst : s.st ≠ .closed) :
    Failed s (failConnection s code) := (failConnection_drop s code hf hst).toFailed

/-! ### the abstraction relation between the engine state and the judge's state -/

/-- the parts of the relation that do not change while frames are processed without failure: OPEN and nothing failed;
no auto-ping in flight (`pp`, `pt`: otherwise a pong, or the end of a data frame, moves timers: `onPongFrame`,
`endDataFrame`); the endpoint fails by dropping (`fbd`: a failed check ends the run); `c` is its configuration as the
judge sees it -/
structure Quiet (c : Ctx) (s : S) : Prop where
  st : s.st = .opened
  nf : s.failedByMe = false
  lost : s.lost = false
  pp : s.pingPending = none
  pt : s.tPingTimeout = none
  fbd : s.cfg.failByDrop = true
  ctx : Ctx.ofCfg s.cfg = c
  wc : s.wasClean = false

theorem Quiet.open_ne {c : Ctx} {s : S} (q : Quiet c s) : s.st ≠ .closed := by
  rw [q.st]; decide

/-- the message bookkeeping of an open message agrees -/
structure MsgRel (s : S) (j : J) : Prop where
  binary : s.msgBinary = j.binary
  compressed : s.msgCompressed = j.compressed
  validate : s.utf8On = j.validate
  acc : s.messageData = j.acc
  total : s.totalLen = j.total
  notRej : j.utf8 ≠ .rej
  utf8 : (j.validate && !j.compressed) = true → s.utf8 = j.utf8 ∧ s.utf8Ends = decide (j.utf8 = .s0)

/-- between frames -/
structure Rel (c : Ctx) (s : S) (j : J) : Prop where
  q : Quiet c s
  cur : s.cur = none
  inside : s.insideMessage = j.inside
  evs : evsOf s.log = j.evs
  msg : j.inside = true → MsgRel s j

/-- inside a data frame whose header has been processed, before any payload octet -/
structure Mid (c : Ctx) (s : S) (j : J) (hdr : Hdr) (um : Bool) : Prop where
  q : Quiet c s
  cur : s.cur = some hdr
  ptr : s.ptr = 0
  unmask : s.unmask = um
  insideS : s.insideMessage = true
  insideJ : j.inside = true
  evs : evsOf s.log = j.evs
  msg : MsgRel s j
  fd : s.frameData = []

theorem Rel.wf {c : Ctx} {s : S} {j : J} (hr : Rel c s j) : WF s := by
  intro h hh; rw [hr.cur] at hh; cases hh

theorem Rel.mu_eq {c : Ctx} {s : S} {j : J} (hr : Rel c s j) (buf : Bytes) : mu s buf = 2 * buf.length := by
  unfold mu; simp [hr.cur]

/-! ### agreement of a final engine state with a verdict of the judge -/

/-- what the verdict says about the engine: `ok` — still OPEN, nothing failed; `fail` — the connection was failed
and dropped (the status code is not observable when failing by drop); `closedByPeer` — the peer's close frame was
taken in: code and reason recorded, the close is clean, the server has dropped / the client waits for the drop.
The last argument, the number of octets the judge left unread, is not read. -/
def Agree (c : Ctx) (s' : S) (evs : List Ev) (v : Verdict) (_restlen : Nat) : Prop :=
  match v with
  | .ok => evsOf s'.log = evs ∧ s'.st = .opened ∧ s'.failedByMe = false
  | .fail _ => evsOf s'.log = evs ∧ s'.st = .closed ∧ s'.failedByMe = true
  | .closedByPeer =>
      evsOf s'.log ++ [.close s'.remoteCloseCode s'.remoteCloseReason] = evs ∧ s'.wasClean = true ∧
      s'.failedByMe = false ∧ s'.st = (if c.isServer then .closed else .closing)

theorem Agree.of_Failed {c : Ctx} {s s' : S} {evs : List Ev} {code r : Nat} (h : Failed s s') (he : evsOf s.log = evs) :
    Agree c s' evs (.fail code) r := ⟨by rw [h.2.2, he], h.1, h.2.1⟩

theorem Agree.evs_sub {c : Ctx} {s' : S} {evs : List Ev} {v : Verdict} {r : Nat} (h : Agree c s' evs v r) :
    ∀ e ∈ evsOf s'.log, e ∈ evs := by
  intro e he
  cases v with
  | ok => rw [← h.1]; exact he
  | fail _ => rw [← h.1]; exact he
  | closedByPeer => rw [← h.1]; exact List.mem_append_left _ he

/-- a verdict other than `ok` says that the engine's loop has stopped -/
theorem Agree.halts {c : Ctx} {x : S} {evs : List Ev} {v : Verdict} {r : Nat} (h : Agree c x evs v r) (hv : v ≠ .ok) :
    x.st = .closed ∨ x.wasClean = true := by
  cases v with
  | ok => exact absurd rfl hv
  | fail _ => exact Or.inl h.2.1
  | closedByPeer => exact Or.inr h.2.1

theorem Agree.footprint {c : Ctx} {x : S} {evs : List Ev} {v : Verdict} {r : Nat} (cur : Option Hdr) (d : Bytes)
    (h : Agree c x evs v r) : Agree c { x with cur := cur, data := d } evs v r := by
  cases v <;> exact h

/-! ### the judge's data frame in steps: `J.enter` at the header, `uAfter` and `J.after` behind the payload, `J.deliver`
at the end of the message -/

theorem enter_first (c : Ctx) (j : J) (h : Hd) (plen : Nat) (hin : j.inside = false) :
    j.enter c h plen =
      { j with inside := true, binary := h.opcode = 2, compressed := c.pmce && h.rsv = 4,
               validate := h.opcode = 1 && c.utf8validate, utf8 := .s0, acc := [], total := 0 + plen } := by
  unfold J.enter; simp only [hin, Bool.not_false, if_true]

theorem enter_cont (c : Ctx) (j : J) (h : Hd) (plen : Nat) (hin : j.inside = true) :
    j.enter c h plen = { j with total := j.total + plen } := by
  unfold J.enter; simp only [hin, Bool.not_true, Bool.false_eq_true, if_false]

/-- the judge's validator state after the payload octets `un` -/
def uAfter (j : J) (un : Bytes) : U8 := if j.validate && !j.compressed then u8run j.utf8 un else j.utf8

theorem uAfter_nil (j : J) : uAfter j [] = j.utf8 := by
  unfold uAfter; split <;> rfl

/-- the judge's state after a complete data frame's payload -/
def _root_.Abverif.WsSpec.J.after (j : J) (un : Bytes) : J := { j with utf8 := uAfter j un, acc := j.acc ++ un }

/-- the judge's state after the final frame of a message -/
def _root_.Abverif.WsSpec.J.deliver (j : J) : J :=
  { j with inside := false, acc := [], evs := j.evs ++ [.message j.acc j.binary j.compressed] }

/-- `judgeData` behind the two limit tests, in the vocabulary of the refinement (`uAfter`, `J.after`, `J.deliver`) -/
theorem judgeData_within (c : Ctx) (j : J) (len : Nat) (h : Hd) (plen : Nat) (un : Bytes) (complete : Bool)
    (after : Bytes) (hmsg : (0 < c.maxMsg && c.maxMsg < (j.enter c h plen).total) = false)
    (hfrm : (0 < c.maxFrame && c.maxFrame < plen) = false) :
    judgeData c j len h plen un complete after =
      (if uAfter (j.enter c h plen) un = .rej then .done (j.enter c h plen).evs (.fail 1007) len else
       if !complete then .done (j.enter c h plen).evs .ok len else
       if h.fin then
         if ((j.enter c h plen).after un).validate && !((j.enter c h plen).after un).compressed
             && decide (uAfter (j.enter c h plen) un ≠ .s0)
         then .done ((j.enter c h plen).after un).evs (.fail 1007) len
         else .next ((j.enter c h plen).after un).deliver after
       else .next ((j.enter c h plen).after un) after) := by
  unfold judgeData
  simp only [hmsg, hfrm, Bool.false_eq_true, if_false]
  rfl

theorem judgeData_over (c : Ctx) (j : J) (len : Nat) (h : Hd) (plen : Nat) (un : Bytes) (complete : Bool)
    (after : Bytes)
    (hlim : ((0 < c.maxMsg && c.maxMsg < (j.enter c h plen).total) || (0 < c.maxFrame && c.maxFrame < plen)) = true) :
    judgeData c j len h plen un complete after = .done (j.enter c h plen).evs (.fail 1009) len := by
  unfold judgeData
  cases hmsg : (0 < c.maxMsg && c.maxMsg < (j.enter c h plen).total) with
  | true => simp only [hmsg, if_true]
  | false =>
    rw [hmsg, Bool.false_or] at hlim
    simp only [hmsg, hlim, Bool.false_eq_true, if_false, if_true]

/-! ### the header and the begin of a data frame -/

/-- a complete, legal header starts the frame, in the judge's vocabulary -/
theorem processHeader_run (s : S) (o0 o1 : UInt8) (rest2 : Bytes)
    (hv : headerViolations s.cfg s.insideMessage (Hd.ofOctets o0 o1).fin (Hd.ofOctets o0 o1).rsv
      (Hd.ofOctets o0 o1).opcode (Hd.ofOctets o0 o1).masked (Hd.ofOctets o0 o1).len7 = [])
    (hlen : (Hd.ofOctets o0 o1).extN + (Hd.ofOctets o0 o1).keyN ≤ rest2.length)
    (hext : extLenOk (Hd.ofOctets o0 o1).len7 ((Hd.ofOctets o0 o1).plen rest2) = true) :
    processHeader s o0 o1 (o0 :: o1 :: rest2) =
      (onFrameBegin { s with cur := some (hdrRec (Hd.ofOctets o0 o1) rest2), ptr := 0,
                             unmask := (Hd.ofOctets o0 o1).masked && decide ((Hd.ofOctets o0 o1).plen rest2 > 0)
                                        && s.cfg.applyMask }
          (hdrRec (Hd.ofOctets o0 o1) rest2),
        rest2.drop ((Hd.ofOctets o0 o1).extN + (Hd.ofOctets o0 o1).keyN),
        decide ((Hd.ofOctets o0 o1).plen rest2 = 0)
          || decide ((rest2.drop ((Hd.ofOctets o0 o1).extN + (Hd.ofOctets o0 o1).keyN)).length > 0)) := by
  have hl : headerLen (Hd.ofOctets o0 o1).masked (Hd.ofOctets o0 o1).len7 ≤ (o0 :: o1 :: rest2).length := by
    rw [headerLen_hd]; simp only [List.length_cons]; omega
  rw [processHeader_eq, headerStep_run s _ _ hv hl hext, headerLen_hd, Nat.add_assoc, Nat.add_comm 2]
  rfl

/-- `onFrameBegin` for the first frame of a message: the message bookkeeping is reset -/
def openMsg (s : S) (h : Hdr) : S :=
  if !s.insideMessage then
    let s := { s with insideMessage := true, msgCompressed := s.cfg.pmce && h.rsv = 4 }
    let s :=
      if h.opcode = 1 && s.cfg.utf8validate then
        { s with utf8On := true, utf8 := .s0, utf8Ok := true, utf8Ends := true }
      else { s with utf8On := false }
    { s with msgBinary := h.opcode = 2, messageData := [], totalLen := 0 }
  else s

/-- the state after a data frame header that respects the limits -/
def dataBegin (s : S) (h : Hdr) : S :=
  { openMsg s h with frameData := [], totalLen := (openMsg s h).totalLen + h.length }

def overLimit (s : S) (h : Hdr) : Bool :=
  (0 < s.cfg.maxMsg && s.cfg.maxMsg < (dataBegin s h).totalLen) || (0 < s.cfg.maxFrame && s.cfg.maxFrame < h.length)

theorem openMsg_first (s : S) (h : Hdr) (hins : s.insideMessage = false) :
    openMsg s h =
      { s with insideMessage := true, msgCompressed := s.cfg.pmce && h.rsv = 4,
               utf8On := h.opcode = 1 && s.cfg.utf8validate,
               utf8 := if h.opcode = 1 && s.cfg.utf8validate then .s0 else s.utf8,
               utf8Ok := if h.opcode = 1 && s.cfg.utf8validate then true else s.utf8Ok,
               utf8Ends := if h.opcode = 1 && s.cfg.utf8validate then true else s.utf8Ends,
               msgBinary := h.opcode = 2, messageData := [], totalLen := 0 } := by
  unfold openMsg
  rw [hins]
  cases hv : (decide (h.opcode = 1) && s.cfg.utf8validate) <;> simp only [hv] <;> rfl

theorem openMsg_cont (s : S) (h : Hdr) (hins : s.insideMessage = true) : openMsg s h = s := by
  unfold openMsg; rw [hins]; rfl

theorem openMsg_cfg (s : S) (h : Hdr) : (openMsg s h).cfg = s.cfg := by
  unfold openMsg
  simp only [apply_ite S.cfg, ite_self]

theorem openMsg_failed (s : S) (h : Hdr) : (openMsg s h).failedByMe = s.failedByMe := by
  unfold openMsg
  simp only [apply_ite S.failedByMe, ite_self]

theorem onFrameBegin_data_eq (s : S) (h : Hdr) (hop : ¬ h.opcode > 7) (hnf : s.failedByMe = false) :
    onFrameBegin s h = if overLimit s h then failConnection (dataBegin s h) 1009 else dataBegin s h := by
  have e : onFrameBegin s h = onMessageFrameBegin (openMsg s h) h.length := by
    unfold onFrameBegin; rw [if_neg hop]; rfl
  rw [e]
  unfold onMessageFrameBegin overLimit dataBegin
  simp only [openMsg_failed, openMsg_cfg, hnf, Bool.not_false, if_true]
  cases (0 < s.cfg.maxMsg && s.cfg.maxMsg < (openMsg s h).totalLen + h.length) <;>
    cases (0 < s.cfg.maxFrame && s.cfg.maxFrame < h.length) <;> rfl

theorem dataBegin_Mid (c : Ctx) (s : S) (j : J) (h : Hd) (rest2 : Bytes) (um : Bool) (hr : Rel c s j) :
    Mid c (dataBegin { s with cur := some (hdrRec h rest2), ptr := 0, unmask := um } (hdrRec h rest2))
      (j.enter c h (h.plen rest2)) (hdrRec h rest2) um := by
  have q := hr.q
  -- the judge's context is a copy of the configuration
  obtain rfl := q.ctx
  unfold dataBegin
  cases hin : j.inside with
  | false =>
    rw [enter_first _ j h _ hin, openMsg_first _ _ (by show s.insideMessage = false; rw [hr.inside, hin])]
    refine ⟨⟨q.st, q.nf, q.lost, q.pp, q.pt, q.fbd, q.ctx, q.wc⟩, rfl, rfl, rfl, rfl, rfl, hr.evs,
      ⟨rfl, rfl, rfl, rfl, rfl, (by intro hx; cases hx), fun hv => ?_⟩, rfl⟩
    have hv1 : (decide (h.opcode = 1) && s.cfg.utf8validate) = true := (Bool.and_eq_true_iff.mp hv).1
    show (if (decide (h.opcode = 1) && s.cfg.utf8validate) = true then U8.s0 else s.utf8) = U8.s0 ∧
      (if (decide (h.opcode = 1) && s.cfg.utf8validate) = true then true else s.utf8Ends) = decide (U8.s0 = U8.s0)
    rw [if_pos hv1, if_pos hv1]
    exact ⟨rfl, rfl⟩
  | true =>
    have hm := hr.msg hin
    rw [enter_cont _ j h _ hin, openMsg_cont _ _ (by show s.insideMessage = true; rw [hr.inside, hin])]
    exact ⟨⟨q.st, q.nf, q.lost, q.pp, q.pt, q.fbd, q.ctx, q.wc⟩, rfl, rfl, rfl, hr.inside.trans hin, hin, hr.evs,
      ⟨hm.binary, hm.compressed, hm.validate, hm.acc, congrArg (· + h.plen rest2) hm.total, hm.notRej, hm.utf8⟩, rfl⟩

/-- the model's limit test is the judge's -/
theorem overLimit_eq (c : Ctx) (s : S) (j : J) (h : Hd) (rest2 : Bytes) (um : Bool) (hr : Rel c s j) :
    overLimit { s with cur := some (hdrRec h rest2), ptr := 0, unmask := um } (hdrRec h rest2)
      = ((0 < c.maxMsg && c.maxMsg < (j.enter c h (h.plen rest2)).total)
          || (0 < c.maxFrame && c.maxFrame < h.plen rest2)) := by
  have hm := dataBegin_Mid c s j h rest2 um hr
  unfold overLimit
  rw [hm.msg.total, ← hr.q.ctx]
  rfl

theorem unmaskChunk_eq (c : Ctx) (s : S) (h : Hd) (rest2 body : Bytes) (hp : s.ptr = 0)
    (hu : s.unmask = (h.masked && decide (h.plen rest2 > 0) && c.applyMask)) :
    unmaskChunk s (hdrRec h rest2) (body.take (h.plen rest2)) = unmaskAvail c (h.key rest2) (body.take (h.plen rest2)) := by
  unfold unmaskChunk unmaskAvail
  simp only [hdrRec, hu, hp]
  cases hk : h.key rest2 with
  | none => simp
  | some k =>
    have hm : h.masked = true := by
      unfold Hd.key at hk
      cases hmm : h.masked with
      | true => rfl
      | false => simp [hmm] at hk
    by_cases hz : h.plen rest2 = 0
    · simp [hz, Abverif.Xor.spec, Abverif.Xor.specBytes]
    · have hpos : h.plen rest2 > 0 := Nat.pos_of_ne_zero hz
      cases c.applyMask <;> simp [hm, hpos]

/-! ### a payload chunk of a data frame -/

theorem Mid.validating {c : Ctx} {s : S} {j : J} {hdr : Hdr} {um : Bool} (hm : Mid c s j hdr um) :
    (s.utf8On && !s.msgCompressed) = (j.validate && !j.compressed) := by
  rw [hm.msg.validate, hm.msg.compressed]

theorem Mid.rejects {c : Ctx} {s : S} {j : J} {hdr : Hdr} {um : Bool} (hm : Mid c s j hdr um) (u : Bytes) :
    ((s.utf8On && !s.msgCompressed) && utf8Bad s u) = decide (uAfter j u = .rej) := by
  unfold uAfter
  rw [hm.validating]
  cases hon : (j.validate && !j.compressed)
  · simp [hm.msg.notRej]
  · unfold utf8Bad
    rw [(hm.msg.utf8 hon).1]
    cases u with
    -- no octet, no verdict: the validator is not in `rej` between chunks
    | nil => simpa [u8run] using hm.msg.notRej
    | cons _ _ => simp

theorem consume_Mid {c : Ctx} {s : S} {j : J} {hdr : Hdr} {um : Bool} (hm : Mid c s j hdr um) (chunk : Bytes)
    (hd : ¬ hdr.opcode > 7) :
    consume s hdr chunk =
      if uAfter j (unmaskChunk s hdr chunk) = .rej
      then (failConnection (setUtf8 { s with ptr := s.ptr + chunk.length } (unmaskChunk s hdr chunk)) 1007, false)
      else (afterChunk s chunk.length (unmaskChunk s hdr chunk), true) := by
  rw [consume_data s hdr chunk hd hm.q.fbd, hm.rejects]
  simp only [decide_eq_true_eq]

/-! ### the end of a data frame -/

theorem endDataFrame_eq (s : S) (hnf : s.failedByMe = false) (hp : s.tPingTimeout = none) :
    endDataFrame s = { s with messageData := s.messageData ++ s.frameData, frameData := [] } := by
  unfold endDataFrame
  simp [hnf, hp]

theorem afterChunk_quiet {c : Ctx} {s : S} (q : Quiet c s) (n : Nat) (u : Bytes) : Quiet c (afterChunk s n u) :=
  ⟨q.st, q.nf, q.lost, q.pp, q.pt, q.fbd, q.ctx, q.wc⟩

/-- the engine state after the whole payload of a data frame and `onMessageFrameEnd` -/
def frameDone (s : S) (n : Nat) (un : Bytes) : S := endDataFrame (afterChunk s n un)

theorem frameDone_eq {c : Ctx} {s : S} {j : J} {hdr : Hdr} {um : Bool} (hm : Mid c s j hdr um) (n : Nat) (un : Bytes) :
    frameDone s n un =
      { afterChunk s n un with messageData := s.messageData ++ un, frameData := [] } := by
  unfold frameDone
  have q := afterChunk_quiet hm.q n un
  rw [endDataFrame_eq _ q.nf q.pt]
  simp [afterChunk, hm.q.nf, hm.fd]

theorem frameDone_log {c : Ctx} {s : S} {j : J} {hdr : Hdr} {um : Bool} (hm : Mid c s j hdr um) (n : Nat)
    (un : Bytes) : (frameDone s n un).log = s.log := by
  rw [frameDone_eq hm n un]
  rfl

theorem frameDone_Rel {c : Ctx} {s : S} {j : J} {hdr : Hdr} {um : Bool} (hm : Mid c s j hdr um) (n : Nat)
    (un : Bytes) (hu : uAfter j un ≠ .rej) : Rel c { frameDone s n un with cur := none } (j.after un) := by
  rw [frameDone_eq hm n un]
  have q := hm.q
  refine ⟨⟨q.st, q.nf, q.lost, q.pp, q.pt, q.fbd, q.ctx, q.wc⟩, rfl, hm.insideS.trans hm.insideJ.symm, hm.evs,
    fun _ => ⟨hm.msg.binary, hm.msg.compressed, hm.msg.validate, congrArg (· ++ un) hm.msg.acc, hm.msg.total, hu,
      fun hon => ?_⟩⟩
  -- the engine's validator has run over `un` exactly when the judge's has
  have hon : (j.validate && !j.compressed) = true := hon
  have hon' : (s.utf8On && !s.msgCompressed) = true := hm.validating.trans hon
  show (if (s.utf8On && !s.msgCompressed) = true then u8run s.utf8 un else s.utf8) = uAfter j un ∧
    (if (s.utf8On && !s.msgCompressed) = true then decide (u8run s.utf8 un = .s0) else s.utf8Ends)
      = decide (uAfter j un = .s0)
  unfold uAfter
  rw [if_pos hon', if_pos hon', if_pos hon, (hm.msg.utf8 hon).1]
  exact ⟨rfl, rfl⟩

/-- the end-of-message UTF-8 test of the engine is the judge's -/
theorem endsBad_eq {c : Ctx} {s : S} {j : J} {hdr : Hdr} {um : Bool} (hm : Mid c s j hdr um) (n : Nat)
    (un : Bytes) (hu : uAfter j un ≠ .rej) :
    ((frameDone s n un).utf8On && !(frameDone s n un).msgCompressed && !(frameDone s n un).utf8Ends)
      = ((j.after un).validate && !(j.after un).compressed && decide (uAfter j un ≠ .s0)) := by
  have hmr := (frameDone_Rel hm n un hu).msg hm.insideJ
  rw [hmr.validate, hmr.compressed]
  by_cases hon : ((j.after un).validate && !(j.after un).compressed) = true
  · have := (hmr.utf8 hon).2
    rw [this]
    simp [J.after]
    rfl
  · have hoff : ((j.after un).validate && !(j.after un).compressed) = false := by simpa using hon
    simp [hoff]

/-- **the end of a data frame** in the judge's terms: a final frame ends the message, which must end on a code point
and is then handed to the application -/
theorem onFrameEnd_Mid {c : Ctx} {s : S} {j : J} {hdr : Hdr} {um : Bool} (hm : Mid c s j hdr um) (n : Nat)
    (un : Bytes) (hd : ¬ hdr.opcode > 7) (hu : uAfter j un ≠ .rej) :
    onFrameEnd (afterChunk s n un) hdr =
      if hdr.fin then
        if (j.after un).validate && !(j.after un).compressed && decide (uAfter j un ≠ .s0)
        then (failConnection (frameDone s n un) 1007, false)
        else (resetMessage (deliverMessage (frameDone s n un)), true)
      else ({ frameDone s n un with cur := none }, true) := by
  unfold onFrameEnd
  rw [if_neg hd]
  show (if hdr.fin then endMessageStep (frameDone s n un) else _) = _
  rw [endMessageStep_eq (frameDone s n un) (frameDone_Rel hm n un hu).q.fbd,
    endsBad_eq hm n un hu]
  rfl

theorem delivered_Rel {c : Ctx} {s : S} {j : J} {hdr : Hdr} {um : Bool} (hm : Mid c s j hdr um) (n : Nat)
    (un : Bytes) (hu : uAfter j un ≠ .rej) :
    Rel c (resetMessage (deliverMessage (frameDone s n un))) (j.after un).deliver := by
  have hR := frameDone_Rel hm n un hu
  have hmr := hR.msg hm.insideJ
  have q := hR.q
  -- the connection has not been failed: the message is handed to the application
  have hd' : resetMessage (deliverMessage (frameDone s n un)) =
      { (frameDone s n un).emit (.onMessage (frameDone s n un).messageData (frameDone s n un).msgBinary
          (frameDone s n un).msgCompressed) with messageData := [], insideMessage := false, cur := none } := by
    have hnf : (frameDone s n un).failedByMe = false := q.nf
    unfold resetMessage deliverMessage
    simp [hnf]
  rw [hd']
  refine ⟨⟨q.st, q.nf, q.lost, q.pp, q.pt, q.fbd, q.ctx, q.wc⟩, rfl, rfl, ?_, fun hx => ?_⟩
  · show evsOf ((frameDone s n un).log ++ [_]) = _
    rw [evsOf_append, hR.evs, hmr.acc, hmr.binary, hmr.compressed]
    rfl
  · simp [J.deliver] at hx

/-! ### the payload step -/

/-- the payload step on a frame none of whose payload has been taken in, when the octets present pass (`x` is the
state behind them): with all of the payload there the frame ends; otherwise the loop waits -/
theorem processPayload_start (s x : S) (h : Hdr) (body : Bytes) (hp : s.ptr = 0)
    (hc : consume s h (body.take h.length) = (x, true)) (hx : x.ptr = (body.take h.length).length) :
    processPayload s h body =
      if h.length ≤ body.length
      then ((onFrameEnd x h).1, body.drop h.length, (onFrameEnd x h).2 && decide ((body.drop h.length).length > 0))
      else (x, [], false) := by
  rw [processPayload_finish, hp, Nat.sub_zero, hc]
  rw [List.length_take] at hx
  by_cases hle : h.length ≤ body.length
  · rw [if_pos hle, finishPayload_end _ h _ rfl (by show x.ptr = h.length; omega)]
  · have hne : x.ptr ≠ h.length := by omega
    simp [finishPayload, hne, hle, List.drop_of_length_le (Nat.le_of_lt (Nat.lt_of_not_le hle))]

/-- **the payload step of a data frame** against the judge's cases -/
theorem payload_refines (c : Ctx) (s : S) (j : J) (hdr : Hdr) (um : Bool) (body : Bytes) (hm : Mid c s j hdr um)
    (hd : ¬ hdr.opcode > 7) :
    (uAfter j (unmaskChunk s hdr (body.take hdr.length)) = .rej →
      (processPayload s hdr body).2.2 = false ∧ Failed s (processPayload s hdr body).1) ∧
    (uAfter j (unmaskChunk s hdr (body.take hdr.length)) ≠ .rej → body.length < hdr.length →
      processPayload s hdr body
        = (afterChunk s body.length (unmaskChunk s hdr (body.take hdr.length)), [], false)) ∧
    (uAfter j (unmaskChunk s hdr (body.take hdr.length)) ≠ .rej → hdr.length ≤ body.length → hdr.fin = false →
      processPayload s hdr body
        = ({ frameDone s hdr.length (unmaskChunk s hdr (body.take hdr.length)) with cur := none },
            body.drop hdr.length, decide ((body.drop hdr.length).length > 0)) ∧
      Rel c { frameDone s hdr.length (unmaskChunk s hdr (body.take hdr.length)) with cur := none }
        (j.after (unmaskChunk s hdr (body.take hdr.length)))) ∧
    (uAfter j (unmaskChunk s hdr (body.take hdr.length)) ≠ .rej → hdr.length ≤ body.length → hdr.fin = true →
      ((j.after (unmaskChunk s hdr (body.take hdr.length))).validate
        && !(j.after (unmaskChunk s hdr (body.take hdr.length))).compressed
        && decide (uAfter j (unmaskChunk s hdr (body.take hdr.length)) ≠ .s0)) = true →
      (processPayload s hdr body).2.2 = false ∧ Failed s (processPayload s hdr body).1) ∧
    (uAfter j (unmaskChunk s hdr (body.take hdr.length)) ≠ .rej → hdr.length ≤ body.length → hdr.fin = true →
      ((j.after (unmaskChunk s hdr (body.take hdr.length))).validate
        && !(j.after (unmaskChunk s hdr (body.take hdr.length))).compressed
        && decide (uAfter j (unmaskChunk s hdr (body.take hdr.length)) ≠ .s0)) = false →
      ∃ s', processPayload s hdr body = (s', body.drop hdr.length, decide ((body.drop hdr.length).length > 0)) ∧
        Rel c s' (j.after (unmaskChunk s hdr (body.take hdr.length))).deliver) := by
  generalize hun : unmaskChunk s hdr (body.take hdr.length) = un
  have hc := consume_Mid hm (body.take hdr.length) hd
  rw [hun] at hc
  -- the octets present pass validation: what remains is the end of the frame, if they are all there
  have pass := fun hu : uAfter j un ≠ .rej => processPayload_start s _ hdr body hm.ptr (hc.trans (if_neg hu))
    (by simp [afterChunk, hm.ptr])
  rw [List.length_take] at pass
  refine ⟨?_, ?_, ?_, ?_, ?_⟩
  · intro hu
    rw [processPayload_finish, hm.ptr, Nat.sub_zero, hc, if_pos hu, finishPayload_false _ _ _ rfl]
    -- `by exact`: elaborated last, when the goal has fixed the state that is failed
    exact ⟨rfl, Dropped.toFailed (failConnection_drop_of (by exact rfl) 1007 hm.q.fbd hm.q.open_ne)⟩
  · intro hu hlt
    rw [pass hu, if_neg (Nat.not_le.mpr hlt), Nat.min_eq_right (Nat.le_of_lt hlt)]
  · intro hu hle hfin
    rw [pass hu, if_pos hle, Nat.min_eq_left hle, onFrameEnd_Mid hm _ un hd hu, hfin]
    exact ⟨rfl, frameDone_Rel hm _ un hu⟩
  · intro hu hle hfin hb
    have hq := (frameDone_Rel hm hdr.length un hu).q
    have hF := failConnection_Failed (frameDone s hdr.length un) 1007 hq.fbd hq.open_ne
    rw [pass hu, if_pos hle, Nat.min_eq_left hle, onFrameEnd_Mid hm _ un hd hu, hfin, if_pos rfl, if_pos hb]
    exact ⟨rfl, hF.1, hF.2.1, hF.2.2.trans (by rw [frameDone_log hm _ un])⟩
  · intro hu hle hfin hb
    rw [pass hu, if_pos hle, Nat.min_eq_left hle, onFrameEnd_Mid hm _ un hd hu, hfin, if_pos rfl, hb,
      if_neg Bool.false_ne_true]
    exact ⟨_, rfl, delivered_Rel hm _ un hu⟩

end Abverif.Ws

import Abverif.Proofs.Lemmas.SessIds
/-
The state invariant of the session model (distinct request ids, futures completed at most once, `Subscription`
objects attached at most once, records hold allocated futures) and how the primitives move the fields it reads. What
is walked through the model is the step relation `InvRel`; `Tame` is the class of outputs and queue entries that all of
its parts tolerate.
-/
namespace Abverif.Session
open Abverif.SessCodes

def KeysBounded (s : Sess) : Prop := ∀ k, ∀ id ∈ akeys (s.tbl k), 1 ≤ id ∧ id ≤ s.issued
def KeysDistinct (s : Sess) : Prop :=
  (∀ k, (akeys (s.tbl k)).Nodup) ∧ ∀ k1 k2 id, id ∈ akeys (s.tbl k1) → id ∈ akeys (s.tbl k2) → k1 = k2
def KeysInv (s : Sess) : Prop := s.issued ≤ idMax → KeysBounded s ∧ KeysDistinct s

def Fut.ok (x : Fut) : Prop := x.count = if x.cell.isSome then 1 else 0
/-- every future has been completed at most once: `count = 1` iff its cell is written, else `0` -/
def CountInv (s : Sess) : Prop := ∀ x ∈ s.futs, x.ok

def objsOf (subs : List (SubId × List SubRec)) : List Nat := subs.flatMap (fun e => e.2.map (·.obj))
def futsOf (t : Table) : List Nat := t.map (·.2.fut)
/-- how often future `x` occurs as an attached `Subscription` or in an outstanding subscribe request -/
def occ (x : Nat) (s : Sess) : Nat := (objsOf s.subs).count x + (futsOf (s.tbl .subscribe)).count x
/-- `Subscription` objects are attached at most once, are not also waiting in a subscribe request, and exist -/
def SubInv (s : Sess) : Prop := (∀ x : Nat, occ x s ≤ 1) ∧ ∀ x : Nat, 0 < occ x s → x < s.futs.length

def FutBound (s : Sess) : Prop := ∀ k, ∀ e ∈ s.tbl k, (e.2.fut : Nat) < s.futs.length

def isInvoke : SOut → Bool
  | .invoke _ _ _ _ => true
  | _ => false

def cleanB : SOut → Bool
  | .raise_ .alreadyCalled | .caught .alreadyCalled | .raise_ .internal | .caught .internal => false
  | _ => true

/-- what waits in the callback queue is harmless: no double completion, no handler invocation -/
def CbqOk (s : Sess) : Prop := ∀ o ∈ s.cbq, cleanB o = true ∧ isInvoke o = false

/-- the part of the state invariant that does not concern the id generator -/
structure Inv' (s : Sess) : Prop where
  keys : KeysInv s
  count : CountInv s
  subs : SubInv s
  futb : FutBound s
  cbq : CbqOk s

def Inv (s : Sess) : Prop := IdInv s ∧ Inv' s

/-- no output that would mean the model (or the code) completed a future twice or lost one -/
def Clean (o : List SOut) : Prop :=
  ∀ x ∈ o, x ≠ .raise_ .alreadyCalled ∧ x ≠ .caught .alreadyCalled ∧ x ≠ .raise_ .internal ∧ x ≠ .caught .internal

def invokesObj (o : Nat) : SOut → Bool
  | .invoke obj _ _ _ => obj == o
  | _ => false

def NoInv (o : Nat) (outs : List SOut) : Prop := ∀ x ∈ outs, invokesObj o x = false

/-- a future that is attached nowhere and waits in no subscribe request stays so, and its handler is not invoked -/
def Stays (s : Sess) (o : List SOut) (s' : Sess) : Prop :=
  ∀ x, x < s.futs.length → occ x s = 0 → occ x s' = 0 ∧ NoInv x o

/-- the step relation that is walked through the whole model: the outputs carry the ids drawn, the invariant holds
afterwards, no output is a double completion or an impossible branch, futures are only added, and a detached
`Subscription` stays detached and is not invoked -/
structure InvRel (s : Sess) (o : List SOut) (s' : Sess) : Prop where
  ids : IdRel s o s'
  inv : Inv' s'
  clean : Clean o
  len : s.futs.length ≤ s'.futs.length
  stays : Stays s o s'

theorem InvRel.post {s s' : Sess} {o : List SOut} (r : InvRel s o s') : Inv s' := ⟨r.ids.1, r.inv⟩

theorem cleanB_false {x : SOut} (h : cleanB x = false) :
    x = .raise_ .alreadyCalled ∨ x = .caught .alreadyCalled ∨ x = .raise_ .internal ∨ x = .caught .internal := by
  unfold cleanB at h
  split at h <;> simp at h ⊢

theorem clean_iff {o : List SOut} : Clean o ↔ ∀ x ∈ o, cleanB x = true := by
  constructor
  · intro h x hx
    cases hc : cleanB x with
    | true => rfl
    | false =>
      obtain ⟨h1, h2, h3, h4⟩ := h x hx
      rcases cleanB_false hc with e | e | e | e <;> contradiction
  · intro h x hx
    have := h x hx
    refine ⟨?_, ?_, ?_, ?_⟩ <;> intro e <;> rw [e] at this <;> cases this

theorem Clean.of_all {o : List SOut} (h : o.all cleanB = true) : Clean o :=
  clean_iff.mpr (List.all_eq_true.mp h)

theorem Clean.nil : Clean [] := by simp [Clean]
theorem Clean.append {a b : List SOut} (ha : Clean a) (hb : Clean b) : Clean (a ++ b) := by
  intro x hx; rcases List.mem_append.mp hx with h | h
  · exact ha x h
  · exact hb x h

theorem Clean.map {a : List SOut} {g : SOut → SOut} (hg : ∀ x, cleanB x = true → cleanB (g x) = true) (ha : Clean a) :
    Clean (a.map g) := by
  refine clean_iff.mpr fun x hx => ?_
  obtain ⟨y, hy, rfl⟩ := List.mem_map.mp hx
  exact hg y (clean_iff.mp ha y hy)

theorem cleanB_toCaught (x : SOut) (h : cleanB x = true) : cleanB (toCaught x) = true := by
  cases x with
  | raise_ e => cases e <;> first | rfl | exact h
  | _ => exact h

theorem cleanB_toLost (x : SOut) (h : cleanB x = true) : cleanB (toLost x) = true := by
  cases x with
  | raise_ e => rfl
  | _ => exact h

theorem NoInv.nil (o : Nat) : NoInv o [] := by simp [NoInv]
theorem NoInv.append {o : Nat} {a b : List SOut} (ha : NoInv o a) (hb : NoInv o b) : NoInv o (a ++ b) := by
  intro x hx; rcases List.mem_append.mp hx with h | h
  · exact ha x h
  · exact hb x h

theorem isInvoke_of_invokesObj {o : Nat} {x : SOut} (h : invokesObj o x = true) : isInvoke x = true := by
  cases x <;> first | rfl | cases h

theorem NoInv.of_not_invoke {o : Nat} {a : List SOut} (h : ∀ x ∈ a, isInvoke x = false) : NoInv o a := by
  intro x hx
  cases hi : invokesObj o x with
  | false => rfl
  | true => exact absurd (isInvoke_of_invokesObj hi) (by rw [h x hx]; decide)

theorem NoInv.of_all {o : Nat} {a : List SOut} (h : a.all (fun x => !isInvoke x) = true) : NoInv o a :=
  NoInv.of_not_invoke fun x hx => by simpa using List.all_eq_true.mp h x hx

theorem NoInv.map {o : Nat} {a : List SOut} {g : SOut → SOut} (hg : ∀ x, invokesObj o (g x) = invokesObj o x)
    (ha : NoInv o a) : NoInv o (a.map g) := by
  intro x hx
  obtain ⟨y, hy, rfl⟩ := List.mem_map.mp hx
  rw [hg]; exact ha y hy

theorem invokesObj_toCaught (o : Nat) (x : SOut) : invokesObj o (toCaught x) = invokesObj o x := by cases x <;> rfl
theorem invokesObj_toLost (o : Nat) (x : SOut) : invokesObj o (toLost x) = invokesObj o x := by cases x <;> rfl

/-- an output that carries no request id, is no double completion and no handler invocation: what every step but a
request API and a handler call emits, and what may wait in the callback queue -/
def okInv (o : SOut) : Bool := (reqIdOf o).isNone && cleanB o && !isInvoke o

theorem okInv_iff {o : SOut} : okInv o = true ↔ reqIdOf o = none ∧ cleanB o = true ∧ isInvoke o = false := by
  simp [okInv, and_assoc]

def Tame (o : List SOut) : Prop := ∀ y ∈ o, okInv y = true

theorem CbqOk.of_eq {s s' : Sess} (h : CbqOk s) (e : s'.cbq = s.cbq) : CbqOk s' := fun o ho => h o (e ▸ ho)

theorem Tame.of_all {o : List SOut} (h : o.all okInv = true) : Tame o := List.all_eq_true.mp h

theorem Tame.nil : Tame [] := fun _ h => nomatch h
theorem Tame.append {a b : List SOut} (ha : Tame a) (hb : Tame b) : Tame (a ++ b) :=
  fun y hy => (List.mem_append.mp hy).elim (ha y) (hb y)
theorem Tame.noIds {o : List SOut} (h : Tame o) : reqIds o = [] :=
  List.filterMap_eq_nil_iff.mpr fun y hy => (okInv_iff.mp (h y hy)).1
theorem Tame.clean {o : List SOut} (h : Tame o) : Clean o := clean_iff.mpr fun y hy => (okInv_iff.mp (h y hy)).2.1
theorem Tame.noInv {o : List SOut} (h : Tame o) (x : Nat) : NoInv x o :=
  NoInv.of_not_invoke fun y hy => (okInv_iff.mp (h y hy)).2.2

theorem Inv.cbq {s : Sess} (h : Inv s) : Tame s.cbq := fun o ho => okInv_iff.mpr ⟨h.1.2 o ho, h.2.cbq o ho⟩

theorem Tame.cbqOk {s : Sess} (h : Tame s.cbq) : CbqOk s := fun o ho => (okInv_iff.mp (h o ho)).2

theorem Stays.refl (s : Sess) : Stays s [] s := fun x _ h => ⟨h, NoInv.nil x⟩

theorem Stays.trans {s1 s2 s3 : Sess} {o1 o2 : List SOut} (hl : s1.futs.length ≤ s2.futs.length) (h1 : Stays s1 o1 s2)
    (h2 : Stays s2 o2 s3) : Stays s1 (o1 ++ o2) s3 := fun x hx h0 =>
  have a := h1 x hx h0
  have b := h2 x (Nat.lt_of_lt_of_le hx hl) a.1
  ⟨b.1, a.2.append b.2⟩

theorem Stays.of_le {s s' : Sess} {o : List SOut} (ho : ∀ x, x < s.futs.length → occ x s' ≤ occ x s) (hn : ∀ x, NoInv x o) :
    Stays s o s' := fun x hx h0 => ⟨Nat.le_zero.mp (h0 ▸ ho x hx), hn x⟩

theorem Stays.map {s s' : Sess} {o : List SOut} {g : SOut → SOut} (hg : ∀ x y, invokesObj x (g y) = invokesObj x y)
    (h : Stays s o s') : Stays s (o.map g) s' := fun x hx h0 => ⟨(h x hx h0).1, (h x hx h0).2.map (hg x)⟩

theorem InvRel.refl {s : Sess} (h : Inv s) : InvRel s [] s := ⟨IdRel.refl h.1, h.2, Clean.nil, Nat.le_refl _, Stays.refl s⟩
theorem InvRel.trans {s1 s2 s3 : Sess} {o1 o2 : List SOut} (h1 : InvRel s1 o1 s2) (h2 : InvRel s2 o2 s3) :
    InvRel s1 (o1 ++ o2) s3 :=
  ⟨h1.ids.trans h2.ids, h2.inv, h1.clean.append h2.clean, Nat.le_trans h1.len h2.len, h1.stays.trans h1.len h2.stays⟩

theorem KeysInv.same {s s' : Sess} (h : KeysInv s) (hi : s'.issued = s.issued)
    (ht : ∀ k, (akeys (s'.tbl k)).Sublist (akeys (s.tbl k))) : KeysInv s' := by
  intro hle
  obtain ⟨hb, hd1, hd2⟩ := h (hi ▸ hle)
  refine ⟨fun k id hid => hi ▸ hb k id ((ht k).subset hid), fun k => (hd1 k).sublist (ht k), ?_⟩
  intro k1 k2 id h1 h2
  exact hd2 k1 k2 id ((ht k1).subset h1) ((ht k2).subset h2)

theorem idOf_lt {n : Nat} (h : n < idMax) : idOf n = n + 1 := by
  unfold idOf; rw [Nat.mod_eq_of_lt h]

theorem KeysInv.draw {s s' : Sess} (h : KeysInv s) (hi : s'.issued = s.issued + 1) (k0 : Kind)
    (ht0 : (akeys (s'.tbl k0)).Sublist (akeys (s.tbl k0) ++ [idOf s.issued]))
    (ht : ∀ k, k ≠ k0 → (akeys (s'.tbl k)).Sublist (akeys (s.tbl k))) : KeysInv s' := by
  intro hle
  have hlt : s.issued < idMax := by omega
  obtain ⟨hb, hd1, hd2⟩ := h (by omega)
  rw [idOf_lt hlt] at ht0
  have hnew : ∀ k, s.issued + 1 ∉ akeys (s.tbl k) := fun k hm => by have := (hb k _ hm).2; omega
  refine ⟨?_, ?_, ?_⟩
  · intro k id hid
    by_cases hk : k = k0
    · subst hk
      rcases List.mem_append.mp (ht0.subset hid) with h1 | h1
      · have := hb k id h1; omega
      · simp at h1; omega
    · have := hb k id ((ht k hk).subset hid); omega
  · intro k
    by_cases hk : k = k0
    · subst hk
      refine List.Nodup.sublist ht0 ?_
      rw [List.nodup_append]
      refine ⟨hd1 k, by simp, ?_⟩
      intro a ha b hb'; simp at hb'; subst hb'; intro e; subst e; exact hnew k ha
    · exact (hd1 k).sublist (ht k hk)
  · intro k1 k2 id h1 h2
    have old : ∀ k, id ∈ akeys (s'.tbl k) → id ∈ akeys (s.tbl k) ∨ (k = k0 ∧ id = s.issued + 1) := by
      intro k hk
      by_cases e : k = k0
      · subst e
        rcases List.mem_append.mp (ht0.subset hk) with h | h
        · exact Or.inl h
        · simp at h; exact Or.inr ⟨rfl, h⟩
      · exact Or.inl ((ht k e).subset hk)
    rcases old k1 h1 with a | ⟨a1, a2⟩ <;> rcases old k2 h2 with b | ⟨b1, b2⟩
    · exact hd2 k1 k2 id a b
    · subst b2; exact absurd a (hnew k1)
    · subst a2; exact absurd b (hnew k2)
    · rw [a1, b1]

/-- `x` is a future of `s`, up to the fields `Fut.ok` does not read -/
def Fut.oldIn (x : Fut) (s : Sess) : Prop := ∃ y ∈ s.futs, x.cell = y.cell ∧ x.count = y.count

theorem Fut.oldIn_of_mem {x : Fut} {s : Sess} (h : x ∈ s.futs) : x.oldIn s := ⟨x, h, rfl, rfl⟩

theorem CountInv.of_forall {s s' : Sess} (h : CountInv s) (hf : ∀ x ∈ s'.futs, x.oldIn s ∨ x.ok) : CountInv s' := by
  intro x hx
  rcases hf x hx with ⟨y, hy, e1, e2⟩ | h1
  · have := h y hy
    simp only [Fut.ok] at this ⊢
    rw [e1, e2]; exact this
  · exact h1

theorem SubInv.of_le {s s' : Sess} (h : SubInv s) (hl : s.futs.length ≤ s'.futs.length) (ho : ∀ x : Nat, occ x s' ≤ occ x s) :
    SubInv s' :=
  ⟨fun x => Nat.le_trans (ho x) (h.1 x), fun x hx => Nat.lt_of_lt_of_le (h.2 x (Nat.lt_of_lt_of_le hx (ho x))) hl⟩

theorem SubInv.of_new {s s' : Sess} (h : SubInv s) (hl : s'.futs.length = s.futs.length + 1)
    (ho : ∀ x : Nat, occ x s' ≤ occ x s + (if x = s.futs.length then 1 else 0)) : SubInv s' := by
  have h0 : occ s.futs.length s = 0 := by
    apply Classical.byContradiction
    intro hne
    have := h.2 _ (Nat.pos_of_ne_zero hne)
    omega
  constructor
  · intro x
    have := ho x
    split at this
    · next e => subst e; omega
    · have := h.1 x; omega
  · intro x hx
    have := ho x
    split at this
    · next e => subst e; omega
    · have := h.2 x (by omega); omega

theorem FutBound.of {s s' : Sess} (h : FutBound s) (hl : s.futs.length ≤ s'.futs.length)
    (ht : ∀ k, ∀ e ∈ s'.tbl k, e ∈ s.tbl k ∨ (e.2.fut : Nat) < s'.futs.length) : FutBound s' := by
  intro k e he
  rcases ht k e he with h1 | h1
  · exact Nat.lt_of_lt_of_le (h k e h1) hl
  · exact h1

theorem count_single (x b : Nat) : List.count x [b] = if x = b then 1 else 0 := by
  rw [List.count_singleton]
  by_cases h : x = b
  · subst h; simp
  · have : (b == x) = false := by simpa using fun e => h e.symm
    simp [this, h]

theorem count_cons' (x b : Nat) (l : List Nat) : List.count x (b :: l) = List.count x l + if x = b then 1 else 0 := by
  rw [show b :: l = [b] ++ l from rfl, List.count_append, count_single]; omega

theorem count_futsOf_adel (x : Nat) (id : ReqId) (t : Table) : (futsOf (adel id t)).count x ≤ (futsOf t).count x :=
  ((adel_sublist id t).map _).count_le x

theorem count_futsOf_aset (x : Nat) (id : ReqId) (r : Req) (t : Table) :
    (futsOf (aset id r t)).count x ≤ (futsOf t).count x + (if x = r.fut then 1 else 0) := by
  simp only [futsOf, aset, List.map_append, List.count_append, List.map_cons, List.map_nil, count_single]
  have := count_futsOf_adel x id t
  simp only [futsOf] at this
  omega

/-- popping the record found under `id` frees its future -/
theorem count_futsOf_pop (x : Nat) {id : ReqId} {r : Req} {t : Table} (h : alookup id t = some r) :
    (futsOf (adel id t)).count x + (if x = r.fut then 1 else 0) ≤ (futsOf t).count x := by
  induction t with
  | nil => simp at h
  | cons e t ih =>
    obtain ⟨k, v⟩ := e
    simp only [alookup_cons] at h
    by_cases hk : k = id
    · subst hk
      simp at h; subst h
      simp only [adel, if_true, futsOf, List.map_cons, count_cons']
      have := count_futsOf_adel x k t
      simp only [futsOf] at this
      omega
    · simp only [hk, if_false] at h
      have := ih h
      simp only [adel, hk, if_false, futsOf, List.map_cons, count_cons'] at this ⊢
      omega

theorem count_objsOf_append_new (x : Nat) (subs : List (SubId × List SubRec)) (sub : SubId) (r : SubRec) :
    (objsOf (subs ++ [(sub, [r])])).count x = (objsOf subs).count x + (if x = r.obj then 1 else 0) := by
  simp only [objsOf, List.flatMap_append, List.count_append, List.flatMap_cons, List.flatMap_nil, List.map_cons,
    List.map_nil, List.append_nil, count_single]

theorem count_objsOf_aupd_gen (x : Nat) {subs : List (SubId × List SubRec)} {sid : SubId} {l : List SubRec} (l' : List SubRec)
    (h : alookup sid subs = some l) :
    (objsOf (aupd sid l' subs)).count x + (l.map (·.obj)).count x = (objsOf subs).count x + (l'.map (·.obj)).count x := by
  induction subs with
  | nil => simp at h
  | cons e t ih =>
    obtain ⟨k, v⟩ := e
    simp only [alookup_cons] at h
    by_cases hk : k = sid
    · subst hk
      simp at h; subst h
      simp only [aupd, if_true, objsOf, List.flatMap_cons, List.count_append]
      omega
    · simp only [hk, if_false] at h
      have := ih h
      simp only [aupd, hk, if_false, objsOf, List.flatMap_cons, List.count_append] at this ⊢
      omega

theorem count_objsOf_aupd_append (x : Nat) {subs : List (SubId × List SubRec)} {sub : SubId} {l : List SubRec}
    (r : SubRec) (h : alookup sub subs = some l) :
    (objsOf (aupd sub (l ++ [r]) subs)).count x = (objsOf subs).count x + (if x = r.obj then 1 else 0) := by
  have := count_objsOf_aupd_gen x (l ++ [r]) h
  simp only [List.map_append, List.count_append, List.map_cons, List.map_nil, count_single] at this
  omega

theorem count_objsOf_aupd_le (x : Nat) (subs : List (SubId × List SubRec)) (sid : SubId) {l' : List SubRec}
    (hs : l'.Sublist ((alookup sid subs).getD [])) :
    (objsOf (aupd sid l' subs)).count x ≤ (objsOf subs).count x := by
  cases h : alookup sid subs with
  | none => rw [aupd_of_none _ h]; exact Nat.le_refl _
  | some l =>
    rw [h, Option.getD_some] at hs
    have := count_objsOf_aupd_gen x l' h
    have := (hs.map (·.obj)).count_le x
    omega

/-- attaching a handler under `sub` (a new id, or one more handler of a held id) -/
theorem count_objsOf_attach (x : Nat) (subs : List (SubId × List SubRec)) (sub : SubId) (r : SubRec) :
    (objsOf (match alookup sub subs with
             | none => subs ++ [(sub, [r])]
             | some l => aupd sub (l ++ [r]) subs)).count x = (objsOf subs).count x + (if x = r.obj then 1 else 0) := by
  cases hl : alookup sub subs with
  | none => exact count_objsOf_append_new x subs sub r
  | some l => exact count_objsOf_aupd_append x r hl

theorem removeObj_sublist (o : FutId) (l : List SubRec) : (removeObj o l).Sublist l := by
  induction l with
  | nil => exact List.Sublist.slnil
  | cons r l ih =>
    simp only [removeObj]
    split
    · exact List.sublist_cons_self _ _
    · exact List.Sublist.cons_cons _ ih

theorem count_objsOf_adel (x : Nat) (subs : List (SubId × List SubRec)) (sub : SubId) :
    (objsOf (adel sub subs)).count x ≤ (objsOf subs).count x := by
  induction subs with
  | nil => simp [adel]
  | cons e t ih =>
    obtain ⟨k, v⟩ := e
    simp only [adel]
    split
    · simp only [objsOf, List.flatMap_cons, List.count_append] at ih ⊢; omega
    · simp only [objsOf, List.flatMap_cons, List.count_append] at ih ⊢; omega

end Abverif.Session

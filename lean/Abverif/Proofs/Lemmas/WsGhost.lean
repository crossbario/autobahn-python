import Abverif.Proofs.Lemmas.WsExt
import Abverif.Proofs.C01
/-
The two history variables of the close theorems agree: `closeSent` (what `one_close_frame`, `clean_close_needs_both`
speak about) has exactly one entry per close frame recorded in `sentOps` (what `no_data_frame_after_close` speaks about,
compared with the real wire in every C05 run).  `G s : s.closeSent.length = s.sentOps.count 8`; `GP a b := G a → G b`
holds across every engine function (`GP.walk`).
-/
namespace Abverif.Ws

def G (s : S) : Prop := s.closeSent.length = s.sentOps.count 8

def GP (a b : S) : Prop := G a → G b

theorem GP.refl (a : S) : GP a a := id
theorem GP.trans {a b c : S} (h1 : GP a b) (h2 : GP b c) : GP a c := fun h => h2 (h1 h)

theorem GP.of_eq {a b : S} (h2 : b.sentOps = a.sentOps) (h3 : b.closeSent = a.closeSent) : GP a b := by
  intro g; unfold G at *; rw [h2, h3]; exact g

theorem timer_GP (s : S) (d : Nat) : GP s (s.timer d).1 := GP.of_eq rfl rfl
theorem armCloseHs_GP (s : S) : GP s (armCloseHs s) := GP.of_eq rfl rfl

/-- frames other than close frames leave the count alone -/
theorem GP.of_Sends {a b : S} {d : List Nat} (h : Sends a b d) (hd : ∀ x ∈ d, (x = 9 ∨ x = 10) ∧ a.st = .opened) :
    GP a b := by
  intro g
  unfold G at *
  have : d.count 8 = 0 := List.count_eq_zero.mpr fun h8 => by have := (hd 8 h8).1; omega
  rw [h.eq.closeSent, h.ops, List.count_append, g, this, Nat.add_zero]

/-- a close frame whose reason is at most 123 octets long is always encodable: it is recorded in both variables -/
theorem sendCloseFrame_GP (s : S) (c : Option Nat) (r : Option Bytes) (i : Bool)
    (hr : ∀ x, r = some x → x.length ≤ 123) : GP s (sendCloseFrame s c r i) := by
  refine sendCloseFrame_of (R := GP) GP.trans armCloseHs_GP s c r i (GP.refl s) (GP.of_eq rfl rfl) fun t h _ g => ?_
  have hlen : (closePayload c r).length < 2 ^ 63 := by
    have h2 : (r.getD []).length ≤ 123 := by
      cases r with
      | none => simp
      | some x => simpa using hr x rfl
    unfold closePayload
    cases c with
    | none => simp only [List.nil_append]; omega
    | some cc => simp only [List.length_append, beBytes_length]; omega
  have hso : t.sentOps = s.sentOps ++ [8] := by
    obtain ⟨raw, hraw⟩ := encodeFrame_some true 0 8 (drawKey s).2 s.cfg.applyMask (closePayload c r) hlen
    have ho := h.ops
    rw [hraw] at ho
    exact ho
  show (s.closeSent ++ [(c, r)]).length = List.count 8 t.sentOps
  rw [hso, List.length_append, List.count_append, g]
  simp

theorem replyClose_GP (s : S) : GP s (replyClose s) :=
  replyClose_of s (sendCloseFrame_GP _ _ _ _ (truncated_le _)) (sendCloseFrame_GP _ _ _ _ fun x hx => by cases hx)

theorem GP.base : Walk.Base GP where
  refl := GP.refl
  trans := GP.trans
  parse h := h ▸ GP.of_eq rfl rfl
  emit _ _ _ := GP.of_eq rfl rfl
  armServerDrop _ := GP.of_eq rfl rfl
  armPingNext _ := GP.of_eq rfl rfl
  armPingTimeout _ := GP.of_eq rfl rfl
  sends := GP.of_Sends
  dropped _ _ _ _ := GP.of_eq rfl rfl
  failClose _ _ _ := sendCloseFrame_GP _ _ _ _ (by intro x hx; cases hx)
  unclean _ _ := GP.of_eq rfl rfl
  peerReason _ _ _ := GP.of_eq rfl rfl
  tick _ _ := GP.of_eq rfl rfl

theorem connectionLost_GP (s : S) : GP s (connectionLost s) :=
  connectionLost_of GP.refl s fun _ _ => GP.of_eq rfl rfl

theorem GP.walk : Walk GP :=
  Walk.ofSteps GP.base (mark := fun _ _ _ => GP.of_eq rfl rfl) (replyClose := replyClose_GP)
    (ping := fun _ _ _ _ _ => GP.of_eq rfl rfl) (opened := fun _ _ => GP.of_eq rfl rfl)
    (forget := fun _ _ _ _ _ => GP.of_eq rfl rfl) (buffer := fun _ _ => GP.of_eq rfl rfl)

/-- the reason `sendClose` sends is at most 123 octets long, so its frame is always encodable -/
theorem sendClose_GP (s : S) (c : Option Nat) (r : Option Bytes) : GP s (sendClose s c r) :=
  GP.base.sendClose_of s c r (sendCloseFrame_GP _ _ _ _ (truncated_le r))

end Abverif.Ws

import Abverif.Model.Utf8Spec
/-
C09 helper lemmas: the `validate` loop and two calls against one. Generic in the step function and in the
accepting and the reject state; where the reject state has to be absorbing, that is a hypothesis.
-/
namespace Abverif.Utf8

/-- entered in the (absorbing) reject state: an empty chunk falls through, any byte is rejected at index 0 -/
theorem loop_rejected (step : Nat → Nat → Nat) (rej i : Nat) (habs : ∀ o, step rej o = rej) (b : Bytes) :
    loop step rej rej i b = (rej, i, !b.isEmpty) := by
  cases b with
  | nil => rfl
  | cons a r => simp [loop, habs]

section
variable (step : Nat → Nat → Nat) (rej : Nat)

theorem loop_inv (P : Nat → Prop) (hP : ∀ s o, P s → P (step s o)) (s i : Nat) (b : Bytes) (hs : P s) :
    P (loop step rej s i b).1 := by
  induction b generalizing s i with
  | nil => exact hs
  | cons a r ih =>
    rw [loop]
    split
    · exact hP s _ hs
    · exact ih _ _ (hP s _ hs)

theorem loop_append (s i : Nat) (a b : Bytes) :
    loop step rej s i (a ++ b) =
      if (loop step rej s i a).2.2 then loop step rej s i a
      else loop step rej (loop step rej s i a).1 (i + a.length) b := by
  induction a generalizing s i with
  | nil => rfl
  | cons x xs ih =>
    simp only [List.cons_append, loop]
    split
    · rfl
    · rw [ih, List.length_cons, Nat.add_right_comm, Nat.add_assoc]

theorem loop_index (s i : Nat) (b : Bytes) :
    loop step rej s i b = ((loop step rej s 0 b).1, i + (loop step rej s 0 b).2.1, (loop step rej s 0 b).2.2) := by
  induction b generalizing s i with
  | nil => rfl
  | cons x xs ih =>
    simp only [loop]
    split
    · rfl
    · rw [ih _ (i + 1), ih _ (0 + 1)]; simp only [Nat.add_assoc, Nat.zero_add]

theorem loop_length (s i : Nat) (b : Bytes) (h : (loop step rej s i b).2.2 = false) :
    (loop step rej s i b).2.1 = i + b.length := by
  induction b generalizing s i with
  | nil => rfl
  | cons x xs ih =>
    simp only [loop] at h ⊢
    split at h
    · cases h
    · rename_i hx; rw [if_neg hx, ih _ _ h, List.length_cons, Nat.add_right_comm, Nat.add_assoc]

theorem loop_exit (s i : Nat) (b : Bytes) (h : (loop step rej s i b).2.2 = true) :
    (loop step rej s i b).1 = rej := by
  induction b generalizing s i with
  | nil => cases h
  | cons x xs ih =>
    simp only [loop] at h ⊢
    split
    · assumption
    · rename_i hx; rw [if_neg hx] at h; exact ih _ _ h

end

section
variable (step : Nat → Nat → Nat) (acc rej : Nat)

theorem validate_rejected (habs : ∀ o, step rej o = rej) (st : St) (hs : st.state = rej) (b : Bytes) :
    validateWith step acc rej st b =
      if b.isEmpty then (⟨true, rej == acc, 0, st.index⟩, st) else (⟨false, false, 0, st.index⟩, st) := by
  cases st with
  | mk s idx =>
    subst hs
    rw [validateWith, loop_rejected step _ 0 habs b]
    cases b <;> rfl

/-- one formula for both exits -/
theorem validate_eq (st : St) (b : Bytes) :
    validateWith step acc rej st b =
      (⟨!(loop step rej st.state 0 b).2.2, !(loop step rej st.state 0 b).2.2 && (loop step rej st.state 0 b).1 == acc,
        (loop step rej st.state 0 b).2.1, st.index + (loop step rej st.state 0 b).2.1⟩,
       ⟨(loop step rej st.state 0 b).1, st.index + (loop step rej st.state 0 b).2.1⟩) := by
  unfold validateWith
  split <;> rename_i h
  · simp [h]
  · have hl := loop_length step rej st.state 0 b (by rw [h])
    rw [h, Nat.zero_add] at hl
    simp [h, ← show _ = b.length from hl]

theorem validate_invalid (st : St) (b : Bytes) (h : (validateWith step acc rej st b).1.valid = false) :
    (validateWith step acc rej st b).2.state = rej := by
  rw [validate_eq] at h ⊢
  exact loop_exit step rej _ _ _ (by simpa using h)

/-- the reported total index is the carried one, and `endsOnCodePoint` says whether the carried state accepts -/
theorem validate_carried (hne : rej ≠ acc) (st : St) (b : Bytes) :
    (validateWith step acc rej st b).1.total = (validateWith step acc rej st b).2.index ∧
    (validateWith step acc rej st b).1.ends = ((validateWith step acc rej st b).2.state == acc) := by
  rw [validate_eq]
  refine ⟨rfl, ?_⟩
  cases hf : (loop step rej st.state 0 b).2.2
  · simp
  · simp [loop_exit step rej _ _ _ hf, hne]

/-- two calls against one call on the concatenation: once a call has rejected, that is the answer; until then the
second call answers for the whole, its chunk-relative index shifted by the length of the first chunk -/
theorem validate_append (st : St) (a b : Bytes) :
    validateWith step acc rej st (a ++ b) =
      if (validateWith step acc rej st a).1.valid then
        ({ (validateWith step acc rej (validateWith step acc rej st a).2 b).1 with
            cur := a.length + (validateWith step acc rej (validateWith step acc rej st a).2 b).1.cur },
         (validateWith step acc rej (validateWith step acc rej st a).2 b).2)
      else validateWith step acc rej st a := by
  simp only [validate_eq, loop_append step rej st.state 0 a b]
  cases hf : (loop step rej st.state 0 a).2.2
  · rw [loop_index step rej _ (0 + a.length) b, loop_length step rej st.state 0 a hf]
    simp [Nat.add_assoc]
  · simp [hf]

/-- hence, the reject state being absorbing: the carried state is that of one call, the verdicts multiply -/
theorem validate_append_state (habs : ∀ o, step rej o = rej) (st : St) (a b : Bytes) :
    (validateWith step acc rej (validateWith step acc rej st a).2 b).2 = (validateWith step acc rej st (a ++ b)).2 ∧
    (validateWith step acc rej st (a ++ b)).1.valid =
      ((validateWith step acc rej st a).1.valid && (validateWith step acc rej (validateWith step acc rej st a).2 b).1.valid) := by
  rw [validate_append]
  cases hv : (validateWith step acc rej st a).1.valid
  · rw [validate_rejected step acc rej habs _ (validate_invalid step acc rej st a hv) b]
    split <;> simp [hv]
  · simp

end

end Abverif.Utf8

import Abverif.Proofs.Lemmas.SessCallee
/-
Helper lemmas for C06: the transport reference is written by `onOpen` / `onClose` only (`SameT` through every other
function of the model), and what the default clean-up body (`_errback_outstanding_requests`) does to tables and futures.
-/
namespace Abverif.Session
open Abverif.SessCodes

/-- `transport` and `mode` unchanged. Only its reflexivity is stated; the walks go by `SameT`. -/
def Stable (s : Sess) (_ : List SOut) (s' : Sess) : Prop := s'.transport = s.transport ∧ s'.mode = s.mode

theorem stable_refl (s : Sess) (o : List SOut) : Stable s o s := ⟨rfl, rfl⟩

/-- `transport` unchanged: kept by every function of the model but `onOpen` / `onClose` -/
def SameT (s : Sess) (_ : List SOut) (s' : Sess) : Prop := s'.transport = s.transport

theorem sameT_liftQ : LiftQ SameT (fun _ => True) :=
  keepLiftQ (·.transport) (fun s a ha => (lifeApi_frame s a ha).transport)

theorem sameT_liftT : LiftT SameT (fun _ => True) (fun _ => true) where
  toLift := sameT_liftQ.toLift
  okOf := fun _ _ => rfl
  lc := fun _ _ _ ht => ht
  out := fun _ _ => rfl
  emit := fun {s o} _ _ => congrArg Life.transport (emitCb_life s o)
  enq := fun _ _ => rfl
  lostMap := fun r => r
  cbqOk := fun _ _ _ => rfl
  clearQ := fun _ => rfl
  rejectAll := fun _ _ => sameT_liftQ.quiet trivial (Quiet.congr_left (rejectList_quiet _ _ _) rfl rfl)

theorem sameT_callee : CalleeLift SameT (fun _ => True) where
  refl := fun _ => rfl
  trans := fun h1 h2 => h2.trans h1
  post := fun _ _ => trivial
  note := fun _ _ => rfl
  progSend := fun {s} r v _ => by rw [progressSend, replySend_eq]; rfl
  invDone := fun {s} r o _ =>
    invDone_lift (R := SameT) (P := fun _ => True) (fun _ => rfl) (fun h1 h2 => h2.trans h1) (fun _ _ => trivial) (fun _ _ => rfl)
      (fun {s} m _ _ => by rw [replySend_eq]; rfl) (fun _ _ => rfl) trivial r o
  enq := fun _ _ _ => rfl
  fired := fun _ _ => rfl
  progs := fun _ _ => rfl
  accept := fun _ _ _ _ _ _ r _ => r

/-- whether the session holds a transport after the event -/
def SEv.upAfter (up : Bool) : SEv → Bool
  | .open_ _ => true
  | .closed _ => false
  | _ => up

theorem step_transport (s : Sess) (e : SEv) : (step s e).1.transport = e.upAfter s.transport := by
  cases e with
  | open_ acts => exact sameT_liftT.defer sameT_callee.invDone (s := { s with transport := true, ended := false }) trivial _
  | closed acts =>
    simp only [step, onClose, SEv.upAfter]
    split
    · have h1 := sameT_liftT.leaveHook (s := { s with transport := false }) trivial 1 (acts.headD {})
      exact (sameT_liftT.disconnectHook
        (s := { (leaveHook { s with transport := false } 1 (acts.headD {})).1 with sessionId := none }) trivial _).trans h1
    · exact sameT_liftT.disconnectHook (s := { s with transport := false }) trivial _
  | fault l => rfl
  | _ => exact step_lift sameT_liftT sameT_liftQ sameT_callee trivial _ rfl

theorem runState_transport_down {s : Sess} (h : List SEv) (ht : s.transport = false) (hn : ∀ e ∈ h, ∀ a, e ≠ .open_ a) :
    (runState s h).transport = false := by
  induction h generalizing s with
  | nil => exact ht
  | cons e es ih =>
    refine ih ?_ (fun e' he' => hn e' (List.mem_cons_of_mem _ he'))
    rw [step_transport]
    cases e with
    | open_ a => exact absurd rfl (hn _ List.mem_cons_self a)
    | closed a => rfl
    | _ => exact ht

theorem clearTables_tbl (s : Sess) (k : Kind) : s.clearTables.tbl k = [] := by cases k <;> rfl

theorem rejectList_tbl (s : Sess) (o : Outcome) (fs : List FutId) (k : Kind) : (rejectList s o fs).1.tbl k = s.tbl k := by
  induction fs generalizing s with
  | nil => rfl
  | cons f fs ih =>
    rw [rejectList_cons]; split
    · exact ih s
    · simp only []; rw [ih, settle_tbl]

theorem errback_outstanding_empties (s : Sess) (o : Outcome) (k : Kind) :
    (rejectList s.clearTables o s.outstanding).1.tbl k = [] := by
  rw [rejectList_tbl, clearTables_tbl]

theorem settle_called_self {s : Sess} {f : Nat} (hf : f < s.futs.length) (o : Outcome) : (settle s f o).1.called f = true := by
  obtain ⟨y, Q, hy, e, _⟩ := settle_eq s f o
  simp [called_eq, e, hf, hy]

theorem settle_called_mono {s : Sess} (f g : Nat) (o : Outcome) (h : s.called g = true) : (settle s f o).1.called g = true := by
  obtain ⟨y, Q, hy, e, _⟩ := settle_eq s f o
  by_cases hg : f = g
  · subst hg
    -- a future that counts as called exists
    have hf : f < s.futs.length := by
      rw [called_eq] at h
      exact Nat.lt_of_not_le fun hl => by simp [List.getElem?_eq_none hl] at h
    simp [called_eq, e, hf, hy]
  · rwa [called_eq, e, List.getElem?_set_ne hg, ← called_eq]

theorem rejectList_called (s : Sess) (o : Outcome) (fs : List FutId) :
    (∀ g, s.called g = true → (rejectList s o fs).1.called g = true) ∧
    (∀ f ∈ fs, (f : Nat) < s.futs.length → (rejectList s o fs).1.called f = true) := by
  induction fs generalizing s with
  | nil => exact ⟨fun g h => h, fun f hf => by simp at hf⟩
  | cons f fs ih =>
    rw [rejectList_cons]
    split
    · next hc =>
      obtain ⟨i1, i2⟩ := ih s
      refine ⟨i1, fun g hg hl => ?_⟩
      rcases List.mem_cons.mp hg with e | e
      · subst e; exact i1 _ hc
      · exact i2 g e hl
    · obtain ⟨i1, i2⟩ := ih (settle s f o).1
      simp only []
      refine ⟨fun g h => i1 g (settle_called_mono f g o h), fun g hg hl => ?_⟩
      rcases List.mem_cons.mp hg with e | e
      · subst e; exact i1 _ (settle_called_self hl o)
      · exact i2 g e (by rw [settle_futs_length]; exact hl)

end Abverif.Session

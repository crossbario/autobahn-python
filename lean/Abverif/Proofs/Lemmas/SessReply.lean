import Abverif.Proofs.Lemmas.SessCallee
/-
Accounting of terminal replies (C10): through every step of the model, for every request id,

    terminal replies sent for it  +  [it is in `_invocations` afterwards]
      ≤  endpoint calls made for it  +  [it was in `_invocations` before]

— a terminal reply is only ever sent by the `success` / `error` closure of an invocation (`invDone`), which first
removes the id from `_invocations`; the id only gets there through an accepted INVOCATION. While the transport is up and
every refusal in the `send()` plan is followed by an acceptance (`planUnits`: what a real transport produces — an
unserializable / oversize reply is refused, the fallback ERROR goes out) the two sides are equal: a record leaves
`_invocations` only together with a terminal reply. Both are one relation (`ARel`, the flag `up` adds the second half);
the three sides of the model come from the generic layers (`LiftQ`, `LiftT`, `CalleeLift`); what is proved here is the
exact number of terminal replies the closure sends (`invDone_counts`).
-/
namespace Abverif.Session
open Abverif.SessCodes

def isProg (m : OutMsg) : Bool := m.opts.any (fun e => e.1 == .progress)

/-- a terminal reply for invocation `req`: a non-progressive YIELD or an ERROR carrying that id -/
def terminalFor (req : ReqId) : SOut → Bool
  | .send m => ((m.typ == .yield_ && !isProg m) || m.typ == .error) && m.req == req
  | _ => false

/-- the endpoint was called for invocation `req` -/
def acceptFor (req : ReqId) : SOut → Bool
  | .endpoint r _ _ _ _ => r == req
  | _ => false

def terminals (req : ReqId) (o : List SOut) : Nat := o.countP (terminalFor req)
def accepts (req : ReqId) (o : List SOut) : Nat := o.countP (acceptFor req)

/-- 1 iff `req` is in `_invocations` -/
def owing (req : ReqId) (s : Sess) : Nat := if (alookup req s.invs).isSome then 1 else 0

def okRep (req : ReqId) (o : SOut) : Bool := !terminalFor req o && !acceptFor req o

theorem terminals_append (req : ReqId) (a b : List SOut) : terminals req (a ++ b) = terminals req a + terminals req b := by
  simp [terminals]
theorem accepts_append (req : ReqId) (a b : List SOut) : accepts req (a ++ b) = accepts req a + accepts req b := by
  simp [accepts]

theorem counts_of_ok {req : ReqId} {os : List SOut} (h : ∀ o ∈ os, okRep req o = true) : terminals req os = 0 ∧ accepts req os = 0 :=
  ⟨List.countP_eq_zero.mpr fun o ho ht => by simpa [okRep, ht] using h o ho,
    List.countP_eq_zero.mpr fun o ho ha => by simpa [okRep, ha] using h o ho⟩

theorem okRep_of_not_lifeOut {req : ReqId} {o : SOut} (h : lifeOut o = false) : okRep req o = true := by
  cases o <;> simp [okRep, terminalFor, acceptFor, lifeOut] at h ⊢
  next m => cases hm : m.typ <;> simp [hm, lcMsg] at h ⊢

theorem okRep_of_sessOut {req : ReqId} (o : SOut) (h : sessOut o = true) : okRep req o = true := by
  cases o <;> simp [okRep, terminalFor, acceptFor, sessOut] at h ⊢
  next m => cases hm : m.typ <;> simp [hm, sessMsg] at h ⊢

theorem okRep_of_note {req : ReqId} {o : SOut} (h : calleeNote o = true) : okRep req o = true := by
  cases o <;> simp [calleeNote] at h <;> rfl

theorem okRep_toCaught {req : ReqId} (o : SOut) : okRep req (toCaught o) = okRep req o := by cases o <;> rfl
theorem okRep_toLost {req : ReqId} (o : SOut) : okRep req (toLost o) = okRep req o := by cases o <;> rfl

theorem counts_cons_ok {req : ReqId} {x : SOut} (hx : okRep req x = true) (os : List SOut) :
    terminals req (x :: os) = terminals req os ∧ accepts req (x :: os) = accepts req os := by
  simp only [okRep, Bool.and_eq_true, Bool.not_eq_true'] at hx
  simp [terminals, accepts, hx.1, hx.2]

theorem counts_endpoint (req r : ReqId) (obj : FutId) (hh : HId) (a : Args) (k : List (Key × KwVal)) (os : List SOut) :
    terminals req (.endpoint r obj hh a k :: os) = terminals req os ∧
    accepts req (.endpoint r obj hh a k :: os) = accepts req os + if r = req then 1 else 0 := by
  by_cases e : r = req <;> simp [terminals, accepts, terminalFor, acceptFor, e]

theorem owing_faults (req : ReqId) (s : Sess) (f : List SendOut) : owing req { s with faults := f } = owing req s := rfl

theorem owing_adel_self (req : ReqId) (s : Sess) : owing req { s with invs := adel req s.invs } = 0 := by
  simp [owing]

theorem owing_adel_ne {req r : ReqId} (hne : req ≠ r) (s : Sess) : owing req { s with invs := adel r s.invs } = owing req s := by
  simp [owing, alookup_adel_ne hne]

theorem owing_aset_self (req : ReqId) (v : InvRec) (s : Sess) : owing req { s with invs := aset req v s.invs } = 1 := by
  simp [owing]

theorem owing_some {req : ReqId} {s : Sess} {x : InvRec} (h : alookup req s.invs = some x) : owing req s = 1 := by
  simp [owing, h]

theorem owing_of_invs {req : ReqId} {s s' : Sess} (h : s'.invs = s.invs) : owing req s' = owing req s := by
  simp [owing, h]

theorem owing_adel (req r : ReqId) (s : Sess) :
    owing req { s with invs := adel r s.invs } = if r = req then 0 else owing req s := by
  by_cases e : r = req
  · subst e; simp [owing]
  · simp [e, owing_adel_ne (fun e' => e e'.symm)]

theorem owing_aset {req r : ReqId} {s : Sess} (hfree : alookup r s.invs = none) (v : InvRec) :
    owing req { s with invs := aset r v s.invs } = owing req s + if r = req then 1 else 0 := by
  by_cases e : r = req
  · subst e; simp [owing, hfree]
  · simp [owing, alookup_aset_ne (fun e' => e e'.symm), e]

theorem owing_aupd (req r : ReqId) (v : InvRec) (s : Sess) : owing req { s with invs := aupd r v s.invs } = owing req s := by
  simp [owing, alookup_aupd_isSome]

/-- plans of `send()` outcomes the property covers: the reply goes out, or it is refused as unserializable / oversize and
the fallback ERROR goes out -/
def planCovered : List SendOut → Bool
  | [] | .ok :: _ => true
  | .serialization :: [] | .serialization :: .ok :: _ => true
  | .payloadExceeded :: [] | .payloadExceeded :: .ok :: _ => true
  | _ => false

theorem planCovered_eq (l : List SendOut) : planCovered l =
    (l.headD .ok == .ok || ((fallbackUri (l.headD .ok)).isSome && l.tail.headD .ok == .ok)) := by
  cases l with
  | nil => rfl
  | cons f l =>
    cases l with
    | nil => cases f <;> rfl
    | cons g r => cases f <;> cases g <;> rfl

/-- a `send()` plan in which every refusal (unserializable / oversize) is followed by an acceptance, and nothing else
is refused: closed under concatenation and under consumption from the front -/
def planUnits : List SendOut → Bool
  | [] => true
  | .ok :: r => planUnits r
  | .serialization :: .ok :: r => planUnits r
  | .payloadExceeded :: .ok :: r => planUnits r
  | _ => false

/-- what is left after one `send()` took the head of the plan -/
theorem planUnits_tail {l : List SendOut} (h : planUnits l = true) : planUnits l.tail = true := by
  cases l with
  | nil => exact h
  | cons f r =>
    cases f with
    | ok => exact h
    | serialization => cases r with
      | nil => cases h
      | cons x r' => cases x <;> first | exact h | cases h
    | payloadExceeded => cases r with
      | nil => cases h
      | cons x r' => cases x <;> first | exact h | cases h
    | transportLost => cases h
    | other => cases h

theorem planUnits_drop (n : Nat) {l : List SendOut} (h : planUnits l = true) : planUnits (l.drop n) = true := by
  induction n with
  | zero => exact h
  | succ n ih => rw [← List.tail_drop]; exact planUnits_tail ih

theorem planUnits_append (a b : List SendOut) (ha : planUnits a = true) (hb : planUnits b = true) : planUnits (a ++ b) = true := by
  induction a using planUnits.induct with
  | case1 => exact hb
  | case2 r ih => exact ih ha
  | case3 r ih => exact ih ha
  | case4 r ih => exact ih ha
  | case5 l h1 h2 h3 h4 => rw [planUnits.eq_5 l h1 h2 h3 h4] at ha; cases ha

theorem planCovered_of_units {l : List SendOut} (h : planUnits l = true) : planCovered l = true := by
  unfold planUnits at h
  split at h <;> simp_all [planCovered]

theorem isProg_progress (req : ReqId) (v : Val) :
    terminalFor req (.send { typ := .yield_, req := req, opts := [(.progress, .b true)], args := [v] }) = false := by
  simp [terminalFor, isProg]

theorem progressSend_ok (req : ReqId) (s : Sess) (r : ReqId) (v : Val) : ∀ o ∈ (progressSend s r v).2.1, okRep req o = true := by
  rw [progressSend, replySend_eq]
  intro o ho
  split at ho <;> rw [List.mem_singleton.mp ho] <;> simp [okRep, terminalFor, acceptFor, isProg]

/-- `try: send(reply) except …: send(ERROR)` for a terminal reply of invocation `r`: exactly one terminal reply for `r`
goes out if the plan is a covered one, none otherwise -/
theorem sendWithFallback_counts (req : ReqId) {r : ReqId} (s : Sess) {m : OutMsg} (hm : terminalFor r (.send m) = true) :
    (∃ n, (sendWithFallback s r m).1 = { s with faults := s.faults.drop n }) ∧
    accepts req (sendWithFallback s r m).2 = 0 ∧
    terminals req (sendWithFallback s r m).2 = if r = req ∧ planCovered s.faults = true then 1 else 0 := by
  have hreq : terminalFor req (.send m) = decide (r = req) := by
    simp only [terminalFor, Bool.and_eq_true, beq_iff_eq] at hm ⊢
    by_cases e : r = req <;> simp [hm.1, hm.2, e]
  have hfail : ∀ os : List SOut, (∀ x ∈ os, (∃ m' f, x = .sendFail m' f) ∨ ∃ e, x = .lost e) →
      accepts req os = 0 ∧ terminals req os = 0 := by
    intro os h
    refine (counts_of_ok (fun x hx => ?_)).symm
    rcases h x hx with ⟨_, _, rfl⟩ | ⟨_, rfl⟩ <;> rfl
  refine ⟨(sendWithFallback_cases s r m).1, ?_⟩
  rcases (sendWithFallback_cases s r m).2 with ⟨h1, _, ho⟩ | ⟨u, h1, h2, _, ho⟩ | ⟨h1, h2, ho⟩
  · have hd : planCovered s.faults = true := by rw [planCovered_eq, h1]; rfl
    simp [ho, terminals, accepts, acceptFor, hreq, hd]
  · have hd : planCovered s.faults = true := by rw [planCovered_eq, h1, h2]; exact Bool.or_true _
    simp [ho, terminals, accepts, acceptFor, terminalFor, hd]
  · have hd : planCovered s.faults = false := by
      rw [planCovered_eq, beq_eq_false_iff_ne.mpr h1, Bool.false_or]
      rcases h2 with h2 | h2
      · rw [h2]; rfl
      · rw [beq_eq_false_iff_ne.mpr h2, Bool.and_false]
    simpa [hd] using hfail _ ho

/-- the `success` / `error` closure of invocation `r` removes the record; with the transport up and a covered plan it
sends exactly one terminal reply for `r`, otherwise none — and none for any other id -/
theorem invDone_counts (req : ReqId) {s : Sess} {r : ReqId} {x : InvRec} (hx : alookup r s.invs = some x) (o : EOut) :
    (∃ n, (invDone s r o).1 = { s with invs := adel r s.invs, faults := s.faults.drop n }) ∧
    accepts req (invDone s r o).2 = 0 ∧
    terminals req (invDone s r o).2 = if r = req ∧ s.transport = true ∧ planCovered s.faults = true then 1 else 0 := by
  unfold invDone
  simp only [hx]
  cases o with
  | value a k =>
    simp only []
    split
    · next hdown =>
      have ht : s.transport = false := by simpa using hdown
      exact ⟨⟨0, rfl⟩, rfl, by simp [ht]; rfl⟩
    · next hup =>
      have ht : s.transport = true := by simpa using hup
      obtain ⟨c0, c1, c2⟩ := sendWithFallback_counts req (r := r) { s with invs := adel r s.invs }
        (m := { typ := .yield_, req := r, args := a, kwargs := k }) (by simp [terminalFor, isProg])
      exact ⟨c0, c1, by simpa [ht] using c2⟩
  | raised e =>
    simp only []
    split
    · next hdown =>
      have ht : s.transport = false := by simpa using hdown
      exact ⟨⟨0, rfl⟩, rfl, by simp [ht]; rfl⟩
    · next hup =>
      have ht : s.transport = true := by simpa using hup
      obtain ⟨c0, c1, c2⟩ := sendWithFallback_counts req (r := r) { s with invs := adel r s.invs }
        (m := { typ := .error, req := r, uri := e.errorReply.1, args := e.errorReply.2.1, kwargs := e.errorReply.2.2 })
        (by simp [terminalFor])
      exact ⟨c0, (counts_cons_ok rfl _).2.trans c1, (counts_cons_ok rfl _).1.trans (by simpa [ht] using c2)⟩

theorem clearTables_life (s : Sess) : s.clearTables.life = s.life := rfl

/-- nothing that waits in the callback queue is a terminal reply or an endpoint call; `up`: moreover the transport is up
and every refusal in the `send()` plan is followed by an acceptance -/
structure AInv (up : Bool) (req : ReqId) (s : Sess) : Prop where
  queue : ∀ o ∈ s.cbq, okRep req o = true
  plan : up = true → s.transport = true ∧ planUnits s.faults = true

/-- terminal replies sent + [the id is in `_invocations` afterwards] ≤ endpoint calls + [it was there before]; `up`: with
equality — a record leaves `_invocations` only together with a terminal reply -/
structure ARel (up : Bool) (req : ReqId) (s : Sess) (o : List SOut) (s' : Sess) : Prop where
  inv : AInv up req s'
  le : terminals req o + owing req s' ≤ accepts req o + owing req s
  ge : up = true → accepts req o + owing req s ≤ terminals req o + owing req s'

variable {up : Bool} {req : ReqId}

theorem init_AInv (mode : Sched) : AInv false req (init mode) := ⟨fun _ ho => (nomatch ho), fun h => nomatch h⟩

theorem ARel.refl {s : Sess} (h : AInv up req s) : ARel up req s [] s := ⟨h, Nat.le_refl _, fun _ => Nat.le_refl _⟩

theorem ARel.trans {s1 s2 s3 : Sess} {o1 o2 : List SOut} (h1 : ARel up req s1 o1 s2) (h2 : ARel up req s2 o2 s3) :
    ARel up req s1 (o1 ++ o2) s3 := by
  have e1 := terminals_append req o1 o2
  have e2 := accepts_append req o1 o2
  exact ⟨h2.inv, by have := h1.le; have := h2.le; omega, fun hu => by have := h1.ge hu; have := h2.ge hu; omega⟩

theorem ARel.of_same {s s' : Sess} {os : List SOut} (hq : AInv up req s') (hi : owing req s' = owing req s)
    (ho : ∀ o ∈ os, okRep req o = true) : ARel up req s os s' := by
  obtain ⟨h1, h2⟩ := counts_of_ok ho
  exact ⟨hq, by omega, fun _ => by omega⟩

/-- relabelling the observations in a way that keeps terminal replies and endpoint calls (`toCaught`, `toLost`) -/
theorem ARel.map {s s' : Sess} {o : List SOut} (r : ARel up req s o s') {f : SOut → SOut}
    (hf : ∀ x, terminalFor req (f x) = terminalFor req x ∧ acceptFor req (f x) = acceptFor req x) : ARel up req s (o.map f) s' := by
  have h1 : terminalFor req ∘ f = terminalFor req := funext fun x => (hf x).1
  have h2 : acceptFor req ∘ f = acceptFor req := funext fun x => (hf x).2
  have e1 : terminals req (o.map f) = terminals req o := by rw [terminals, List.countP_map, h1]; rfl
  have e2 : accepts req (o.map f) = accepts req o := by rw [accepts, List.countP_map, h2]; rfl
  exact ⟨r.inv, e1 ▸ e2 ▸ r.le, fun hu => e1 ▸ e2 ▸ r.ge hu⟩

theorem AInv.enqueue {s : Sess} {o : SOut} (h : AInv up req s) (ho : okRep req o = true) :
    AInv up req { s with cbq := s.cbq ++ [o] } :=
  ⟨fun x hx => (List.mem_append.mp hx).elim (h.queue x) (fun hx => List.mem_singleton.mp hx ▸ ho), h.plan⟩

theorem AInv.of_quiet {s s' : Sess} {o : List SOut} (h : AInv up req s) (q : Quiet s o s') : AInv up req s' :=
  ⟨fun x hx => (q.queue x hx).elim (h.queue x) okRep_of_not_lifeOut,
   fun hu => by
    rw [show s'.transport = s.transport from congrArg Life.transport q.life,
      show s'.faults = s.faults from congrArg Life.faults q.life]
    exact h.plan hu⟩

/-- a write of the lifecycle fields (`transport` only where the relation does not read it) -/
theorem ARel.lc {s s' : Sess} (h : AInv up req s) (hc : s'.core = s.core) (hk : s'.callee = s.callee)
    (ht : up = true → s'.transport = s.transport) : ARel up req s [] s' :=
  ARel.of_same ⟨fun x hx => h.queue x ((show s'.cbq = s.cbq from congrArg Core.cbq hc) ▸ hx),
      fun hu => by rw [ht hu, show s'.faults = s.faults from congrArg Callee.faults hk]; exact h.plan hu⟩
    (owing_of_invs (congrArg Callee.invs hk)) (fun _ hx => nomatch hx)

theorem acctLiftQ (up : Bool) (req : ReqId) : LiftQ (ARel up req) (AInv up req) where
  refl := ARel.refl
  trans := ARel.trans
  post := fun _ r => r.inv
  caught := fun r => r.map fun x => by cases x <;> exact ⟨rfl, rfl⟩
  quiet := fun h q =>
    ARel.of_same (h.of_quiet q) (owing_of_invs (congrArg Life.invs q.life)) (fun x hx => okRep_of_not_lifeOut (q.outs x hx))
  lifeApi := lifeApi_lift ARel.trans (fun h ho => ARel.of_same h rfl (fun o h' => okRep_of_sessOut o (ho o h')))
    (fun h hc hk ht => ARel.lc h hc hk (fun _ => ht))

theorem acctLiftT (up : Bool) (req : ReqId) : LiftT (ARel up req) (AInv up req) (okRep req) where
  toLift := (acctLiftQ up req).toLift
  okOf := okRep_of_sessOut
  lc := fun h hc hk ht => ARel.lc h hc hk (fun _ => ht)
  out := fun h ho => ARel.of_same h rfl ho
  emit := fun {s o} h ho => by
    unfold emitCb
    split
    · exact ARel.of_same h rfl (by simpa using ho)
    · exact ARel.of_same (h.enqueue ho) rfl (fun _ hx => nomatch hx)
  enq := fun k h => ARel.of_same (h.enqueue rfl) rfl (fun _ hx => nomatch hx)
  lostMap := fun r => r.map fun x => by cases x <;> exact ⟨rfl, rfl⟩
  cbqOk := fun h => h.queue
  clearQ := fun h => ARel.of_same ⟨fun _ hx => (nomatch hx), h.plan⟩ rfl (fun _ hx => nomatch hx)
  rejectAll := fun {s} o h =>
    (acctLiftQ up req).quiet h (Quiet.congr_left (rejectList_quiet s.clearTables o s.outstanding) rfl rfl)

/-- the unconditional half does not read `transport`: `onOpen` / `onClose` as well -/
theorem acctLiftS (req : ReqId) : LiftS (ARel false req) (AInv false req) (okRep req) :=
  { acctLiftT false req with lc := fun h hc hk => ARel.lc h hc hk (fun hu => nomatch hu) }

/-- the closure of `r` removes the record of `r` and sends at most one terminal reply for it — exactly one under a
covered plan with the transport up -/
theorem invDone_acct {s : Sess} (h : AInv up req s) (r : ReqId) (o : EOut) :
    ARel up req s (invDone s r o).2 (invDone s r o).1 := by
  cases hx : alookup r s.invs with
  | none =>
    simp only [invDone, hx]
    exact ARel.of_same h rfl (by simp [okRep, terminalFor, acceptFor])
  | some x =>
    obtain ⟨⟨n, hfl⟩, ha, ht⟩ := invDone_counts req hx o
    have hw : owing req { s with invs := adel r s.invs, faults := s.faults.drop n } = _ := owing_adel req r s
    rw [hfl]
    refine ⟨⟨h.queue, fun hu => ⟨(h.plan hu).1, planUnits_drop n (h.plan hu).2⟩⟩, ?_, fun hu => ?_⟩
    all_goals rw [ha, ht, hw]
    all_goals by_cases e : r = req
    · rw [if_pos e, owing_some (e ▸ hx)]; split <;> omega
    · rw [if_neg e, if_neg (fun h => e h.1)]; omega
    · rw [if_pos e, owing_some (e ▸ hx), if_pos ⟨e, (h.plan hu).1, planCovered_of_units (h.plan hu).2⟩]; omega
    · rw [if_neg e, if_neg (fun h => e h.1)]; omega

theorem acctCallee (up : Bool) (req : ReqId) : CalleeLift (ARel up req) (AInv up req) where
  refl := ARel.refl
  trans := ARel.trans
  post := fun _ r => r.inv
  note := fun h hx => ARel.of_same h rfl (by simpa using okRep_of_note hx)
  progSend := fun {s} r v h => by
    refine ARel.of_same ?_ (owing_of_invs (replySend_invs s _)) (progressSend_ok req s r v)
    rw [progressSend, replySend_eq]
    exact ⟨h.queue, fun hu => ⟨(h.plan hu).1, planUnits_tail (h.plan hu).2⟩⟩
  invDone := fun r o h => invDone_acct h r o
  enq := fun k h _ => (acctLiftT up req).enq k h
  fired := fun h _ => ARel.of_same ⟨h.queue, h.plan⟩ (owing_aupd ..) (fun _ hx => nomatch hx)
  progs := fun _ h => ARel.of_same ⟨h.queue, h.plan⟩ rfl (fun _ hx => nomatch hx)
  accept := fun {s s' o r} v obj hh a kw _ h hfree => by
    obtain ⟨e1, e2⟩ := counts_endpoint req r obj hh a kw o
    have e3 := owing_aset (req := req) hfree v
    exact ⟨⟨h.inv.queue, h.inv.plan⟩, by have := h.le; omega, fun hu => by have := h.ge hu; omega⟩

/-- the events of a history in which the transport stays up and every plan is covered -/
def SEv.covered : SEv → Bool
  | .closed _ => false
  | .fault l => planUnits l
  | _ => true

/-- `onOpen`, whatever the transport was before: it is up afterwards -/
theorem open_acct {s : Sess} (hq : ∀ o ∈ s.cbq, okRep req o = true) (hp : up = true → planUnits s.faults = true) (acts : List HAct) :
    ARel up req { s with transport := true, ended := false } (step s (.open_ acts)).2 (step s (.open_ acts)).1 := by
  have h0 : AInv up req { s with transport := true, ended := false } := ⟨hq, fun hu => ⟨rfl, hp hu⟩⟩
  exact (acctLiftT up req).cons h0 (o := .fire .connect) rfl ((acctLiftT up req).defer (acctCallee up req).invDone h0 _)

/-- `up`: the event keeps the transport up and the plan covered -/
theorem step_acct {s : Sess} (e : SEv) (h : AInv up req s) (he : up = true → e.covered = true) :
    ARel up req s (step s e).2 (step s e).1 := by
  cases e with
  | open_ acts =>
    have h1 := open_acct (up := up) (req := req) h.queue (fun hu => (h.plan hu).2) acts
    exact ⟨h1.inv, h1.le, h1.ge⟩
  | closed acts =>
    cases up with
    | false => exact (acctLiftS req).onClose h acts
    | true => cases he rfl
  | fault l =>
    exact ARel.of_same ⟨h.queue, fun hu => ⟨(h.plan hu).1, planUnits_append _ _ (h.plan hu).2 (he hu)⟩⟩ rfl (fun _ hx => nomatch hx)
  | _ => exact step_lift (acctLiftT up req) (acctLiftQ up req) (acctCallee up req) h _ rfl

theorem run_acct {s : Sess} (h : AInv up req s) (hist : List SEv) (hh : up = true → hist.all SEv.covered = true) :
    ARel up req s (runOuts s hist) (runState s hist) :=
  run_lift (acctLiftQ up req).toLift (ok := fun e => up = true → e.covered = true) (fun e he h => step_acct e h he) h
    fun e he hu => List.all_eq_true.mp (hh hu) e he

end Abverif.Session

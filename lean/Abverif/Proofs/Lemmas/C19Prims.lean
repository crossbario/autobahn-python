import Abverif.Proofs.Lemmas.C19Bytes
/-
C19 — structural facts about the reference primitives: output lengths of SHA-1, SHA-256, HMAC, PBKDF2; how HMAC treats
long and short keys (RFC 2104 §2); the first PBKDF2 blocks.
(These are facts about the Lean reference implementations. That the reference equals OpenSSL's /
hashlib's functions is NOT proved; it is tested differentially by harness/c19.py and on RFC vectors.)
-/
namespace Abverif.Crypto

theorem be32_length (w : UInt32) : (be32 w).length = 4 := rfl
theorem be32n_length (n : Nat) : (be32n n).length = 4 := rfl
theorem be64_length (n : Nat) : (be64 n).length = 8 := rfl

theorem Sha256.hash_length (m : Bytes) : (Sha256.hash m).length = 32 := by
  simp [Sha256.hash, Sha256.State.toBytes, be32_length]

theorem Sha1.hash_length (m : Bytes) : (Sha1.hash m).length = 20 := by
  simp [Sha1.hash, Sha1.State.toBytes, be32_length]

def HashAlg.Coherent (A : HashAlg) : Prop := ∀ m, (A.hash m).length = A.outLen

theorem sha256Alg_coherent : sha256Alg.Coherent := Sha256.hash_length
theorem sha1Alg_coherent : sha1Alg.Coherent := Sha1.hash_length

namespace Hmac

theorem hmac_length {A : HashAlg} (hA : A.Coherent) (k m : Bytes) : (hmac A k m).length = A.outLen := by
  simp only [hmac]; exact hA _

theorem sha256_length (k m : Bytes) : (sha256 k m).length = 32 := hmac_length sha256Alg_coherent k m
theorem sha1_length (k m : Bytes) : (sha1 k m).length = 20 := hmac_length sha1Alg_coherent k m

theorem blockKey_length {A : HashAlg} (hA : A.Coherent) (hle : A.outLen ≤ A.blockSize) (k : Bytes) :
    (blockKey A k).length = A.blockSize := by
  simp only [blockKey]
  split
  · rw [List.length_append, List.length_replicate, hA]; omega
  · rw [List.length_append, List.length_replicate]; omega

/-- RFC 2104 unfolded for SHA-256 -/
theorem sha256_eq (k m : Bytes) :
    sha256 k m = Sha256.hash ((blockKey sha256Alg k).map (· ^^^ 0x5c)
      ++ Sha256.hash ((blockKey sha256Alg k).map (· ^^^ 0x36) ++ m)) := rfl

/-- keys longer than the block are replaced by their hash (RFC 2104 §2) -/
theorem hmac_long_key (A : HashAlg) (hA : A.Coherent) (hle : A.outLen ≤ A.blockSize) (k m : Bytes)
    (h : k.length > A.blockSize) : hmac A k m = hmac A (A.hash k) m := by
  have h2 : ¬ (A.hash k).length > A.blockSize := by rw [hA]; omega
  simp only [hmac, blockKey, h, if_true, h2, if_false]

/-- trailing zero octets of a short key do not matter (RFC 2104 zero padding) -/
theorem hmac_zero_pad (A : HashAlg) (k m : Bytes) (n : Nat) (h : k.length + n ≤ A.blockSize) :
    hmac A (k ++ List.replicate n 0) m = hmac A k m := by
  have h1 : ¬ (k ++ List.replicate n 0).length > A.blockSize := by simp; omega
  have h2 : ¬ k.length > A.blockSize := by omega
  have e : blockKey A (k ++ List.replicate n 0) = blockKey A k := by
    unfold blockKey
    rw [if_neg h1, if_neg h2, List.append_assoc, List.length_append, List.length_replicate,
      List.replicate_append_replicate]
    congr 2; omega
  simp only [hmac, e]

end Hmac

namespace Pbkdf2

theorem iter_length {prf : Bytes → Bytes → Bytes} {h : Nat} (hp : ∀ k m, (prf k m).length = h)
    (pw : Bytes) : ∀ (n : Nat) (u acc : Bytes), acc.length = h → (iter prf pw n u acc).length = h
  | 0, _, _, ha => ha
  | n + 1, u, acc, ha => by
    simp only [iter]
    exact iter_length hp pw n _ _ (by rw [xorBytes_length, ha, hp]; omega)

theorem block_length {prf : Bytes → Bytes → Bytes} {h : Nat} (hp : ∀ k m, (prf k m).length = h)
    (pw salt : Bytes) (c i : Nat) : (block prf pw salt c i).length = h := by
  simp only [block]; exact iter_length hp pw _ _ _ (hp _ _)

theorem flatten_map_length {α} (f : α → Bytes) (h : Nat) (hf : ∀ a, (f a).length = h) :
    ∀ l : List α, ((l.map f).flatten).length = l.length * h
  | [] => by simp
  | a :: l => by
    simp only [List.map_cons, List.flatten_cons, List.length_append, hf, flatten_map_length f h hf l,
      List.length_cons]
    rw [Nat.succ_mul]; omega

theorem derive_length {prf : Bytes → Bytes → Bytes} {h : Nat} (hp : ∀ k m, (prf k m).length = h)
    (pw salt : Bytes) (c dkLen : Nat) (hge : dkLen ≤ (dkLen + h - 1) / h * h) :
    (derive prf h pw salt c dkLen).length = dkLen := by
  simp only [derive, List.length_take]
  rw [flatten_map_length _ h (fun i => block_length hp pw salt c (i + 1)), List.length_range]
  omega

theorem hmacSha256_length (pw salt : Bytes) (c dkLen : Nat) : (hmacSha256 pw salt c dkLen).length = dkLen :=
  derive_length Hmac.sha256_length pw salt c dkLen (by omega)

theorem hmacSha1_length (pw salt : Bytes) (c dkLen : Nat) : (hmacSha1 pw salt c dkLen).length = dkLen :=
  derive_length Hmac.sha1_length pw salt c dkLen (by omega)

/-- one iteration: the block is the PRF of `salt ‖ INT(i)` -/
theorem block_one (prf : Bytes → Bytes → Bytes) (pw salt : Bytes) (i : Nat) :
    block prf pw salt 1 i = prf pw (salt ++ be32n i) := rfl

/-- two iterations: `U_1 ⊕ PRF(P, U_1)` -/
theorem block_two (prf : Bytes → Bytes → Bytes) (pw salt : Bytes) (i : Nat) :
    block prf pw salt 2 i
      = xorBytes (prf pw (salt ++ be32n i)) (prf pw (prf pw (salt ++ be32n i))) := rfl

theorem derive_prefix (prf : Bytes → Bytes → Bytes) (h : Nat)
    (pw salt : Bytes) (c l : Nat) (hl : l ≤ h) :
    derive prf h pw salt c l = (block prf pw salt c 1).take l := by
  simp only [derive]
  rcases Nat.eq_zero_or_pos l with h0 | hl0
  · subst h0; simp
  · have : (l + h - 1) / h = 1 := by
      apply Nat.div_eq_of_lt_le <;> omega
    rw [this]
    simp [List.range_succ]

end Pbkdf2
end Abverif.Crypto

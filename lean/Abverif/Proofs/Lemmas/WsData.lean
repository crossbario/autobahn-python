import Abverif.Proofs.Lemmas.WsWalk
/-
The receive path never touches the receive buffer field `S.data` (the buffer is threaded explicitly through
`processData`); needed to lift the loop lemma to `dataReceived`.

"`data` is left alone" is a relation the engine walk of Lemmas/WsWalk.lean carries through every function of the
receive path up to `drain` (`DataSame.recv`); only `dataReceived` itself writes the field.
-/
namespace Abverif.Ws

theorem timer_data (s : S) (d : Nat) : (s.timer d).1.data = s.data := rfl
theorem armServerDrop_data (s : S) : (armServerDrop s).data = s.data := rfl
theorem armPingNext_data (s : S) : (armPingNext s).data = s.data := rfl

def DataSame (a b : S) : Prop := b.data = a.data

theorem sendCloseFrame_DataSame (s : S) (c : Option Nat) (r : Option Bytes) (i : Bool) :
    DataSame s (sendCloseFrame s c r i) := (sendCloseFrame_CloseEq s c r i).data

theorem DataSame.recv : Walk.Recv DataSame :=
  have base : Walk.Base DataSame :=
    { refl := fun _ => rfl
      trans := fun h1 h2 => h2.trans h1
      parse := fun h => h ▸ rfl
      emit := fun _ _ _ => rfl
      armServerDrop := armServerDrop_data
      armPingNext := armPingNext_data
      armPingTimeout := fun _ => rfl
      sends := fun h _ => h.eq.data
      dropped := fun _ _ _ _ => rfl
      failClose := fun s _ _ => sendCloseFrame_DataSame s _ _ _
      unclean := fun _ _ => rfl
      peerReason := fun _ _ _ => rfl
      tick := fun _ _ => rfl }
  { toBase := base
    onCloseFrame := fun s c r => base.onCloseFrame_of s c r
      (base.closeStateStep_of (fun _ _ _ => rfl) (fun s => replyClose_of s (sendCloseFrame_DataSame s _ _ _) (sendCloseFrame_DataSame s _ _ _)) _)
    cancelAutoPingTimeout := base.cancelAutoPingTimeout_of fun _ => rfl
    onPongFrame := base.onPongFrame_of fun _ => rfl }

theorem drain_data (F : Nat) (s : S) (buf : Bytes) : (drain F s buf).1.data = s.data := DataSame.recv.drain F s buf

end Abverif.Ws

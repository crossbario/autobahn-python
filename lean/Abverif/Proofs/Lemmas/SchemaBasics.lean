import Abverif.Model.SchemaSpec
/-
Basic lemmas used by the schema-engine proofs (C03, C08): association lists (`Dict.get?`, and `Msg.get` as the lookup
that reads a missing entry as `None`), `nodup`, the constructor behind a `WVal` type test, `Except` sequencing and the
loops over the constructor's assertions.
-/
namespace Abverif.Wamp

theorem str_beq_iff (a b : Str) : (a == b) = true ↔ a = b := by simp

theorem str_beq_false_iff (a b : Str) : (a == b) = false ↔ a ≠ b := by simp

theorem nodup_cons {x : Str} {xs : List Str} : nodup (x :: xs) = true ↔ (xs.any (· == x) = false ∧ nodup xs = true) := by
  simp [nodup]

theorem any_beq_false_iff {xs : List Str} {x : Str} : xs.any (· == x) = false ↔ x ∉ xs := by
  induction xs with
  | nil => simp
  | cons y ys ih =>
    simp only [List.any_cons, Bool.or_eq_false_iff, ih, List.mem_cons, not_or]
    constructor
    · rintro ⟨h1, h2⟩; exact ⟨by intro e; subst e; simp at h1, h2⟩
    · rintro ⟨h1, h2⟩; exact ⟨by simpa using fun e => h1 e.symm, h2⟩

theorem nodup_iff {xs : List Str} : nodup xs = true ↔ xs.Nodup := by
  induction xs with
  | nil => simp [nodup]
  | cons x xs ih => rw [nodup_cons, any_beq_false_iff, ih, List.nodup_cons]

theorem Dict.get?_nil (k : Str) : Dict.get? [] k = none := rfl

theorem Dict.get?_cons_self (k : Str) (v : WVal) (t : Dict) : Dict.get? ((k, v) :: t) k = some v := by
  simp [Dict.get?, List.find?]

theorem Dict.get?_cons_ne {g k : Str} (v : WVal) (t : Dict) (h : g ≠ k) : Dict.get? ((g, v) :: t) k = Dict.get? t k := by
  have : (g == k) = false := by simp [h]
  simp [Dict.get?, List.find?, this]

theorem Dict.get?_eq_none_iff {d : Dict} {k : Str} : Dict.get? d k = none ↔ (d.map (·.1)).any (· == k) = false := by
  simp [Dict.get?, List.any_map, List.any_eq_false]

theorem Dict.get?_none_of_not_mem {d : Dict} {k : Str} (h : k ∉ d.map (·.1)) : Dict.get? d k = none :=
  Dict.get?_eq_none_iff.mpr (any_beq_false_iff.mpr h)

theorem Dict.get?_append (a b : Dict) (k : Str) : Dict.get? (a ++ b) k = (Dict.get? a k).or (Dict.get? b k) := by
  simp only [Dict.get?, List.find?_append, Option.map_or]

theorem Dict.get?_append_of_not_mem {a b : Dict} {k : Str} (h : k ∉ a.map (·.1)) :
    Dict.get? (a ++ b) k = Dict.get? b k := by
  rw [Dict.get?_append, Dict.get?_none_of_not_mem h, Option.none_or]

theorem Dict.get?_append_of_some {a b : Dict} {k : Str} {v : WVal} (h : Dict.get? a k = some v) :
    Dict.get? (a ++ b) k = some v := by
  rw [Dict.get?_append, h, Option.some_or]

theorem Dict.get?_of_mem_nodup {d : Dict} (hnd : nodup (d.map (·.1)) = true) {k : Str} {v : WVal} (h : (k, v) ∈ d) :
    Dict.get? d k = some v := by
  induction d with
  | nil => simp at h
  | cons kv t ih =>
    obtain ⟨g, x⟩ := kv
    simp only [List.map_cons] at hnd
    rw [nodup_cons] at hnd
    rcases List.mem_cons.mp h with heq | ht
    · injection heq with h1 h2
      subst h1 h2
      exact Dict.get?_cons_self _ _ _
    · have hg : g ≠ k := by
        intro e; subst e
        exact (any_beq_false_iff.mp hnd.1) (List.mem_map_of_mem (f := (·.1)) ht)
      rw [Dict.get?_cons_ne x t hg]
      exact ih hnd.2 ht

theorem Msg.get_eq_getD (m : Msg) (f : Str) : Msg.get m f = (Dict.get? m f).getD .null := by
  unfold Msg.get Dict.get?
  cases m.find? _ <;> rfl

theorem Msg.get_nil (f : Str) : Msg.get [] f = .null := rfl

theorem Msg.get_cons_self (f : Str) (v : WVal) (t : Msg) : Msg.get ((f, v) :: t) f = v := by
  simp [Msg.get, List.find?]

theorem Msg.get_cons_ne {g f : Str} (v : WVal) (t : Msg) (h : g ≠ f) : Msg.get ((g, v) :: t) f = Msg.get t f := by
  have : (g == f) = false := by simp [h]
  simp [Msg.get, List.find?, this]

theorem Msg.get_append_left {a b : Msg} {f : Str} (h : (a.map (·.1)).any (· == f) = true) :
    Msg.get (a ++ b) f = Msg.get a f := by
  cases hg : Dict.get? a f with
  | none => rw [Dict.get?_eq_none_iff.mp hg] at h; cases h
  | some v => rw [Msg.get_eq_getD, Dict.get?_append, Msg.get_eq_getD a, hg, Option.some_or]

theorem Msg.get_append_right {a b : Msg} {f : Str} (h : (a.map (·.1)).any (· == f) = false) :
    Msg.get (a ++ b) f = Msg.get b f := by
  rw [Msg.get_eq_getD, Dict.get?_append, Dict.get?_eq_none_iff.mpr h, Option.none_or, Msg.get_eq_getD]

theorem Msg.get_of_mem {m : Msg} (hnd : nodup (m.map (·.1)) = true) {f : Str} {v : WVal} (h : (f, v) ∈ m) :
    Msg.get m f = v := by
  rw [Msg.get_eq_getD, Dict.get?_of_mem_nodup hnd h]
  rfl

theorem Msg.rebuild (m : Msg) (h : nodup (m.map (·.1)) = true) :
    (m.map (·.1)).map (fun f => (f, Msg.get m f)) = m := by
  induction m with
  | nil => rfl
  | cons kv t ih =>
    obtain ⟨k, v⟩ := kv
    simp only [List.map_cons] at h ⊢
    rw [nodup_cons] at h
    obtain ⟨hk, ht⟩ := h
    rw [Msg.get_cons_self]
    congr 1
    rw [any_beq_false_iff] at hk
    have : ∀ f ∈ t.map (·.1), (f, Msg.get ((k, v) :: t) f) = (f, Msg.get t f) := by
      intro f hf
      have : k ≠ f := by intro e; subst e; exact hk hf
      rw [Msg.get_cons_ne v t this]
    rw [List.map_congr_left this]
    exact ih ht

theorem WVal.eq_null_of_isNull {v : WVal} (h : v.isNull = true) : v = .null := by
  cases v <;> simp_all [WVal.isNull]

theorem WVal.exists_bytes_of_isBytes {v : WVal} (h : v.isBytes = true) : ∃ b, v = .bytes b := by
  cases v <;> simp_all [WVal.isBytes]

theorem WVal.exists_list_of_isList {v : WVal} (h : v.isList = true) : ∃ xs, v = .list xs := by
  cases v <;> simp_all [WVal.isList]

theorem bind_eq_ok {α β : Type} {x : Except Err α} {f : α → Except Err β} {b : β}
    (h : (x >>= f) = .ok b) : ∃ a, x = .ok a ∧ f a = .ok b := by
  cases x with
  | error e => cases h
  | ok a => exact ⟨a, rfl, h⟩

open Schema in
theorem ctorOpts_ok_iff {cls : ErrClass} {m : Msg} :
    ∀ ss : List OptStep, ctorOpts cls m ss = .ok () ↔ ∀ s ∈ ss, s.cty.ok (m.get s.field) = true := by
  intro ss
  induction ss with
  | nil => simp [ctorOpts, pure, Except.pure]
  | cons s t ih =>
    unfold ctorOpts
    by_cases h : s.cty.ok (m.get s.field) = true
    · simp [h, ih]
    · simp [h, fail]

open Schema in
theorem ctorCross_ok_iff {cls : ErrClass} {O : Oracles} {m : Msg} :
    ∀ cs : List Cross, ctorCross cls O m cs = .ok () ↔ ∀ c ∈ cs, c.ok O m = true := by
  intro cs
  induction cs with
  | nil => simp [ctorCross, pure, Except.pure]
  | cons c t ih =>
    unfold ctorCross
    by_cases h : c.ok O m = true
    · simp [h, ih]
    · simp [h, fail]

end Abverif.Wamp

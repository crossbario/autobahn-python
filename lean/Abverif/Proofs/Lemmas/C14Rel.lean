import Abverif.Proofs.Lemmas.C14Base
/-!
C14 — monitors along a log, and the simulation relation between the model state and the Spec bookkeeping
(`Spec.Core`) with the lemmas that carry it across a change of either side.
-/
namespace Abverif.Comp
open Spec

theorem feedAll_nil (c : Conf) (k : Core) : feedAll c k [] = k := rfl

theorem feedAll_cons (c : Conf) (k : Core) (o : Obs) (l : List Obs) :
    feedAll c k (o :: l) = feedAll c (k.feed c o) l := rfl

theorem feedAll_append (c : Conf) (k : Core) (a b : List Obs) :
    feedAll c k (a ++ b) = feedAll c (feedAll c k a) b := by
  simp [feedAll, List.foldl_append]

theorem specAll_append (chk : Chk) (fin : Fin) (c : Conf) (k : Core) (idle : Bool) (a b : List Obs) :
    specAll chk fin c k idle (a ++ b)
      = (specAll chk finTrue c k false a && specAll chk fin c (feedAll c k a) idle b) := by
  induction a generalizing k with
  | nil => simp [specAll, finTrue, feedAll]
  | cons o r ih => simp [specAll, ih, feedAll_cons, Bool.and_assoc]

theorem specAll_append_true {chk : Chk} {c : Conf} {k : Core} {a b : List Obs}
    (ha : specAll chk finTrue c k false a = true) (hb : specAll chk finTrue c (feedAll c k a) false b = true) :
    specAll chk finTrue c k false (a ++ b) = true := by
  rw [specAll_append, ha, hb]; rfl

theorem specAll_fin (chk : Chk) (fin : Fin) (c : Conf) (k : Core) (idle : Bool) (l : List Obs) :
    specAll chk fin c k idle l = (specAll chk finTrue c k false l && fin c (feedAll c k l) idle) := by
  have := specAll_append chk fin c k idle l []
  rwa [List.append_nil] at this

/-- observations that neither the bookkeeping `Core` nor any check over it looks at (the bubble monitor `Fire`, which
has its own bookkeeping, reads two of them: `sfire` and `call`) -/
def Obs.neutral : Obs → Bool
  | .sfire _ _ | .call _ _ | .fail _ | .lateDone _ | .sess _ _ => true
  | _ => false

def Obs.quiet : Obs → Bool
  | .att _ _ _ | .done _ => false
  | _ => true

/-- a check that only ever rejects attempts and completions (`att`, `done`: the lemmas `chkX_ad`) -/
def ChkAttDone (chk : Chk) : Prop :=
  ∀ c k o, (∀ i w t, o ≠ .att i w t) → (∀ b, o ≠ .done b) → chk c k o = true

theorem neutral_quiet (o : Obs) (h : o.neutral = true) : o.quiet = true := by
  cases o <;> simp [Obs.neutral] at h <;> rfl

theorem feed_neutral (c : Conf) (k : Core) (o : Obs) (h : o.neutral = true) : k.feed c o = k := by
  cases o <;> simp [Obs.neutral] at h <;> rfl

theorem feedAll_neutral (c : Conf) (k : Core) (l : List Obs) (h : ∀ o ∈ l, o.neutral = true) :
    feedAll c k l = k := by
  induction l generalizing k with
  | nil => rfl
  | cons o r ih =>
    rw [feedAll_cons, feed_neutral c k o (h o (by simp)), ih]
    intro o' ho'; exact h o' (by simp [ho'])

theorem specAll_of_forall {chk : Chk} {c : Conf} {P : Core → Prop} {q : Obs → Prop}
    (hstep : ∀ k o, P k → q o → chk c k o = true ∧ P (k.feed c o)) {k : Core} {l : List Obs} (hk : P k)
    (hl : ∀ o ∈ l, q o) : specAll chk finTrue c k false l = true ∧ P (feedAll c k l) := by
  induction l generalizing k with
  | nil => exact ⟨rfl, hk⟩
  | cons o r ih =>
    obtain ⟨hc, hk'⟩ := hstep k o hk (hl o (by simp))
    simp only [specAll, hc, Bool.true_and, feedAll_cons]
    exact ih hk' fun o' ho' => hl o' (by simp [ho'])

theorem specAll_quiet (chk : Chk) (hc : ChkAttDone chk) (c : Conf) (k : Core) (l : List Obs)
    (h : ∀ o ∈ l, o.quiet = true) : specAll chk finTrue c k false l = true :=
  (specAll_of_forall (P := fun _ => True)
    (fun k o _ ho => ⟨hc c k o (fun _ _ _ he => by subst he; cases ho) (fun _ he => by subst he; cases ho), trivial⟩)
    trivial h).1

theorem specAll_neutral (chk : Chk) (hc : ChkAttDone chk) (c : Conf) (k : Core) (l : List Obs)
    (h : ∀ o ∈ l, o.neutral = true) : specAll chk finTrue c k false l = true :=
  specAll_quiet chk hc c k l (fun o ho => neutral_quiet o (h o ho))

theorem userCalls_neutral (n : Nat) (hs : List Handler) : ∀ o ∈ userCalls n hs, o.neutral = true := by
  induction hs with
  | nil => intro o ho; cases ho
  | cons h r ih =>
    cases h with
    | user e =>
      intro o ho
      rcases List.mem_cons.mp ho with rfl | ho
      · rfl
      · exact ih o ho
    | onLeave | onJoin | onDisconnect => exact ih

theorem sfire_neutral (cfg : Cfg) (ev : Ev) (n : Nat) : ∀ o ∈ sfire cfg ev n, o.neutral = true := by
  intro o ho
  simp only [sfire, List.mem_cons] at ho
  rcases ho with rfl | ho
  · rfl
  · exact userCalls_neutral _ _ o ho

theorem chkBudget_ad : ChkAttDone chkBudget := by
  intro c k o h1 h2; cases o <;> first | rfl | exact absurd rfl (h1 _ _ _)
theorem chkFatal_ad : ChkAttDone chkFatal := by
  intro c k o h1 h2; cases o <;> first | rfl | exact absurd rfl (h1 _ _ _)
theorem chkRoundRobin_ad : ChkAttDone chkRoundRobin := by
  intro c k o h1 h2; cases o <;> first | rfl | exact absurd rfl (h1 _ _ _)
theorem chkFirst_ad : ChkAttDone chkFirst := by
  intro c k o h1 h2; cases o <;> first | rfl | exact absurd rfl (h1 _ _ _)
theorem chkDelay_ad : ChkAttDone chkDelay := by
  intro c k o h1 h2; cases o <;> first | rfl | exact absurd rfl (h1 _ _ _)
theorem chkStop_ad : ChkAttDone chkStop := by
  intro c k o h1 h2; cases o <;> first | rfl | exact absurd rfl (h1 _ _ _)
theorem chkGiveUp_ad : ChkAttDone chkGiveUp := by
  intro c k o h1 h2; cases o <;> first | rfl | exact absurd rfl (h2 _)
theorem chkDoneOnce_ad : ChkAttDone chkDoneOnce := by
  intro c k o h1 h2; cases o <;> first | rfl | exact absurd rfl (h2 _)
theorem chkPolarity_ad : ChkAttDone chkPolarity := by
  intro c k o h1 h2
  cases o <;> first | rfl | exact absurd rfl (h1 _ _ _) | exact absurd rfl (h2 _)

/-- per-transport part: configuration agrees, the Spec's counters bound / equal the model's -/
structure TrRel (c : Conf) (k : Core) (i : Nat) (t : Tr) : Prop where
  mr : c.mr i = t.maxRetries
  maxD : c.maxD i = t.maxDelay
  cnt_eq : k.cnt i = t.attempts
  ever : t.attempts ≤ k.ever i
  failed : k.failed i = t.permFail

/-- data part (independent of the phase) -/
structure RelT (c : Conf) (trs : List Tr) (done : Option Bool) (k : Core) : Prop where
  n_eq : c.n = trs.length
  tr : ∀ i t, trs[i]? = some t → TrRel c k i t
  done_eq : k.done = done

/-- relation in the middle of a step (the phase field is stale) -/
structure RelM (c : Conf) (s : State) (k : Core) : Prop where
  t : RelT c s.trs s.done k
  cur : s.cursor = startOf k.last % c.n

/-- Transport `i` is the one to attempt next, after waiting `w`.  What `transport_check` establishes when it chooses
`i` is what the checks ask of the attempt: the first-attempt and delay clauses, the round-robin clause (being the first
eligible transport includes the budget and the absence of a fatal error), and the cursor has moved past `i`. -/
def Chosen (c : Conf) (k : Core) (cursor i : Nat) (w : Q) : Prop :=
  (k.ever i ≠ 0 ∨ w.isZero = true) ∧ (0 ≤ (c.maxD i).num → w.le (c.maxD i) = true)
    ∧ firstElig c k (startOf k.last) = some i ∧ cursor = (i + 1) % c.n

/-- a connection on transport `i` exists: the connect is in flight, the session is up, or it is closing -/
def Live (s : State) (i : Nat) : Prop := s.phase = .connecting i ∨ s.phase = .up i ∨ s.phase = .closing i

/-- What the phase adds to the data part `RelT`.  While a retry delay is pending, the transport waited for is the
`Chosen` one and the cursor has already moved past it; once the loop has ended start()'s future is complete; no
exception leaves `transport_check`; in every other phase the cursor stands where the Spec starts its next search. -/
def PhaseOK (c : Conf) (s : State) (k : Core) : Prop :=
  match s.phase with
  | .waiting i d => Chosen c k s.cursor i d
  | .dead => s.done.isSome = true
  | .crashed => False
  | _ => s.cursor = startOf k.last % c.n

/-- The simulation relation between steps: the Spec bookkeeping `k`, fed with the log so far, is what the state `s`
determines (per transport the counters and the fatal flag, start()'s future), and the phase fits (`PhaseOK`). -/
structure Rel (c : Conf) (s : State) (k : Core) : Prop where
  t : RelT c s.trs s.done k
  ph : PhaseOK c s k

/-- The seven checks that the relation `Rel` alone carries through every step.  `chkPolarity` needs an invariant of
its own and holds only for histories without a raising main (C14Pol); `chkStop` is proved from `_stopping` without
the relation (C14Stop). -/
structure ChecksOK (c : Conf) (k : Core) (out : List Obs) : Prop where
  budget : specAll chkBudget finTrue c k false out = true
  fatal : specAll chkFatal finTrue c k false out = true
  first : specAll chkFirst finTrue c k false out = true
  doneOnce : specAll chkDoneOnce finTrue c k false out = true
  delay : (∀ i, 0 ≤ (c.maxD i).num) → specAll chkDelay finTrue c k false out = true
  rr : specAll chkRoundRobin finTrue c k false out = true
  giveUp : specAll chkGiveUp finTrue c k false out = true

theorem ChecksOK.append {c : Conf} {k : Core} {a b : List Obs}
    (ha : ChecksOK c k a) (hb : ChecksOK c (feedAll c k a) b) : ChecksOK c k (a ++ b) :=
  ⟨specAll_append_true ha.budget hb.budget, specAll_append_true ha.fatal hb.fatal,
   specAll_append_true ha.first hb.first, specAll_append_true ha.doneOnce hb.doneOnce,
   fun h => specAll_append_true (ha.delay h) (hb.delay h), specAll_append_true ha.rr hb.rr,
   specAll_append_true ha.giveUp hb.giveUp⟩

theorem ChecksOK.quiet (c : Conf) (k : Core) (l : List Obs) (h : ∀ o ∈ l, o.quiet = true) :
    ChecksOK c k l :=
  ⟨specAll_quiet _ chkBudget_ad c k l h, specAll_quiet _ chkFatal_ad c k l h, specAll_quiet _ chkFirst_ad c k l h,
   specAll_quiet _ chkDoneOnce_ad c k l h, fun _ => specAll_quiet _ chkDelay_ad c k l h,
   specAll_quiet _ chkRoundRobin_ad c k l h, specAll_quiet _ chkGiveUp_ad c k l h⟩

theorem ChecksOK.nil (c : Conf) (k : Core) : ChecksOK c k [] :=
  ChecksOK.quiet c k [] (by simp)

theorem elig_eq_can {c : Conf} {k : Core} {i : Nat} {t : Tr} (h : TrRel c k i t) :
    elig c k i = t.canReconnect := by
  simp only [elig, budgetOk, Tr.canReconnect, h.mr, h.failed, h.cnt_eq]
  cases t.permFail <;> simp
  by_cases h1 : t.maxRetries = -1 <;> simp [h1]

theorem elig_eq_canAt {c : Conf} {trs : List Tr} {done : Option Bool} {k : Core}
    (h : RelT c trs done k) (j : Nat) (hj : j < c.n) :
    elig c k j = canAt trs j := by
  have hj' : j < trs.length := h.n_eq ▸ hj
  have hg : trs[j]? = some trs[j] := List.getElem?_eq_getElem hj'
  simp only [canAt, hg]
  exact elig_eq_can (h.tr j _ hg)

theorem anyElig_eq {c : Conf} {trs : List Tr} {done : Option Bool} {k : Core}
    (h : RelT c trs done k) :
    anyElig c k = trs.any Tr.canReconnect := by
  rw [Bool.eq_iff_iff]
  simp only [anyElig, List.any_eq_true, List.mem_range]
  constructor
  · rintro ⟨j, hj, he⟩
    rw [elig_eq_canAt h j hj] at he
    have hj' : j < trs.length := h.n_eq ▸ hj
    simp only [canAt, List.getElem?_eq_getElem hj'] at he
    exact ⟨trs[j], List.getElem_mem hj', he⟩
  · rintro ⟨t, hmem, hcan⟩
    obtain ⟨j, hj, hget⟩ := List.getElem_of_mem hmem
    refine ⟨j, h.n_eq ▸ hj, ?_⟩
    rw [elig_eq_canAt h j (h.n_eq ▸ hj)]
    simp [canAt, List.getElem?_eq_getElem hj, hget, hcan]

theorem firstElig_eq_pick {c : Conf} {trs : List Tr} {done : Option Bool} {k : Core}
    (h : RelT c trs done k) (start : Nat) :
    firstElig c k start = pick trs (start % c.n) trs.length := by
  rw [pick_eq_find, firstElig, ← h.n_eq]
  have e1 : (List.range c.n).map (fun j => (start % c.n + j) % c.n)
      = (List.range c.n).map (fun j => (start + j) % c.n) := by
    apply List.map_congr_left
    intro a _
    exact Nat.mod_add_mod _ _ _
  rw [e1]
  apply find?_congr
  intro x hx
  rw [List.mem_map] at hx
  obtain ⟨a, ha, rfl⟩ := hx
  have hn : 0 < c.n := by
    have := List.mem_range.mp ha; omega
  exact elig_eq_canAt h _ (Nat.mod_lt _ hn)

theorem TrRel.of_eq {c : Conf} {k k' : Core} {i : Nat} {t t' : Tr} (h : TrRel c k i t)
    (h1 : k'.cnt i = k.cnt i) (h2 : k'.ever i = k.ever i) (h3 : k'.failed i = k.failed i)
    (e : TrAs t t' t.attempts) : TrRel c k' i t' :=
  ⟨by rw [e.mr]; exact h.mr, by rw [e.maxD]; exact h.maxD,
   by rw [h1, e.att]; exact h.cnt_eq, by rw [h2, e.att]; exact h.ever, by rw [h3, e.pf]; exact h.failed⟩

/-- changing only the Spec side on fields the per-transport relation does not read -/
theorem RelT.core_congr {c : Conf} {trs : List Tr} {done done' : Option Bool} {k k' : Core}
    (h : RelT c trs done k) (hcnt : k'.cnt = k.cnt) (hever : k'.ever = k.ever) (hfailed : k'.failed = k.failed)
    (hdone : k'.done = done') : RelT c trs done' k' :=
  ⟨h.n_eq, fun i t hg => (h.tr i t hg).of_eq (by rw [hcnt]) (by rw [hever]) (by rw [hfailed]) ⟨rfl, rfl, rfl, rfl⟩,
    hdone⟩

theorem RelT.update {c : Conf} {trs : List Tr} {done done' : Option Bool} {k k' : Core}
    (h : RelT c trs done k) (i : Nat) (f : Tr → Tr)
    (hi : ∀ t, trs[i]? = some t → TrRel c k i t → TrRel c k' i (f t))
    (hne : ∀ j, j ≠ i → k'.cnt j = k.cnt j ∧ k'.ever j = k.ever j ∧ k'.failed j = k.failed j)
    (hd : k'.done = done') : RelT c (updAt f trs i) done' k' := by
  refine ⟨by rw [updAt_length]; exact h.n_eq, ?_, hd⟩
  intro j t' hg
  by_cases hji : j = i
  · subst hji
    cases hgi : trs[j]? with
    | none => rw [updAt_get, if_pos rfl, hgi] at hg; cases hg
    | some t =>
      rw [updAt_get_same f trs j t hgi] at hg
      cases hg
      exact hi t hgi (h.tr j t hgi)
  · rw [updAt_get_ne f trs i j hji] at hg
    obtain ⟨h1, h2, h3⟩ := hne j hji
    exact (h.tr j t' hg).of_eq h1 h2 h3 ⟨rfl, rfl, rfl, rfl⟩

theorem RelT.keep {c : Conf} {trs : List Tr} {done : Option Bool} {k : Core}
    (h : RelT c trs done k) (i : Nat) (f : Tr → Tr)
    (hf : ∀ t, trs[i]? = some t → TrAs t (f t) t.attempts) : RelT c (updAt f trs i) done k :=
  h.update i f (fun t hg r => r.of_eq rfl rfl rfl (hf t hg))
    (fun _ _ => ⟨rfl, rfl, rfl⟩) h.done_eq

theorem RelT.att {c : Conf} {trs : List Tr} {done : Option Bool} {k : Core}
    (h : RelT c trs done k) (i : Nat) (w tm : Q) :
    RelT c (updAt (fun t => { t with attempts := t.attempts + 1 }) trs i) done (k.feed c (.att i w tm)) :=
  h.update i _
    (fun t _ r => ⟨r.mr, r.maxD, by simp [Core.feed, upd, r.cnt_eq], by simp [Core.feed, upd, r.ever], r.failed⟩)
    (fun j hj => by simp [Core.feed, upd, hj]) h.done_eq

theorem RelT.fatal {c : Conf} {trs : List Tr} {done : Option Bool} {k : Core}
    (h : RelT c trs done k) (i : Nat) :
    RelT c (updAt Tr.failed trs i) done (k.feed c (.fatal i)) :=
  h.update i _ (fun t _ r => ⟨r.mr, r.maxD, r.cnt_eq, r.ever, by simp [Core.feed, upd, Tr.failed]⟩)
    (fun j hj => by simp [Core.feed, upd, hj]) h.done_eq

/-- a join on transport `i`: `on_join` zeroes the transport's attempts, the Spec resets its counter -/
theorem RelT.join {c : Conf} {trs : List Tr} {done : Option Bool} {k : Core}
    (h : RelT c trs done k) (i : Nat) (f : Tr → Tr)
    (hf : ∀ t, TrAs t (f t) 0) : RelT c (updAt f trs i) done (k.feed c (.join i)) :=
  h.update i f
    (fun t _ r => ⟨by rw [(hf t).mr]; exact r.mr, by rw [(hf t).maxD]; exact r.maxD,
      by simp [Core.feed, upd, (hf t).att], by simp [Core.feed, (hf t).att],
      by rw [(hf t).pf]; exact r.failed⟩)
    (fun j hj => by simp [Core.feed, upd, hj]) h.done_eq

theorem RelT.setDone {c : Conf} {trs : List Tr} {k : Core} {ok : Bool}
    (h : RelT c trs none k) : RelT c trs (some ok) (k.feed c (.done ok)) :=
  h.core_congr rfl rfl rfl rfl

theorem RelM.core_congr {c : Conf} {s : State} {k k' : Core} (h : RelM c s k)
    (hcnt : k'.cnt = k.cnt) (hever : k'.ever = k.ever) (hfailed : k'.failed = k.failed) (hdone : k'.done = k.done)
    (hlast : k'.last = k.last) : RelM c s k' :=
  ⟨h.t.core_congr hcnt hever hfailed (by rw [hdone, h.t.done_eq]), by rw [hlast]; exact h.cur⟩

/-- the transport `transport_check` has chosen, after `next_delay()`: the relation stands, and the transport is the
one the spec expects next, after a wait the checks accept -/
theorem RelM.chosen {c : Conf} {s : State} {k : Core} (h : RelM c s k) {i : Nat} {t t' : Tr} {d : Q}
    (hpick : pick s.trs s.cursor s.trs.length = some i) (hget : s.trs[i]? = some t) (nf : NextDelayFacts t t' d) :
    RelT c (updAt (fun _ => t') s.trs i) s.done k ∧ Chosen c k ((i + 1) % s.trs.length) i d := by
  have r := h.t.tr i t hget
  refine ⟨h.t.keep i _ fun t₀ hg => by cases hget.symm.trans hg; exact nf.toTrAs, ?_, ?_, ?_, ?_⟩
  · by_cases h0 : t.attempts = 0
    · exact .inr (nf.zero h0 ▸ Q.zero_isZero)
    · exact .inl fun he => h0 (Nat.le_zero.mp (he ▸ r.ever))
  · rw [r.maxD]; exact nf.le
  · rw [firstElig_eq_pick h.t, ← h.cur]; exact hpick
  · rw [h.t.n_eq]

/-- between steps, unless a retry delay is pending or the loop has ended, the cursor stands where the spec expects
the next search to start -/
theorem Rel.live {c : Conf} {s : State} {k : Core} (h : Rel c s k) {i : Nat} (hp : Live s i) : RelM c s k := by
  rcases hp with hp | hp | hp <;> exact ⟨h.t, by simpa only [PhaseOK, hp] using h.ph⟩

theorem Rel.idle {c : Conf} {s : State} {k : Core} (h : Rel c s k) (hp : s.phase = .idle) : RelM c s k :=
  ⟨h.t, by simpa only [PhaseOK, hp] using h.ph⟩

theorem Rel.waiting {c : Conf} {s : State} {k : Core} (h : Rel c s k) {i : Nat} {d : Q}
    (hp : s.phase = .waiting i d) : Chosen c k s.cursor i d := by
  simpa only [PhaseOK, hp] using h.ph

theorem Rel.dead {c : Conf} {s : State} {k : Core} (h : Rel c s k) (hp : s.phase = .dead) :
    s.done.isSome = true := by
  simpa only [PhaseOK, hp] using h.ph

theorem Rel.not_crashed {c : Conf} {s : State} {k : Core} (h : Rel c s k) : s.phase ≠ .crashed := fun hp => by
  simpa only [PhaseOK, hp] using h.ph

theorem Rel.feed_stop {c : Conf} {s : State} {k : Core} (h : Rel c s k) : Rel c s (k.feed c .stop) :=
  ⟨h.t.core_congr rfl rfl rfl h.t.done_eq, h.ph⟩

theorem Rel.set_stopping {c : Conf} {s : State} {k : Core} (h : Rel c s k) :
    Rel c { s with stopping := true } k := ⟨h.t, h.ph⟩

end Abverif.Comp

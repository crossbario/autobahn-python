import Abverif.Proofs.Lemmas.SchemaSteps
/-
What `Schema.parse` establishes about a message it accepts.  `FieldsInv σ O w m` says it attribute by attribute, for
every class (`parseFields_inv`, `parse_inv`; `parse_ok_parts` for the constructor's `_validate_kwargs`): the later
files read it.  For a class without `roles` it gives strictness (C08): `Schema.strict`, i.e. ids in range, URIs
accepted by the recogniser for their flags, options of their checked types, tail well-shaped (`parse_strict_core`).
-/
namespace Abverif.Wamp
open Schema

theorem length_tail_of_lengths {σ : Schema} {w : List WVal} (hwf : σ.wf = true)
    (hl : σ.lengths.contains w.length = true) :
    σ.pos.length ≤ w.tail.length ∨ (σ.optsOptional = true ∧ w.tail.length + 1 = σ.pos.length) := by
  rw [lengths_contains] at hl
  simp only [List.length_tail, Schema.k] at hl ⊢
  split at hl
  · left; omega
  · rcases hl with ⟨hopt, h⟩ | h
    · rcases (wf_parts hwf).optional with h0 | ⟨_, _, hk⟩
      · rw [hopt] at h0; cases h0
      · simp only [Schema.k] at hk
        right; exact ⟨hopt, by omega⟩
    · left; omega

theorem parsePos_full {σ : Schema} {O : Oracles} {w : List WVal} {pm : Msg} (hwf : σ.wf = true)
    (hl : σ.lengths.contains w.length = true) (h : parsePos O w σ.pos w.tail = .ok pm) :
    pm.map (·.1) = σ.pos.filterMap PosStep.field? ∧
    ∀ p ∈ σ.pos, ∀ f, p.field? = some f → ∃ v, (f, v) ∈ pm ∧ p.accepts O w v := by
  obtain ⟨rfl, hacc⟩ := parsePos_spec.ok h
  -- the positions that have a value: all of them, or all but the optional dictionary
  obtain ⟨ps, qs, hpos, hle, hq, hz⟩ : ∃ ps qs, σ.pos = ps ++ qs ∧ ps.length ≤ w.tail.length ∧
      qs.filterMap PosStep.field? = [] ∧ σ.pos.zip w.tail = ps.zip w.tail := by
    rcases length_tail_of_lengths hwf hl with hle | ⟨hopt, hlen⟩
    · exact ⟨σ.pos, [], (List.append_nil _).symm, hle, rfl, rfl⟩
    · have hdl : σ.pos.dropLast.length = w.tail.length := by simp only [List.length_dropLast]; omega
      refine ⟨σ.pos.dropLast, [.opts], pos_last_opts hwf hopt, Nat.le_of_eq hdl, rfl, ?_⟩
      conv => lhs; rw [pos_last_opts hwf hopt, ← List.append_nil w.tail]
      rw [List.zip_append hdl, List.zip_nil_right, List.append_nil]
  rw [hz] at hacc ⊢
  have hfst : (ps.zip w.tail).map (·.1) = ps := List.map_fst_zip hle
  constructor
  · rw [List.map_filterMap, hpos, List.filterMap_append, hq, List.append_nil]
    conv => rhs; rw [← hfst, List.filterMap_map]
    exact congrArg (List.filterMap · _) (funext fun pv => by simp [Function.comp_def])
  · intro p hp f hf
    rcases List.mem_append.mp (hpos ▸ hp) with hp | hp
    · rw [← hfst] at hp
      obtain ⟨pv, hpv, rfl⟩ := List.mem_map.mp hp
      exact ⟨pv.2, List.mem_filterMap.mpr ⟨pv, hpv, by rw [hf]; rfl⟩, hacc pv hpv⟩
    · have : f ∈ qs.filterMap PosStep.field? := List.mem_filterMap.mpr ⟨p, hp, hf⟩
      rw [hq] at this
      cases this

theorem OptStep.parse_ok {O : Oracles} {d : Dict} {s : OptStep} {v : WVal}
    (hwf : OptStep.wf s = true) (hr : s.ty.isRoles = false) (h : s.parse O d = .ok v) :
    isDflt s.dflt v = true ∨ s.ty.valid O v = true := by
  cases hg : Dict.get? d s.key with
  | none =>
    rw [OptStep.parse_absent hg h]
    exact Or.inl (OptStep.isDflt_dflt hwf)
  | some x =>
    rw [OptStep.parse_present hg] at h
    obtain ⟨rfl, h2⟩ := (OTy.check_spec hr).ok h
    exact Or.inr h2

/-- names and results of the typed entries, for every option type (`roles` included) -/
theorem parseOpts_mem {O : Oracles} {d : Dict} (ss : List OptStep) (om : Msg) (h : parseOpts O d ss = .ok om) :
    om.map (·.1) = ss.map (·.field) ∧ ∀ s ∈ ss, ∃ v, (s.field, v) ∈ om ∧ s.parse O d = .ok v := by
  obtain ⟨hl, hall⟩ := parseOpts_spec.ok h
  have hfst : (ss.zip om).map (·.1) = ss := List.map_fst_zip (Nat.le_of_eq hl.symm)
  have hsnd : (ss.zip om).map (·.2) = om := List.map_snd_zip (Nat.le_of_eq hl)
  constructor
  · conv => lhs; rw [← hsnd]
    conv => rhs; rw [← hfst]
    simp only [List.map_map]
    exact List.map_congr_left fun sk hsk => (hall sk hsk).1
  · intro s hs
    rw [← hfst] at hs
    obtain ⟨sk, hsk, rfl⟩ := List.mem_map.mp hs
    exact ⟨sk.2.2, (hall sk hsk).1 ▸ (List.of_mem_zip hsk).2, (hall sk hsk).2⟩

theorem parseOpts_ok {O : Oracles} {d : Dict} :
    ∀ (ss : List OptStep) (om : Msg), (∀ s ∈ ss, OptStep.wf s = true ∧ s.ty.isRoles = false) →
      parseOpts O d ss = .ok om →
      om.map (·.1) = ss.map (·.field) ∧
      ∀ s ∈ ss, ∃ v, (s.field, v) ∈ om ∧ s.parse O d = .ok v ∧ (isDflt s.dflt v = true ∨ s.ty.valid O v = true) := by
  intro ss om hw h
  obtain ⟨hn, hl⟩ := parseOpts_mem ss om h
  refine ⟨hn, fun s hs => ?_⟩
  obtain ⟨v, hv, hp⟩ := hl s hs
  exact ⟨v, hv, hp, OptStep.parse_ok (hw s hs).1 (hw s hs).2 hp⟩

theorem checkArgs_ok {v : ArgsVariant} {x a : WVal} (h : checkArgs v x = .ok a) : argsShape v a = true := by
  unfold checkArgs at h
  split at h
  · cases h; rfl
  · cases h; cases v <;> rfl
  · cases h; rfl
  · cases h; rfl
  · cases h

theorem argsPart_ok {t : TailSpec} {k : Nat} {w : List WVal} {a : WVal} (h : argsPart t k w = .ok a) :
    argsShape t.variant a = true := by
  unfold argsPart at h
  split at h
  · exact checkArgs_ok h
  · cases h; exact argsShape_null _

theorem payloadMode_bytes {k : Nat} {w : List WVal} (h : payloadMode k w = true) :
    ∃ b, w.getD (k + 1) .null = .bytes b := by
  unfold payloadMode at h
  simp only [Bool.and_eq_true] at h
  have h2 := h.2
  split at h2
  · exact ⟨_, by assumption⟩
  · cases h2

theorem parseTail_ok {O : Oracles} {t : TailSpec} {k : Nat} {d : Dict} {w : List WVal} {tm : Msg}
    (h : parseTail O t k d w = .ok tm) :
    ∃ a kw p ea ek es, tm = tailOf a kw p ea ek es ∧ TailOk O t.variant a kw p ea ek es := by
  unfold parseTail at h
  split at h
  · rename_i hmode
    obtain ⟨ea, hea, h⟩ := bind_eq_ok h
    obtain ⟨ek, hek, h⟩ := bind_eq_ok h
    obtain ⟨es, hes, h⟩ := bind_eq_ok h
    obtain ⟨u, hg, h⟩ := bind_eq_ok h
    obtain ⟨b, hb⟩ := payloadMode_bytes hmode
    rw [hb] at h
    cases h
    exact ⟨.null, .null, .bytes b, ea, ek, es, rfl, argsShape_null _, Or.inr ⟨rfl, rfl⟩, Or.inr rfl,
      (encGet_spec.ok hea).2, (encGet_spec.ok hek).2, (encGet_spec.ok hes).2,
      (encTripleGate_spec.ok hg).imp_right (fun h => ⟨rfl, h⟩)⟩
  · obtain ⟨a, ha, h⟩ := bind_eq_ok h
    obtain ⟨kw, _, h⟩ := bind_eq_ok h
    cases h
    exact ⟨a, kw, .null, .null, .null, .null, rfl, argsPart_ok ha, Or.inl rfl, Or.inl rfl, Or.inl rfl, Or.inl rfl,
      Or.inl rfl, Or.inl ⟨rfl, rfl, rfl⟩⟩

theorem tailPart_ok {σ : Schema} {O : Oracles} {w : List WVal} {tm : Msg} (h : σ.tailPart O w = .ok tm) :
    tm.map (·.1) = (if σ.tail.isSome then tailFields else []) ∧
    ∀ t, σ.tail = some t → ∃ a kw p ea ek es, tm = tailOf a kw p ea ek es ∧ TailOk O t.variant a kw p ea ek es := by
  unfold Schema.tailPart at h
  split at h
  · rename_i t ht
    obtain ⟨a, kw, p, ea, ek, es, he, hs⟩ := parseTail_ok h
    refine ⟨by rw [he, ht]; rfl, fun t' ht' => ?_⟩
    cases ht.symm.trans ht'
    exact ⟨a, kw, p, ea, ek, es, he, hs⟩
  · rename_i ht
    cases h
    exact ⟨by rw [ht]; rfl, fun t h => by rw [ht] at h; cases h⟩

/-- what the field-by-field part of `parse` establishes about the attributes of the message it returns — for every
class, HELLO and WELCOME included -/
structure FieldsInv (σ : Schema) (O : Oracles) (w : List WVal) (m : Msg) : Prop where
  len : σ.lengths.contains w.length = true
  names : m.map (·.1) = σ.fieldNames
  pos : ∀ p ∈ σ.pos, PosStep.strict O m p = true
  opts : ∀ s ∈ σ.opts, s.parse O (σ.optsOf w) = .ok (m.get s.field)
  tail : ∀ t, σ.tail = some t → TailInv O t m
  custom : σ.custom = true → m.get cs!"custom" = .dict ((σ.optsOf w).filter (fun kv => O.customAttr kv.1))

theorem parseFields_inv {σ : Schema} {O : Oracles} {w : List WVal} {m' : Msg} (hwf : σ.wf = true)
    (hps : σ.parseFields O w = .ok m') : FieldsInv σ O w m' := by
  unfold Schema.parseFields at hps
  split at hps
  · cases hps
  rename_i hlen
  have hl : σ.lengths.contains w.length = true := by simpa using hlen
  obtain ⟨pm, hpm, hps⟩ := bind_eq_ok hps
  obtain ⟨tm, htm, hps⟩ := bind_eq_ok hps
  obtain ⟨om, hom, hps⟩ := bind_eq_ok hps
  cases hps
  obtain ⟨hpn, hpl⟩ := parsePos_full hwf hl hpm
  obtain ⟨hon, hol⟩ := parseOpts_mem σ.opts om hom
  obtain ⟨htn, htl⟩ := tailPart_ok htm
  have hcn : (σ.customPart O w).map (·.1) = (if σ.custom then [cs!"custom"] else []) := by
    unfold Schema.customPart
    split <;> rfl
  have hnames : (pm ++ tm ++ om ++ σ.customPart O w).map (·.1) = σ.fieldNames := by
    simp only [List.map_append, hpn, htn, hon, hcn, Schema.fieldNames, tailFields]
  -- the names are distinct, so an attribute is what any of the four parts holds under its name
  have hget : ∀ f v, (f, v) ∈ pm ++ tm ++ om ++ σ.customPart O w → Msg.get (pm ++ tm ++ om ++ σ.customPart O w) f = v :=
    fun f v hm => Msg.get_of_mem (hnames ▸ (wf_parts hwf).names) hm
  have hopts : ∀ s ∈ σ.opts, s.parse O (σ.optsOf w) = .ok (Msg.get (pm ++ tm ++ om ++ σ.customPart O w) s.field) := by
    intro s hs
    obtain ⟨v, hv, hp⟩ := hol s hs
    rw [hget _ _ (List.mem_append_left _ (List.mem_append_right _ hv))]
    exact hp
  refine ⟨hl, hnames, ?_, hopts, ?_, ?_⟩
  · -- the value a step accepted is the attribute, and accepting it is the strictness test
    intro p hp
    cases p with
    | opts => rfl
    | _ =>
      obtain ⟨v, hv, hloc⟩ := hpl _ hp _ rfl
      refine (PosStep.accepts_iff_strict hwf hp hopts rfl).mp ?_
      rw [hget _ _ (List.mem_append_left _ (List.mem_append_left _ (List.mem_append_left _ hv)))]
      exact hloc
  · intro t ht
    have hg : ∀ kv ∈ tm, Msg.get (pm ++ tm ++ om ++ σ.customPart O w) kv.1 = kv.2 := fun kv h =>
      hget _ _ (List.mem_append_left _ (List.mem_append_left _ (List.mem_append_right _ h)))
    obtain ⟨a, kw, p, ea, ek, es, rfl, hs⟩ := htl t ht
    simp only [tailOf, List.forall_mem_cons] at hg
    obtain ⟨ga, gk, gp, gea, gek, ges, _⟩ := hg
    unfold TailInv tailOf
    rw [ga, gk, gp, gea, gek, ges]
    exact hs
  · intro hcu
    apply hget
    apply List.mem_append_right
    simp [Schema.customPart, hcu]

/-- **strictness** from the invariant of the field-by-field part plus `_validate_kwargs` -/
theorem strict_of_inv {σ : Schema} {O : Oracles} {w : List WVal} {m' : Msg}
    (hwf : σ.wf = true) (hnr : σ.noRoles = true) (inv : FieldsInv σ O w m')
    (hkw : ∀ t, σ.tail = some t → m'.get cs!"kwargs" = .null ∨ ∃ kvs, m'.get cs!"kwargs" = .dict kvs) :
    σ.strict O m' = true := by
  simp only [Schema.noRoles, List.all_eq_true, Bool.not_eq_true'] at hnr
  refine strict_iff.mpr ⟨inv.names, inv.pos, ?_, ?_, ?_⟩
  · -- typed entries
    intro s hs
    simp only [OptStep.strict, Bool.or_eq_true]
    exact OptStep.parse_ok ((wf_parts hwf).opts s hs) (hnr s hs) (inv.opts s hs)
  · -- tail
    cases hts : σ.tail with
    | none => rfl
    | some t =>
      exact tailStrict_iff.mpr ⟨inv.tail t hts, hkw t hts⟩
  · -- custom attributes
    cases hcu : σ.custom with
    | false => exact Or.inl rfl
    | true =>
      right
      rw [inv.custom hcu]
      simp [List.all_filter]

theorem parseStage_fields {σ : Schema} {O : Oracles} {w : List WVal} {m : Msg} (h : σ.parseStage O w = .ok m) :
    σ.parseFields O w = .ok m ∧ ctorCross .protocol O m σ.pcross = .ok () := by
  unfold Schema.parseStage at h
  obtain ⟨m', hf, h⟩ := bind_eq_ok h
  obtain ⟨u, hc, h⟩ := bind_eq_ok h
  cases h
  exact ⟨hf, hc⟩

/-- what a successful `parse` went through: the field-by-field part and, in a class with a tail, `_validate_kwargs` -/
theorem parse_ok_parts {σ : Schema} {O : Oracles} {w : List WVal} {m : Msg} (h : σ.parse O w = .ok m) :
    σ.parseFields O w = .ok m ∧
      ∀ t, σ.tail = some t → m.get cs!"kwargs" = .null ∨ ∃ kvs, m.get cs!"kwargs" = .dict kvs := by
  unfold Schema.parse at h
  obtain ⟨m', hps, h⟩ := bind_eq_ok h
  obtain ⟨u, hcs, h⟩ := bind_eq_ok h
  cases h
  refine ⟨(parseStage_fields hps).1, fun t hts => kwargsCheck_spec.ok (a := ()) ?_⟩
  unfold Schema.ctorStage at hcs
  obtain ⟨_, _, hcs⟩ := bind_eq_ok hcs
  obtain ⟨_, _, hkw⟩ := bind_eq_ok hcs
  simpa [hts] using hkw

theorem parse_inv {σ : Schema} {O : Oracles} {w : List WVal} {m : Msg} (hwf : σ.wf = true) (h : σ.parse O w = .ok m) :
    FieldsInv σ O w m :=
  parseFields_inv hwf (parse_ok_parts h).1

theorem ctorOpts_inv {cls : ErrClass} {m : Msg} : ∀ ss : List OptStep, ctorOpts cls m ss = .ok () → ∀ s ∈ ss, s.cty.ok (m.get s.field) = true :=
  fun ss => (ctorOpts_ok_iff ss).mp

theorem parse_strict_core (σ : Schema) (O : Oracles) (w : List WVal) (m : Msg)
    (hwf : σ.wf = true) (hnr : σ.noRoles = true)
    (h : σ.parse O w = .ok m) : σ.strict O m = true :=
  strict_of_inv hwf hnr (parse_inv hwf h) (parse_ok_parts h).2

end Abverif.Wamp

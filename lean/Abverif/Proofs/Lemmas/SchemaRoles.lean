import Abverif.Proofs.Lemmas.SchemaOpts
/-
HELLO / WELCOME `roles`: `rolesCheck (rolesEncode v) = v` for every value `rolesValid` admits, and the check raises
only `ProtocolError`; with that, what holds of `OTy.check` for every option type.
-/
namespace Abverif.Wamp

/-- a list that agrees with `fd` on keys (in order) and whose values are what `fd` maps those keys to is `fd`:
both are the key list with the looked-up value put beside each key -/
theorem eq_of_keys_and_lookup (fd : Dict) (hnd : nodup (fd.map (·.1)) = true) (L : Dict)
    (hk : L.map (·.1) = fd.map (·.1)) (hl : ∀ e ∈ L, Dict.get? fd e.1 = some e.2) : L = fd := by
  rw [← Msg.rebuild fd hnd, ← hk, List.map_map]
  conv => lhs; rw [← List.map_id L]
  apply List.map_congr_left
  intro e he
  show e = (e.1, Msg.get fd e.1)
  rw [Msg.get_eq_getD, hl e he]
  rfl

theorem featCanon_mem {fd : Dict} {known : List Str} : ∀ e ∈ featCanon fd known, Dict.get? fd e.1 = some e.2 := by
  intro e he
  unfold featCanon at he
  obtain ⟨f, _, hf⟩ := List.mem_filterMap.mp he
  split at hf
  · rename_i b hb
    injection hf with hf
    subst hf
    exact hb
  · cases hf

theorem featCanon_eq {fd : Dict} {known : List Str} (h : rolesFeatValid known fd = true) : featCanon fd known = fd := by
  simp only [rolesFeatValid, Bool.and_eq_true, beq_iff_eq] at h
  obtain ⟨⟨_, hk⟩, hnd⟩ := h
  exact eq_of_keys_and_lookup fd hnd _ hk featCanon_mem

theorem featBad_false_of_all_bool {fd : Dict} (h : fd.all (fun kv => kv.2.isBool) = true) (f : Str) : featBad fd f = false := by
  unfold featBad Dict.get?
  cases hfind : fd.find? (fun kv => kv.1 == f) with
  | none => rfl
  | some kv =>
    have hb : kv.2.isBool = true := List.all_eq_true.mp h kv (List.mem_of_find?_eq_some hfind)
    obtain ⟨k, v⟩ := kv
    cases v <;> first | rfl | exact absurd hb Bool.false_ne_true

theorem featuresCheck_valid {site : Str} {known : List Str} {fd : Dict} (h : rolesFeatValid known fd = true) :
    featuresCheck site known fd = .ok fd := by
  have hc := featCanon_eq h
  simp only [rolesFeatValid, Bool.and_eq_true] at h
  obtain ⟨⟨hb, _⟩, _⟩ := h
  unfold featuresCheck
  have hbad : known.any (featBad fd) = false := by
    rw [List.any_eq_false]
    intro f _
    simp [featBad_false_of_all_bool hb f]
  simp only [Bool.false_eq_true, if_false, hbad, hc]

theorem roleEnc_nil : roleEnc (.dict []) = .dict [] := rfl
theorem roleEnc_cons (e : Str × WVal) (fd : Dict) : roleEnc (.dict (e :: fd)) = .dict [(cs!"features", .dict (e :: fd))] := rfl

theorem rolesEncode_dict (dr : Dict) : rolesEncode (.dict dr) = .dict (dr.map (fun rv => (rv.1, roleEnc rv.2))) := rfl

theorem rolesLoop_encode (site : Str) (allowed : List Str) (feats : List (Str × List Str)) :
    ∀ dr : Dict,
      dr.all (fun rv => strMem rv.1 allowed &&
        (match rv.2 with | .dict fd => rolesFeatValid (roleKnown feats rv.1) fd | _ => false)) = true →
      rolesLoop site allowed feats (dr.map (fun rv => (rv.1, roleEnc rv.2))) = .ok dr := by
  intro dr
  induction dr with
  | nil => intro _; rfl
  | cons rv t ih =>
    obtain ⟨role, fs⟩ := rv
    intro h
    simp only [List.all_cons, Bool.and_eq_true] at h
    obtain ⟨⟨hrole, hfs⟩, ht⟩ := h
    have iht := ih ht
    simp only [List.map_cons]
    cases fs with
    | dict fd =>
      simp only at hfs
      cases fd with
      | nil =>
        rw [roleEnc_nil]
        simp only [rolesLoop, hrole, Bool.not_true, Bool.false_eq_true, if_false, Dict.get?, List.find?,
          Option.map_none]
        rw [iht]
        rfl
      | cons e fd' =>
        rw [roleEnc_cons]
        simp only [rolesLoop, hrole, Bool.not_true, Bool.false_eq_true, if_false, Dict.get?_cons_self]
        rw [featuresCheck_valid hfs]
        simp only [bind, Except.bind]
        rw [iht]
        rfl
    | _ => simp at hfs

theorem rolesCheck_encode {site : Str} {allowed : List Str} {feats : List (Str × List Str)} {v : WVal}
    (h : rolesValid allowed feats v = true) : rolesCheck site allowed feats (rolesEncode v) = .ok v := by
  cases v with
  | dict dr =>
    simp only [rolesValid, Bool.and_eq_true, Bool.not_eq_true'] at h
    obtain ⟨⟨hne, _⟩, hall⟩ := h
    rw [rolesEncode_dict]
    cases dr with
    | nil => simp at hne
    | cons rv t =>
      have := rolesLoop_encode site allowed feats (rv :: t) hall
      simp only [List.map_cons] at this ⊢
      simp only [rolesCheck, this]
      rfl
  | _ => simp [rolesValid] at h

theorem rolesCheck_dict {site : Str} {allowed : List Str} {feats : List (Str × List Str)} {x v : WVal}
    (h : rolesCheck site allowed feats x = .ok v) : ∃ d, v = .dict d := by
  unfold rolesCheck at h
  split at h
  · cases h
  · obtain ⟨r, _, h⟩ := bind_eq_ok h
    cases h
    exact ⟨r, rfl⟩
  · cases h

theorem OTy.check_encode_of_valid (O : Oracles) (site : Str) {ty : OTy} {v : WVal}
    (h : ty.valid O v = true) : ty.check O site (ty.encode v) = .ok v := by
  rcases ty.roles_or_not with ⟨a, f, rfl⟩ | hr
  · exact rolesCheck_encode h
  · rw [OTy.encode_of_not_roles hr]
    exact (OTy.check_spec hr).of ⟨rfl, h⟩

/-- a feature named `self` is an unknown feature like any other (`self` is positional-only in the `Role*Features`
constructors): `ProtocolError` or nothing, no `TypeError` -/
theorem featuresCheck_allowed (site : Str) (known : List Str) (fd : Dict) :
    ErrIn Allowed (featuresCheck site known fd) := by
  unfold featuresCheck
  exact ErrIn.ite (ErrIn.fail _ allowed_protocol) (ErrIn.ok _)

theorem rolesLoop_allowed (site : Str) (allowed : List Str) (feats : List (Str × List Str)) :
    ∀ dr : Dict, ErrIn Allowed (rolesLoop site allowed feats dr) := by
  intro dr
  induction dr with
  | nil => exact ErrIn.ok _
  | cons kv t ih =>
    obtain ⟨role, rv⟩ := kv
    unfold rolesLoop
    refine ErrIn.ite (ErrIn.fail _ allowed_protocol) ?_
    split
    · split
      · exact ih.map _
      · apply ErrIn.bind (featuresCheck_allowed _ _ _); intro _ _
        exact ih.map _
      · exact ErrIn.fail _ allowed_protocol
    · exact ErrIn.fail _ allowed_protocol

theorem rolesCheck_allowed (site : Str) (allowed : List Str) (feats : List (Str × List Str)) (v : WVal) :
    ErrIn Allowed (rolesCheck site allowed feats v) := by
  unfold rolesCheck
  split
  · exact ErrIn.fail _ allowed_protocol
  · exact (rolesLoop_allowed _ _ _ _).map _
  · exact ErrIn.fail _ allowed_protocol

theorem OTy.check_allowed (O : Oracles) (site : Str) (ty : OTy) (v : WVal) : ErrIn Allowed (ty.check O site v) := by
  rcases ty.roles_or_not with ⟨a, f, rfl⟩ | hr
  · exact rolesCheck_allowed _ _ _ _
  · exact (OTy.check_spec hr).errIn

end Abverif.Wamp

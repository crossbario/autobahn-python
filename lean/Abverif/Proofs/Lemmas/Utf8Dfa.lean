import Abverif.Model.Utf8Spec
/-
C09 helper lemmas: grammar ⇔ decision procedure ⇔ automaton.
`lang s` is the residual language of automaton state `s` written from the grammar: the byte strings that
complete a UTF8-char whose beginning put the automaton in `s`, followed by any well-formed string.
-/
namespace Abverif.Utf8

theorem inR_iff (lo hi : Nat) (a : UInt8) : inR lo hi a = true ↔ lo ≤ a.toNat ∧ a.toNat ≤ hi := by
  simp [inR]

theorem inR_zero (hi : Nat) (a : UInt8) : inR 0 hi a = true ↔ a.toNat ≤ hi := by
  simp [inR]

theorem inR_same (n : Nat) (a : UInt8) : inR n n a = true ↔ a.toNat = n := by
  rw [inR_iff]; omega

theorem WF_of_wf (b : Bytes) : wf b = true → WF b := by
  -- one case per branch of `wf`: the first octet, the tests of the earlier alternatives that failed (`_`), the test
  -- that held, the octets read with it, the rest and its induction hypothesis; `h` holds the tests on those octets.
  -- The branches that answer `false` have `h : false = true` and are closed by the `simp only`.
  fun_induction wf b <;> intro h <;> (try simp only [Bool.and_eq_true, Bool.false_eq_true] at h)
  next => exact WF.nil
  next a r h1 ih => exact WF.cons [a] r (UChar.utf8_1 a h1) (ih h)
  next a _ h2 b r ih => exact WF.cons [a, b] r (UChar.utf8_2 a b h2 h.1) (ih h.2)
  next a _ _ h3 b c r ih => exact WF.cons [a, b, c] r (UChar.utf8_3_e0 a b c h3 h.1.1 h.1.2) (ih h.2)
  next a _ _ _ h3 b c r ih => exact WF.cons [a, b, c] r (UChar.utf8_3_e1_ec a b c h3 h.1.1 h.1.2) (ih h.2)
  next a _ _ _ _ h3 b c r ih => exact WF.cons [a, b, c] r (UChar.utf8_3_ed a b c h3 h.1.1 h.1.2) (ih h.2)
  next a _ _ _ _ _ h3 b c r ih => exact WF.cons [a, b, c] r (UChar.utf8_3_ee_ef a b c h3 h.1.1 h.1.2) (ih h.2)
  next a _ _ _ _ _ _ h4 b c d r ih =>
    exact WF.cons [a, b, c, d] r (UChar.utf8_4_f0 a b c d h4 h.1.1.1 h.1.1.2 h.1.2) (ih h.2)
  next a _ _ _ _ _ _ _ h4 b c d r ih =>
    exact WF.cons [a, b, c, d] r (UChar.utf8_4_f1_f3 a b c d h4 h.1.1.1 h.1.1.2 h.1.2) (ih h.2)
  next a _ _ _ _ _ _ _ _ h4 b c d r ih =>
    exact WF.cons [a, b, c, d] r (UChar.utf8_4_f4 a b c d h4 h.1.1.1 h.1.1.2 h.1.2) (ih h.2)

theorem inR_excl {lo hi lo' hi' : Nat} {a : UInt8} (h : inR lo hi a = true) (hd : hi < lo' ∨ hi' < lo) :
    inR lo' hi' a = false := by
  simp only [inR, Bool.and_eq_true, decide_eq_true_eq] at h
  simp only [inR, Bool.and_eq_false_iff, decide_eq_false_iff_not]
  omega

/-- the ranges of the nine alternatives are pairwise disjoint: the first octet of a UTF8-char fails every test of
`wf` but that of its own alternative -/
theorem wf_UChar_append (c r : Bytes) (hc : UChar c) : wf (c ++ r) = wf r := by
  cases hc <;> rw [List.cons_append, wf.eq_def]
  case utf8_1 a h => simp [h]
  case utf8_2 a b h hb => simp [h, hb, inR_excl h]
  case utf8_3_e0 a b c h hb hc => simp [h, hb, hc, inR_excl h]
  case utf8_3_e1_ec a b c h hb hc => simp [h, hb, hc, inR_excl h]
  case utf8_3_ed a b c h hb hc => simp [h, hb, hc, inR_excl h]
  case utf8_3_ee_ef a b c h hb hc => simp [h, hb, hc, inR_excl h]
  case utf8_4_f0 a b c d h hb hc hd => simp [h, hb, hc, hd, inR_excl h]
  case utf8_4_f1_f3 a b c d h hb hc hd => simp [h, hb, hc, hd, inR_excl h]
  case utf8_4_f4 a b c d h hb hc hd => simp [h, hb, hc, hd, inR_excl h]

theorem wf_of_WF (b : Bytes) (h : WF b) : wf b = true := by
  induction h with
  | nil => rfl
  | cons c r hc _ ih => rw [wf_UChar_append c r hc]; exact ih

def octetThen (p : UInt8 → Bool) (k : Bytes → Bool) : Bytes → Bool
  | b :: r => p b && k r
  | [] => false

def lang : Nat → Bytes → Bool
  | 0 => wf
  | 2 => octetThen isTail wf
  | 3 => octetThen isTail (octetThen isTail wf)
  | 4 => octetThen (inR 0xA0 0xBF) (octetThen isTail wf)
  | 5 => octetThen (inR 0x80 0x9F) (octetThen isTail wf)
  | 6 => octetThen (inR 0x90 0xBF) (octetThen isTail (octetThen isTail wf))
  | 7 => octetThen isTail (octetThen isTail (octetThen isTail wf))
  | 8 => octetThen (inR 0x80 0x8F) (octetThen isTail (octetThen isTail wf))
  | _ => fun _ => false

theorem ite_lt {c : Prop} [Decidable c] {a b n : Nat} (ha : a < n) (hb : b < n) : (if c then a else b) < n := by
  split <;> assumption

/-- every branch of `rfcStep` is a numeral below 9 -/
theorem rfcStep_lt (s o : Nat) : rfcStep s o < 9 := by
  unfold rfcStep
  split <;> repeat' apply ite_lt
  all_goals decide

theorem rfcStep_reject (o : Nat) : rfcStep 1 o = 1 := rfl

/-- `wf` reads the two octets after E0 / E1-EC / ED / EE-EF at once, the automaton one at a time -/
theorem octetThen_two (p q : UInt8 → Bool) (k : Bytes → Bool) (r : Bytes) :
    (match r with | b :: c :: r => p b && q c && k r | _ => false) = octetThen p (octetThen q k) r := by
  rcases r with _ | ⟨b, _ | ⟨c, r⟩⟩ <;> simp [octetThen, Bool.and_assoc]

/-- likewise the three octets after F0 / F1-F3 / F4 -/
theorem octetThen_three (p q u : UInt8 → Bool) (k : Bytes → Bool) (r : Bytes) :
    (match r with | b :: c :: d :: r => p b && q c && u d && k r | _ => false) =
      octetThen p (octetThen q (octetThen u k)) r := by
  rcases r with _ | ⟨b, _ | ⟨c, _ | ⟨d, r⟩⟩⟩ <;> simp [octetThen, Bool.and_assoc]

/-- a decision list over Boolean tests and one over the equivalent propositions agree if they agree branch by
branch -/
theorem ite_lang {c : Bool} {P : Prop} [Decidable P] (hc : c = true ↔ P) {x y : Bool} {v w : Nat} {r : Bytes}
    (hx : x = lang v r) (hy : y = lang w r) : (if c then x else y) = lang (if P then v else w) r := by
  by_cases h : P
  · rw [if_pos h, if_pos (hc.mpr h)]; exact hx
  · rw [if_neg h, if_neg (mt hc.mp h)]; exact hy

/-- `wf` and `rfcStep 0` go through the nine first-octet classes of the ABNF in the same order -/
theorem lang_step0 (a : UInt8) (r : Bytes) : wf (a :: r) = lang (rfcStep 0 a.toNat) r := by
  rw [wf.eq_def, rfcStep]
  exact ite_lang (inR_zero _ a) rfl <| ite_lang (inR_iff _ _ a) (by cases r <;> rfl) <|
    ite_lang (inR_same _ a) (octetThen_two ..) <| ite_lang (inR_iff _ _ a) (octetThen_two ..) <|
    ite_lang (inR_same _ a) (octetThen_two ..) <| ite_lang (inR_iff _ _ a) (octetThen_two ..) <|
    ite_lang (inR_same _ a) (octetThen_three ..) <| ite_lang (inR_iff _ _ a) (octetThen_three ..) <|
    ite_lang (inR_same _ a) (octetThen_three ..) rfl

/-- one-byte derivative of a range test followed by residual language `k` -/
theorem step_range (lo hi k : Nat) (a : UInt8) (r : Bytes) :
    (inR lo hi a && lang k r) = lang (if lo ≤ a.toNat ∧ a.toNat ≤ hi then k else 1) r := by
  rw [show (inR lo hi a && lang k r) = if inR lo hi a then lang k r else false by cases inR lo hi a <;> rfl]
  exact ite_lang (inR_iff lo hi a) rfl rfl

/-- one step of the automaton is the one-octet derivative of the residual language, in every state: outside the nine
states both sides are empty -/
theorem lang_step (s : Nat) (a : UInt8) (r : Bytes) : lang s (a :: r) = lang (rfcStep s a.toNat) r := by
  match s with
  | 0 => exact lang_step0 a r
  | 1 => rfl
  | 2 => exact step_range 0x80 0xBF 0 a r
  | 3 => exact step_range 0x80 0xBF 2 a r
  | 4 => exact step_range 0xA0 0xBF 2 a r
  | 5 => exact step_range 0x80 0x9F 2 a r
  | 6 => exact step_range 0x90 0xBF 3 a r
  | 7 => exact step_range 0x80 0xBF 3 a r
  | 8 => exact step_range 0x80 0x8F 3 a r
  | _ + 9 => rfl

theorem run_append (step : Nat → Nat → Nat) (s : Nat) (a b : Bytes) :
    run step s (a ++ b) = run step (run step s a) b := by
  induction a generalizing s with
  | nil => rfl
  | cons x xs ih => simp only [List.cons_append, run, ih]

theorem run_absorb (step : Nat → Nat → Nat) (rej : Nat) (habs : ∀ o, step rej o = rej) (b : Bytes) :
    run step rej b = rej := by
  induction b with
  | nil => rfl
  | cons x xs ih => simpa [run, habs] using ih

theorem run_reject (b : Bytes) : run rfcStep 1 b = 1 := run_absorb rfcStep 1 rfcStep_reject b

theorem run_lt (s : Nat) (hs : s < 9) (b : Bytes) : run rfcStep s b < 9 := by
  induction b generalizing s with
  | nil => exact hs
  | cons x xs ih => exact ih _ (rfcStep_lt _ _)

theorem lang_run (s : Nat) (p r : Bytes) : lang s (p ++ r) = lang (run rfcStep s p) r := by
  induction p generalizing s with
  | nil => rfl
  | cons a p ih => rw [List.cons_append, lang_step, run]; exact ih _

theorem lang_nil : ∀ s, lang s [] = true ↔ s = 0
  | 0 | 1 | 2 | 3 | 4 | 5 | 6 | 7 | 8 => by decide
  | _ + 9 => ⟨Bool.noConfusion, fun h => by omega⟩

theorem run_accepts (s : Nat) (b : Bytes) : run rfcStep s b = 0 ↔ lang s b = true := by
  rw [← lang_nil, ← lang_run, List.append_nil]

/-- a completion for every live state -/
def witness (s : Nat) : Bytes :=
  match s with
  | 2 => [0x80]
  | 3 => [0x80, 0x80]
  | 4 => [0xA0, 0x80]
  | 5 => [0x80, 0x80]
  | 6 => [0x90, 0x80, 0x80]
  | 7 => [0x80, 0x80, 0x80]
  | 8 => [0x80, 0x80, 0x80]
  | _ => []

theorem witness_ok : ∀ s, s < 9 → s ≠ 1 → run rfcStep s (witness s) = 0 := by decide

theorem witness_mem : ∀ s, s < 9 → witness s ∈ completions := by decide

theorem witness_completes (b : Bytes) (h : run rfcStep 0 b ≠ 1) :
    run rfcStep 0 (b ++ witness (run rfcStep 0 b)) = 0 := by
  rw [run_append]; exact witness_ok _ (run_lt 0 (by omega) b) h

end Abverif.Utf8

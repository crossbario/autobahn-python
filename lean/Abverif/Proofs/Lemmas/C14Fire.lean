import Abverif.Proofs.Lemmas.C14Stop
/-!
C14 — listener bubbling: what `ObservableMixin.fire` on a session runs (its own handlers, then the component's
listeners); the log of every run satisfies the `Fire` monitor.
-/
namespace Abverif.Comp
open Spec

theorem userCalls_append (n : Nat) (a b : List Handler) :
    userCalls n (a ++ b) = userCalls n a ++ userCalls n b := by
  induction a with
  | nil => rfl
  | cons h r ih => cases h <;> simp [userCalls, ih]

theorem userCalls_own (n : Nat) (ev : Ev) : userCalls n (fireChain [sessionOwn] ev) = [] := by
  cases ev <;> rfl

theorem userCalls_comp (n : Nat) (ls : List Ev) (ev : Ev) :
    userCalls n (((ls.map fun e => (e, Handler.user e)).filter (fun p => p.1 = ev)).map (·.2))
      = (ls.filter (fun e => e = ev)).map (fun e => Obs.call e n) := by
  induction ls with
  | nil => rfl
  | cons e r ih =>
    by_cases h : e = ev
    · simp [h, userCalls, ih]
    · simp [h, ih]

theorem filter_eq_nodup (ls : List Ev) (ev : Ev) (hnd : ls.Nodup) :
    ls.filter (fun e => e = ev) = if ls.contains ev then [ev] else [] := by
  rw [List.filter_eq, hnd.count]
  by_cases h : ev ∈ ls <;> simp [h]

/-- `fire` on a session made by `_connect_once`: the session's own handlers for the event, then the component's -/
theorem fireChain_session (ls : List Ev) (ev : Ev) :
    fireChain [sessionOwn, compNode ls] ev
      = fireChain [sessionOwn] ev ++ ((ls.map fun x => (x, Handler.user x)).filter (fun p => p.1 = ev)).map (·.2) := by
  cases ls <;> simp [compNode, fireChain, sessionOwn]

theorem sfire_eq (cfg : Cfg) (hnd : cfg.listeners.Nodup) (ev : Ev) (n : Nat) :
    sfire cfg ev n = .sfire ev n :: (if cfg.listeners.contains ev then [.call ev n] else []) := by
  unfold sfire
  rw [fireChain_session, userCalls_append, userCalls_own, List.nil_append, userCalls_comp,
    filter_eq_nodup _ _ hnd]
  split <;> simp

/-- the caveat in `ObservableMixin.fire`: an object that never had `.on()` called returns before looking at its
parent — nothing bubbles from it. -/
theorem fire_without_own_listeners (ls : List Ev) (ev : Ev) : fireChain [none, compNode ls] ev = [] := rfl

def Obs.isFire : Obs → Bool
  | .sfire _ _ | .call _ _ => true
  | _ => false

/-- A log that is a sequence of whole session firings (`sfire cfg ev n`: the firing, then the component's calls for
it) and of observations that are neither firings nor calls; this is what the bubble monitor accepts (`blocks_ok`).
The same lists as `Shaped cfg (·.isFire = false)` (`Shaped.blocks`). -/
inductive Blocks (cfg : Cfg) : List Obs → Prop
  | nil : Blocks cfg []
  | other (o : Obs) (r : List Obs) (h : o.isFire = false) : Blocks cfg r → Blocks cfg (o :: r)
  | fire (ev : Ev) (n : Nat) (r : List Obs) : Blocks cfg r → Blocks cfg (sfire cfg ev n ++ r)

theorem Blocks.append {cfg : Cfg} {a b : List Obs} (ha : Blocks cfg a) (hb : Blocks cfg b) : Blocks cfg (a ++ b) := by
  induction ha with
  | nil => exact hb
  | other o r h _ ih => exact Blocks.other o _ h ih
  | fire ev n r _ ih => rw [List.append_assoc]; exact Blocks.fire ev n _ ih

theorem Blocks.single (cfg : Cfg) (o : Obs) (h : o.isFire = false) : Blocks cfg [o] :=
  Blocks.other o [] h Blocks.nil

/-- the monitor accepts such a log from any state in which the previous firing has been answered -/
theorem blocks_ok (cfg : Cfg) (hnd : cfg.listeners.Nodup) (l : List Obs) (hb : Blocks cfg l) (f : Fire)
    (hf : bubbleClosed cfg.listeners f = true) : bubbleAll cfg.listeners f l = true := by
  induction hb generalizing f with
  | nil => exact hf
  | other o r h _ ih =>
    have hfeed : f.feed o = f := by cases o <;> simp [Obs.isFire] at h <;> rfl
    have hchk : chkBubble cfg.listeners f o = true := by cases o <;> simp [Obs.isFire] at h <;> rfl
    simp only [bubbleAll, hfeed, hchk, Bool.true_and]
    exact ih f hf
  | fire ev n r _ ih =>
    rw [sfire_eq cfg hnd]
    by_cases hc : cfg.listeners.contains ev = true
    · have hmem : ev ∈ cfg.listeners := by simpa using hc
      simp only [hc, if_true, List.cons_append, List.nil_append, bubbleAll, Fire.feed, chkBubble, hf, Bool.true_and]
      have := ih ⟨some (ev, n), 0 + 1⟩ (by simp [bubbleClosed, hmem])
      simpa [hmem] using this
    · have hc' : cfg.listeners.contains ev = false := by simpa using hc
      have hmem : ¬ ev ∈ cfg.listeners := by simpa using hc'
      simp only [hc', Bool.false_eq_true, if_false, List.cons_append, List.nil_append, bubbleAll, Fire.feed,
        chkBubble, hf, Bool.true_and]
      exact ih ⟨some (ev, n), 0⟩ (by simp [bubbleClosed, hmem])

theorem Shaped.blocks {cfg : Cfg} {l : List Obs} (h : Shaped cfg (·.isFire = false) l) : Blocks cfg l := by
  induction h with
  | nil => exact .nil
  | one h _ ih => exact .other _ _ h ih
  | fire ev n _ ih => exact .fire ev n _ ih

theorem blocks_run (s : State) (es : List Event) : Blocks s.cfg (run s es).2 :=
  (run_inv (I := fun s' => s'.cfg = s.cfg) Blocks.nil Blocks.append
    (fun s' e h =>
      have t := step_tame (s := s') (p := (·.isFire = false))
        ⟨fun o h => (by cases o <;> first | rfl | cases h), fun _ _ _ _ => rfl⟩ e (fun _ _ => rfl)
      ⟨t.keeps.trans h, h ▸ t.log.blocks⟩)
    rfl es).2

end Abverif.Comp

import Abverif.Proofs.Lemmas.SessFrame
/-
The callee side of the session model (`onInvocation`, `settleInv`, the progress callable) walked once for a variable
step relation. `LiftQ` carries a relation through the request/reply side and `LiftS` / `LiftT` through the session
lifecycle; `CalleeLift` asks for what the callee side does by itself — one progressive `send()`, the `success` / `error`
closure, the three writes of `_invocations` / `progs` — and gives INVOCATION, INTERRUPT, completion of a pending result
and a late progress call. A `LiftX` relation is such a relation (`LiftX.toCallee`). The end of the file assembles `step`
from the layers: `step_inner` and `step_lift` (the reply side from `LiftQ`) for every event but `open_`, `closed`, `fault`,
which a `LiftT` user does by hand; `LiftX.step` for all of them, with the reply side given.
-/
namespace Abverif.Session
open Abverif.SessCodes

variable {R : Sess → List SOut → Sess → Prop} {P : Sess → Prop} {ok : SOut → Bool}

theorem runCalls_invs (s : Sess) (self : Option FutId) (cs : List HCall) : (runCalls s self cs).1.invs = s.invs :=
  (keepLiftQ (·.invs) (fun s a ha => congrArg Callee.invs (lifeApi_frame s a ha).callee)).toLift.runCalls trivial self cs

/-- `try: send(reply) except …: send(ERROR)` consumes one or two outcomes of the plan and writes nothing else. Either the
reply goes out; or it is refused as unserializable / oversize and the fallback ERROR goes out; or nothing is sent. -/
theorem sendWithFallback_cases (s : Sess) (r : ReqId) (m : OutMsg) :
    (∃ n, (sendWithFallback s r m).1 = { s with faults := s.faults.drop n }) ∧
    ((s.faults.headD .ok = .ok ∧ (sendWithFallback s r m).1.faults = s.faults.tail ∧ (sendWithFallback s r m).2 = [.send m]) ∨
     (∃ u, fallbackUri (s.faults.headD .ok) = some u ∧ s.faults.tail.headD .ok = .ok ∧
        (sendWithFallback s r m).1.faults = s.faults.tail.tail ∧
        (sendWithFallback s r m).2 = [.sendFail m (s.faults.headD .ok), .send { typ := .error, req := r, uri := u }]) ∨
     (s.faults.headD .ok ≠ .ok ∧ (fallbackUri (s.faults.headD .ok) = none ∨ s.faults.tail.headD .ok ≠ .ok) ∧
        ∀ x ∈ (sendWithFallback s r m).2, (∃ m' f, x = .sendFail m' f) ∨ ∃ e, x = .lost e)) := by
  unfold sendWithFallback
  simp only [replySend_eq]
  split
  · next h => exact ⟨⟨1, by rw [List.drop_one]⟩, Or.inl ⟨h, rfl, rfl⟩⟩
  · next h =>
    split
    · next hu =>
      refine ⟨⟨1, by rw [List.drop_one]⟩, Or.inr (Or.inr ⟨h, Or.inl hu, ?_⟩)⟩
      intro x hx; simp only [List.mem_append, List.mem_singleton] at hx
      rcases hx with rfl | rfl
      · exact Or.inl ⟨_, _, rfl⟩
      · exact Or.inr ⟨_, rfl⟩
    · next u hu =>
      have e2 : s.faults.tail.tail = s.faults.drop 2 := by rw [← List.drop_one, ← List.drop_one, List.drop_drop]
      refine ⟨⟨2, by rw [← e2]⟩, Or.inr ?_⟩
      by_cases h2 : s.faults.tail.headD .ok = .ok
      · exact Or.inl ⟨u, hu, h2, rfl, by simp only [if_pos h2]; rfl⟩
      · refine Or.inr ⟨h, Or.inr h2, ?_⟩
        simp only [if_neg h2]
        intro x hx; simp only [List.mem_append, List.mem_singleton] at hx
        rcases hx with (rfl | rfl) | rfl
        · exact Or.inl ⟨_, _, rfl⟩
        · exact Or.inl ⟨_, _, rfl⟩
        · exact Or.inr ⟨_, rfl⟩

theorem replySend_invs (s : Sess) (m : OutMsg) : (replySend s m).1.invs = s.invs := by
  rw [replySend_eq]

theorem progressLoop_invs (s : Sess) (r : ReqId) (vs : List Val) : (progressLoop s r vs).1.invs = s.invs := by
  induction vs generalizing s with
  | nil => rfl
  | cons v vs ih =>
    unfold progressLoop
    split
    · rfl
    · simp only []
      split
      · exact (ih _).trans (replySend_invs s _)
      · exact replySend_invs s _

/-- what the callee side reports besides messages and the endpoint call: a protocol violation, an exception handed to
user code, a branch outside the model -/
def calleeNote : SOut → Bool
  | .raise_ e | .caught e => lcExc e
  | .unmodelled => true
  | _ => false

/-- A step relation closed under what the callee side does by itself. `accept`: the endpoint call is reported first and
its record is written last, after the endpoint's own progress and API calls `o`. `enq` is asked for on asyncio only. -/
structure CalleeLift (R : Sess → List SOut → Sess → Prop) (P : Sess → Prop) : Prop where
  refl : ∀ {s}, P s → R s [] s
  trans : ∀ {s1 o1 s2 o2 s3}, R s1 o1 s2 → R s2 o2 s3 → R s1 (o1 ++ o2) s3
  post : ∀ {s o s'}, P s → R s o s' → P s'
  note : ∀ {s : Sess} {x : SOut}, P s → calleeNote x = true → R s [x] s
  progSend : ∀ {s : Sess} (r : ReqId) (v : Val), P s → R s (progressSend s r v).2.1 (progressSend s r v).1
  invDone : ∀ {s : Sess} (r : ReqId) (o : EOut), P s → R s (invDone s r o).2 (invDone s r o).1
  enq : ∀ {s : Sess} (k : Cont), P s → s.mode = .deferred → R s [] { s with cbq := s.cbq ++ [.later k] }
  fired : ∀ {s : Sess} {r : ReqId} {x : InvRec}, P s → alookup r s.invs = some x →
    R s [] { s with invs := aupd r { x with st := .fired } s.invs }
  progs : ∀ {s : Sess} (r : ReqId), P s → R s [] { s with progs := r :: s.progs }
  accept : ∀ {s s' : Sess} {o : List SOut} {r : ReqId} (v : InvRec) (obj : FutId) (h : HId) (a : Args)
    (kw : List (Key × KwVal)), P s → R s o s' → alookup r s'.invs = none →
    R s (.endpoint r obj h a kw :: o) { s' with invs := aset r v s'.invs }

namespace CalleeLift

theorem deferInv (C : CalleeLift R P) {s : Sess} (hs : P s) (r : ReqId) (o : EOut) :
    R s (defer s (.invDone r o)).2 (defer s (.invDone r o)).1 := by
  unfold defer
  split
  · exact C.invDone r o hs
  · next hm => exact C.enq _ hs hm

theorem settleInv (C : CalleeLift R P) {s : Sess} (hs : P s) (r : ReqId) (o : EOut) :
    R s (Session.settleInv s r o).2 (Session.settleInv s r o).1 := by
  unfold Session.settleInv
  split
  · exact C.refl hs
  · next x hx =>
    split
    · exact C.refl hs
    · have h1 := C.fired hs hx
      exact C.trans h1 (C.deferInv (C.post hs h1) r o)

theorem progressLoop (C : CalleeLift R P) {s : Sess} (hs : P s) (r : ReqId) (vs : List Val) :
    R s (Session.progressLoop s r vs).2.1 (Session.progressLoop s r vs).1 := by
  induction vs generalizing s with
  | nil => exact C.refl hs
  | cons v vs ih =>
    unfold Session.progressLoop
    split
    · exact C.refl hs
    · have h1 := C.progSend r v hs
      simp only []
      split
      · exact C.trans h1 (ih (C.post hs h1))
      · exact h1

theorem lateProgress (C : CalleeLift R P) {s : Sess} (hs : P s) (r : ReqId) (v : Val) :
    R s (Session.lateProgress s r v).2 (Session.lateProgress s r v).1 := by
  unfold Session.lateProgress
  split
  · exact C.note hs rfl
  · split
    · exact C.note hs rfl
    · have h1 := C.progSend r v hs
      refine C.trans h1 ?_
      split
      · exact C.refl (C.post hs h1)
      · refine C.note (C.post hs h1) ?_
        generalize (progressSend s r v).2.2 = f
        cases f <;> rfl

/-- INVOCATION: the endpoint's progress calls and API calls, then the record is written — the id is still free, nothing
in between writes `_invocations` — and the closure runs if the outcome is known -/
theorem onInvocation (C : CalleeLift R P)
    (hcalls : ∀ {s : Sess} (cs : List HCall), P s → R s (runCalls s none cs).2 (runCalls s none cs).1)
    {s : Sess} (hs : P s) (beh : List HAct) (req : ReqId) (reg : RegId) (p : Payload) (rp : Bool) :
    R s (Session.onInvocation s beh req reg p rp).2 (Session.onInvocation s beh req reg p rp).1 := by
  unfold Session.onInvocation
  split
  · exact C.note hs rfl
  · next hfree =>
    split
    · exact C.note hs rfl
    · next g _ =>
      simp only []
      -- the names of the model's `let`s: the endpoint's behaviour, whether it gets `details.progress`, the stages
      generalize beh.headD {} = a
      generalize (g.detailsArg.isSome && rp) = hasProg
      generalize hs0 : (if hasProg = true then { s with progs := req :: s.progs } else s) = s0
      have h0 : R s [] s0 ∧ s0.invs = s.invs := by
        subst hs0; split
        · exact ⟨C.progs req hs, rfl⟩
        · exact ⟨C.refl hs, rfl⟩
      have h1 := C.progressLoop (C.post hs h0.1) req (if hasProg = true then a.progress else [])
      have hi1 := progressLoop_invs s0 req (if hasProg = true then a.progress else [])
      generalize Session.progressLoop s0 req (if hasProg = true then a.progress else []) = r1 at h1 hi1 ⊢
      have hp1 := C.post (C.post hs h0.1) h1
      generalize hr2 : (if r1.2.2 = true then (r1.1, []) else runCalls r1.1 none a.calls) = r2
      have h2 : R r1.1 r2.2 r2.1 ∧ r2.1.invs = r1.1.invs := by
        subst hr2; split
        · exact ⟨C.refl hp1, rfl⟩
        · exact ⟨hcalls _ hp1, runCalls_invs _ _ _⟩
      generalize (if r1.2.2 = true then some (EOut.raised .sendExc) else if a.raises = true then some (EOut.raised a.exc)
        else if a.ret = Ret.pending then none else some (retOut a.ret)) = outcome
      have h012 : R s (r1.2.1 ++ r2.2) r2.1 := C.trans (C.trans h0.1 h1) h2.1
      have hfree2 : alookup req r2.1.invs = none := by
        rw [h2.2, hi1, h0.2]; simpa using hfree
      have h3 : ∀ (kw : List (Key × KwVal)) (v : InvRec), R s (.endpoint req g.obj g.endpoint (p.args.getD []) kw :: (r1.2.1 ++ r2.2))
          { r2.1 with invs := aset req v r2.1.invs } := fun kw v => C.accept v _ _ _ kw hs h012 hfree2
      cases outcome with
      | none => simpa using h3 _ _
      | some o => exact C.trans (h3 _ _) (C.deferInv (C.post hs (h3 [] _)) req o)

end CalleeLift

/-- the `success` / `error` closure for a relation that does not tell the reply messages apart: it is enough to know
each `send()` of a YIELD / ERROR, the removal of the record, and that `userError` / `lost` are tolerated -/
theorem invDone_lift (refl : ∀ {s}, P s → R s [] s)
    (trans : ∀ {s1 o1 s2 o2 s3}, R s1 o1 s2 → R s2 o2 s3 → R s1 (o1 ++ o2) s3)
    (post : ∀ {s o s'}, P s → R s o s' → P s')
    (out : ∀ {s : Sess} {os : List SOut}, P s → (∀ o ∈ os, o = .userError ∨ ∃ e, o = .lost e) → R s os s)
    (send : ∀ {s : Sess} (m : OutMsg), P s → m.typ = .yield_ ∨ m.typ = .error → R s (replySend s m).2.1 (replySend s m).1)
    (del : ∀ {s : Sess} (r : ReqId), P s → R s [] { s with invs := adel r s.invs })
    {s : Sess} (hs : P s) (r : ReqId) (o : EOut) : R s (invDone s r o).2 (invDone s r o).1 := by
  have lost1 : ∀ {s : Sess} (e : Exc), P s → R s [.lost e] s := fun e h =>
    out h (by intro x hx; simp at hx; exact Or.inr ⟨e, hx⟩)
  have fb : ∀ {s : Sess} (m : OutMsg), P s → m.typ = .yield_ ∨ m.typ = .error →
      R s (sendWithFallback s r m).2 (sendWithFallback s r m).1 := by
    intro s m hs hm
    unfold sendWithFallback
    have h1 := send m hs hm
    simp only []
    split
    · exact h1
    · split
      · exact trans h1 (lost1 _ (post hs h1))
      · next u _ =>
        have h2 := send { typ := .error, req := r, uri := u } (post hs h1) (Or.inr rfl)
        refine trans (trans h1 h2) ?_
        split
        · exact refl (post (post hs h1) h2)
        · exact lost1 _ (post (post hs h1) h2)
  unfold invDone
  split
  · exact lost1 _ hs
  · have h0 := del r hs
    have hs0 := post hs h0
    simp only []
    split
    · split
      · exact h0
      · exact trans h0 (fb _ hs0 (Or.inl rfl))
    · split
      · exact trans h0 (out hs0 (by intro x hx; simp at hx; rcases hx with rfl | rfl; exact Or.inl rfl; exact Or.inr ⟨_, rfl⟩))
      · exact trans h0 (trans (out hs0 (os := [.userError]) (by simp)) (fb _ hs0 (Or.inr rfl)))

theorem lcOut_of_note {x : SOut} (h : calleeNote x = true) : lcOut x = true := by
  cases x <;> first | exact h | cases h

namespace LiftX

theorem invDone (L : LiftX R P ok) {s : Sess} (req : ReqId) (o : EOut) (hs : P s) :
    R s (Session.invDone s req o).2 (Session.invDone s req o).1 :=
  invDone_lift L.refl L.trans L.post
    (fun h ho => L.outs h fun x hx => by rcases ho x hx with rfl | ⟨e, rfl⟩ <;> rfl)
    (fun m h hm => L.replySend h m (by rcases hm with e | e <;> rw [e] <;> rfl))
    (fun _ h => L.lc h rfl) hs req o

theorem toCallee (L : LiftX R P ok) : CalleeLift R P where
  refl := L.refl
  trans := L.trans
  post := L.post
  note := fun h hx => L.out1 h (lcOut_of_note hx)
  progSend := fun _ _ h => L.replySend h _ rfl
  invDone := L.invDone
  enq := fun k h _ => L.enq k h
  fired := fun h _ => L.lc h rfl
  progs := fun _ h => L.lc h rfl
  accept := fun _ _ _ _ _ h r _ => L.trans (L.out1 h rfl) (L.thenLc h r rfl)

theorem onOpen (L : LiftX R P ok) {s : Sess} (hs : P s) (acts : List HAct) :
    R s (Session.onOpen s acts).2 (Session.onOpen s acts).1 :=
  L.toLiftS.onOpen L.invDone hs acts

end LiftX

/-! ### every event but `onOpen`, `onClose` and the injection of a `send()` plan -/

def SEv.inner : SEv → Bool
  | .open_ _ | .closed _ | .fault _ => false
  | _ => true

/-- GOODBYE, INVOCATION and INTERRUPT from the lifecycle and callee layers; the reply side is the caller's -/
theorem onEstablished_lift (T : LiftT R P ok) (C : CalleeLift R P) {s : Sess} (hs : P s) (beh : List HAct) (m : InMsg)
    (hrep : m.isReplySide = true → R s (onEstablished s beh m).2 (onEstablished s beh m).1) :
    R s (onEstablished s beh m).2 (onEstablished s beh m).1 := by
  by_cases hm : m.isReplySide = true
  · exact hrep hm
  · cases m <;> simp [InMsg.isReplySide] at hm
    · simp only [onEstablished]
      split
      · exact T.out1 hs rfl
      · exact T.goodbye hs _
    · exact C.onInvocation (fun cs h => T.toLift.runCalls h none cs) hs beh _ _ _ _
    · exact C.settleInv hs _ _

theorem step_inner (T : LiftT R P ok) (C : CalleeLift R P) {s : Sess} (hs : P s) (e : SEv) (he : e.inner = true)
    (hrep : ∀ (m : InMsg) (beh : List HAct), e = .msg m beh → m.isReplySide = true →
      R s (onEstablished s beh m).2 (onEstablished s beh m).1) : R s (step s e).2 (step s e).1 := by
  have hInv : ∀ {s : Sess} (r : ReqId) (o : EOut), P s → R s (invDone s r o).2 (invDone s r o).1 := C.invDone
  cases e with
  | api a => exact T.api a hs
  | msg m beh =>
    simp only [step, onMessage]
    split
    · exact T.preSession hInv hs beh m
    · exact onEstablished_lift T C hs beh m (hrep m beh rfl)
  | pump => exact T.drain hInv 8 hs
  | tick => exact T.tick hInv hs
  | resolve r v => exact C.settleInv hs r _
  | fail r x => exact C.settleInv hs r _
  | lateProgress r v => exact C.lateProgress hs r v
  | open_ a => simp [SEv.inner] at he
  | closed a => simp [SEv.inner] at he
  | fault l => simp [SEv.inner] at he

theorem step_lift (T : LiftT R P ok) (Q : LiftQ R P) (C : CalleeLift R P) {s : Sess} (hs : P s) (e : SEv)
    (he : e.inner = true) : R s (step s e).2 (step s e).1 :=
  step_inner T C hs e he fun m beh _ hm => Q.established hs beh m hm

theorem LiftX.step (L : LiftX R P ok) {s : Sess} (hs : P s) (e : SEv)
    (hrep : ∀ (m : InMsg) (beh : List HAct), e = .msg m beh → m.isReplySide = true →
      R s (onEstablished s beh m).2 (onEstablished s beh m).1) : R s (Session.step s e).2 (Session.step s e).1 := by
  cases e with
  | open_ acts => exact L.onOpen hs acts
  | closed acts => exact L.onClose hs acts
  | fault l => exact L.lc hs rfl
  | _ => exact step_inner L.toLiftS.toLiftT L.toCallee hs _ rfl hrep

end Abverif.Session

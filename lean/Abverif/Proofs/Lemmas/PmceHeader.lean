import Abverif.Model.Pmce
/-
C12: what `_parseExtensionsHeader` makes of a header that one of the `get_extension_string` methods rendered.
Such a header is an extension name followed by `; key` and `; key=value` items whose names and values contain no
separator, quote, space or capital. It parses to exactly ONE entry, carrying the items in order
(`parseExtensionsHeader_render`); every render -> parse round trip of C12 rests on this, and so do the whole-handshake
theorems of Proofs/C12Handshake.lean, where the client's loop walks the whole parsed list.
`Reads` follows a render piece by piece together with the `parse` loop that will read it, so that a round trip is one
chain along the render.
At the end: what an accept override that passed its constructor guard guarantees; the three extensions' compatibility
statements are made of these two facts.
-/
namespace Abverif.Pmce
open Abverif.DeflateConsts

theorem splitOn_eq (sep : Char) (s : List Char) : splitOn sep s = s.splitOn sep := by
  induction s with
  | nil => rfl
  | cons c cs ih =>
    rw [splitOn, ih, List.splitOn_cons_eq_if_modifyHead]
    cases h : cs.splitOn sep with
    | nil => exact absurd h (List.splitOn_ne_nil sep cs)
    | cons p ps => simp only [beq_iff_eq, List.modifyHead_cons]

theorem splitOn_of_not_mem {sep : Char} {s : List Char} (h : sep ∉ s) : splitOn sep s = [s] := by
  rw [splitOn_eq, List.splitOn_eq_singleton h]

theorem splitOn_append {sep : Char} {a : List Char} (h : sep ∉ a) (b : List Char) :
    splitOn sep (a ++ sep :: b) = a :: splitOn sep b := by
  rw [splitOn_eq, splitOn_eq, List.splitOn_append_cons_self_of_not_mem h]

theorem rstrip_append (a : List Char) {b : List Char} (hb : b ≠ []) (h : ∀ c ∈ b, isWs c = false) :
    rstrip (a ++ b) = a ++ b := by
  unfold rstrip
  rw [List.reverse_append]
  cases hr : b.reverse with
  | nil => exact absurd (List.reverse_eq_nil_iff.1 hr) hb
  | cons c t =>
    have hc : isWs c = false := h c (by rw [← List.mem_reverse, hr]; exact List.mem_cons_self)
    rw [List.cons_append, List.dropWhile_cons_of_neg (by simp [hc]), ← List.cons_append, ← hr, ← List.reverse_append,
      List.reverse_reverse]

theorem lstrip_cons {c : Char} (h : isWs c = false) (s : List Char) : lstrip (c :: s) = c :: s :=
  List.dropWhile_cons_of_neg (by simp [h])

theorem strip_of_no_ws {s : List Char} (h : ∀ c ∈ s, isWs c = false) : strip s = s := by
  cases s with
  | nil => rfl
  | cons c cs =>
    rw [strip, lstrip_cons (h c List.mem_cons_self)]
    exact rstrip_append [] (List.cons_ne_nil _ _) h

theorem strip_space_cons (s : List Char) : strip (' ' :: s) = strip s := rfl

theorem unquote_of_not_mem {s : List Char} (h : '"' ∉ s) : unquote s = s := by
  unfold unquote
  split
  · exact absurd List.mem_cons_self h
  · dsimp only
    split
    · rename_i r hr
      exact absurd (by rw [← List.mem_reverse, hr]; exact List.mem_cons_self) h
    · rfl

/-- a character every stage of the header parser passes through unchanged -/
def plainChar (c : Char) : Bool :=
  !isWs c && c != ',' && c != ';' && c != '=' && c != '"' && lowerChar c == c

def Plain (s : List Char) : Prop := ∀ c ∈ s, plainChar c = true

instance (s : List Char) : Decidable (Plain s) := by unfold Plain; exact inferInstance

theorem Plain.not_mem {s : List Char} (h : Plain s) {c : Char} (hc : plainChar c = false) : c ∉ s :=
  fun hm => by rw [h c hm] at hc; cases hc

theorem Plain.no_ws {s : List Char} (h : Plain s) : ∀ c ∈ s, isWs c = false := fun c hc =>
  Bool.eq_false_iff.2 fun hw => h.not_mem (by simp [plainChar, hw]) hc

theorem Plain.strip {s : List Char} (h : Plain s) : strip s = s := strip_of_no_ws h.no_ws

theorem Plain.lower {s : List Char} (h : Plain s) : lower s = s := by
  unfold Pmce.lower
  rw [List.map_congr_left (g := id), List.map_id]
  intro c hc
  have := h c hc
  simp only [plainChar, Bool.and_eq_true, beq_iff_eq] at this
  exact this.2

/-- a parameter as `get_extension_string` writes it (`; key` or `; key=value`) and as the header parser returns it -/
abbrev Item := List Char × Val

def Item.body (i : Item) : List Char :=
  i.1 ++ match i.2 with
    | none => []
    | some v => '=' :: v

def Item.render (i : Item) : List Char := "; ".toList ++ i.body

/-- key and value are plain, the key is not empty: `parseParam` returns such an item as it was rendered -/
def Item.AllPlain (i : Item) : Prop := Plain i.1 ∧ i.1 ≠ [] ∧ ∀ v, i.2 = some v → Plain v

/-- the `params` dictionary of a header whose keys are all different -/
def entries (items : List Item) : Params := items.map fun i => (i.1, [i.2])

theorem Item.AllPlain.not_mem_body {i : Item} (h : i.AllPlain) {c : Char} (hc : plainChar c = false) (he : c ≠ '=') :
    c ∉ i.body := by
  obtain ⟨k, v⟩ := i
  obtain ⟨hk, _, hv⟩ := h
  have hck : c ∉ k := hk.not_mem hc
  cases v with
  | none => simpa [Item.body] using hck
  | some v => simp [Item.body, hck, he, (hv v rfl).not_mem hc]

theorem Item.AllPlain.body_no_ws {i : Item} (h : i.AllPlain) : ∀ c ∈ i.body, isWs c = false := by
  intro c hc
  cases hw : isWs c with
  | false => rfl
  | true =>
    exact absurd hc (h.not_mem_body (by simp [plainChar, hw]) (by rintro rfl; exact absurd hw (by decide)))

theorem Item.AllPlain.parseParam_body {i : Item} (h : i.AllPlain) : parseParam i.body = i := by
  obtain ⟨k, v⟩ := i
  obtain ⟨hk, _, hv⟩ := h
  have hke : '=' ∉ k := hk.not_mem rfl
  cases v with
  | none =>
    simp only [Item.body, List.append_nil]
    rw [parseParam, splitOn_of_not_mem hke]
    simp only [List.map_cons, List.map_nil, hk.strip, hk.lower]
  | some v =>
    have hv := hv v rfl
    simp only [Item.body]
    rw [parseParam, splitOn_append hke, splitOn_of_not_mem (hv.not_mem rfl)]
    simp only [List.map_cons, List.map_nil, hk.strip, hv.strip, hk.lower, joinWith,
      unquote_of_not_mem (hv.not_mem rfl)]

theorem Params.add_of_not_mem {ps : Params} {k : List Char} (h : k ∉ ps.map (·.1)) (v : Val) :
    ps.add k v = ps ++ [(k, [v])] := by
  induction ps with
  | nil => rfl
  | cons p ps ih =>
    rw [List.map_cons, List.mem_cons, not_or] at h
    rw [Params.add, if_neg (Ne.symm h.1), ih h.2, List.cons_append]

theorem foldl_add_entries (items : List Item) (ps : Params) (h : (ps.map (·.1) ++ items.map (·.1)).Nodup) :
    items.foldl (fun ps i => Params.add ps i.1 i.2) ps = ps ++ entries items := by
  induction items generalizing ps with
  | nil => simp [entries]
  | cons i is ih =>
    have hi : i.1 ∉ ps.map (·.1) := fun hm => (List.nodup_append.1 h).2.2 _ hm _ List.mem_cons_self rfl
    rw [List.foldl_cons, Params.add_of_not_mem hi, ih _ (by simpa using h), List.append_assoc]
    rfl

theorem splitOn_items {p : List Char} (hp : ';' ∉ p) {items : List Item} (hi : ∀ i ∈ items, i.AllPlain) :
    splitOn ';' (p ++ items.flatMap Item.render) = p :: items.map (' ' :: ·.body) := by
  induction items generalizing p with
  | nil => simpa using splitOn_of_not_mem hp
  | cons i is ih =>
    have hb : ';' ∉ ' ' :: i.body := by
      simp [(hi i List.mem_cons_self).not_mem_body (c := ';') rfl (by decide)]
    have : p ++ (i :: is).flatMap Item.render = p ++ ';' :: ((' ' :: i.body) ++ is.flatMap Item.render) := by
      simp [Item.render, Item.body]
    rw [this, splitOn_append hp, ih hb (fun j hj => hi j (List.mem_cons_of_mem _ hj)), List.map_cons]

theorem strip_header {name : List Char} (hn : Plain name) (hne : name ≠ []) {items : List Item}
    (hi : ∀ i ∈ items, i.AllPlain) :
    strip (name ++ items.flatMap Item.render) = name ++ items.flatMap Item.render := by
  cases name with
  | nil => exact absurd rfl hne
  | cons c cs =>
    rw [strip, List.cons_append, lstrip_cons (hn.no_ws c List.mem_cons_self), ← List.cons_append]
    rcases List.eq_nil_or_concat items with rfl | ⟨init, last, rfl⟩
    · simpa using rstrip_append [] hne hn.no_ws
    · rw [List.concat_eq_append] at hi ⊢
      have hl := hi last (by simp)
      have : c :: cs ++ (init ++ [last]).flatMap Item.render
          = (c :: cs ++ init.flatMap Item.render ++ "; ".toList) ++ last.body := by
        simp [Item.render, Item.body]
      rw [this]
      exact rstrip_append _ (by simp [Item.body, hl.2.1]) hl.body_no_ws

theorem comma_not_mem_header {name : List Char} (hn : Plain name) {items : List Item} (hi : ∀ i ∈ items, i.AllPlain) :
    ',' ∉ name ++ items.flatMap Item.render := by
  simp only [List.mem_append, List.mem_flatMap, not_or, not_exists, not_and]
  refine ⟨hn.not_mem rfl, fun i him hc => ?_⟩
  simp only [Item.render, List.mem_append] at hc
  rcases hc with hc | hc
  · exact absurd hc (by decide)
  · exact (hi i him).not_mem_body rfl (by decide) hc

/-- the items carry keys of the table `keys`, in its order and each at most once, and plain values -/
def Fits (items : List Item) (keys : List (List Char)) : Prop :=
  (items.map (·.1)).Sublist keys ∧ ∀ i ∈ items, ∀ v, i.2 = some v → Plain v

theorem Fits.append {a b : List Item} {ka kb : List (List Char)} (ha : Fits a ka) (hb : Fits b kb) :
    Fits (a ++ b) (ka ++ kb) :=
  ⟨by rw [List.map_append]; exact ha.1.append hb.1, fun i hi => (List.mem_append.1 hi).elim (ha.2 i) (hb.2 i)⟩

def Keys (ks : List (List Char)) : Prop := ks.Nodup ∧ ∀ k ∈ ks, Plain k ∧ k ≠ []

instance (ks : List (List Char)) : Decidable (Keys ks) := by unfold Keys; exact inferInstance

theorem Keys.perm {ks ks' : List (List Char)} (h : Keys ks) (p : ks.Perm ks') : Keys ks' :=
  ⟨p.nodup h.1, fun k hk => h.2 k (p.symm.subset hk)⟩

theorem parseExtensionsHeader_render {name : List Char} (hn : Plain name ∧ name ≠ []) {keys : List (List Char)}
    (hks : Keys keys) {items : List Item} (hf : Fits items keys) :
    parseExtensionsHeader (name ++ items.flatMap Item.render) = [(name, entries items)] := by
  obtain ⟨hn, hne⟩ := hn
  have hk : (items.map (·.1)).Nodup := hf.1.nodup hks.1
  have hi : ∀ i ∈ items, i.AllPlain := fun i him =>
    have hm := hks.2 i.1 (hf.1.mem (List.mem_map_of_mem him))
    ⟨hm.1, hm.2, hf.2 i him⟩
  have hne' : name ++ items.flatMap Item.render ≠ [] := by simp [hne]
  have hbody : (items.map (' ' :: ·.body)).map strip = items.map Item.body := by
    rw [List.map_map]
    exact List.map_congr_left fun i him => (strip_space_cons _).trans (strip_of_no_ws (hi i him).body_no_ws)
  have hfold : (items.map Item.body).foldl (fun acc p => Params.add acc (parseParam p).1 (parseParam p).2) []
      = entries items := by
    have hp : (items.map Item.body).map parseParam = items := by
      rw [List.map_map,
        List.map_congr_left (f := parseParam ∘ Item.body) (g := id) fun i him => (hi i him).parseParam_body,
        List.map_id]
    rw [← List.foldl_map (f := parseParam) (g := fun ps i => Params.add ps i.1 i.2), hp]
    exact foldl_add_entries items [] hk
  rw [parseExtensionsHeader, splitOn_of_not_mem (comma_not_mem_header hn hi)]
  simp only [List.map_cons, List.map_nil, strip_header hn hne hi, List.filter_cons, hne', ne_eq, not_false_eq_true,
    decide_true, if_true, List.filter_nil, parseExt, splitOn_items (hn.not_mem rfl) hi, hn.strip, hn.lower, hbody, hfold]

/-- the numerals of the parameter tables (window bits 9..15, levels 1..9) are plain and `int()` reads them back -/
theorem natStr_small : ∀ n < 16, Plain (natStr n) ∧ pyInt (natStr n) = some (Int.ofNat n) := by decide +kernel

/-- a table of permissible values of a numeric parameter; 0 stands for "not given" and is never in it -/
def SmallTable (xs : List Nat) : Prop := ∀ m ∈ xs, 0 < m ∧ m < 16

instance (xs : List Nat) : Decidable (SmallTable xs) := by unfold SmallTable; exact inferInstance

theorem intInV_natStr {xs : List Nat} (hxs : SmallTable xs) {n : Nat} (hn : n ∈ xs) :
    intInV xs (some (natStr n)) = some n := by
  simp [intInV, intIn, (natStr_small n (hxs n hn).2).2, hn]

section Reads
variable {α : Type} {f : Option α → List Char × List Val → Option α} {name t : List Char} {ks : List (List Char)}
  {a b : α} {k : List Char}

/-- `t` is the extension `name` followed by rendered parameters, keys among `ks` in that order, and the loop `f` of a
`parse` method, started on the record `a`, reads them as `b`. A `get_extension_string` method appends one piece per
field and the loop reads one field from each, so a round trip is a chain `Reads.nil |>.flag ⋯ |>.kv ⋯` along the
render, with the record the loop holds after each piece, closed by `Reads.parses`. -/
def Reads (f : Option α → List Char × List Val → Option α) (name t : List Char) (ks : List (List Char)) (a b : α) :
    Prop :=
  ∃ items, t = name ++ items.flatMap Item.render ∧ Fits items ks ∧ (entries items).foldl f (some a) = some b

theorem Reads.nil : Reads f name name [] a a := ⟨[], by simp, ⟨.slnil, by simp⟩, rfl⟩

/-- one more piece: the rendering of `its`, no or one item with the key `k` -/
theorem Reads.snoc (h : Reads f name t ks a b) (its : List Item) (hk : Fits its [k]) {c : α}
    (hc : (entries its).foldl f (some b) = some c) : Reads f name (t ++ its.flatMap Item.render) (ks ++ [k]) a c := by
  obtain ⟨items, rfl, hf, hb⟩ := h
  exact ⟨items ++ its, by simp, hf.append hk, by rw [entries, List.map_append, List.foldl_append]; exact hb ▸ hc⟩

/-- `flag b k`: `set b` is the record with the flag's field at `b` -/
theorem Reads.flag (set : Bool → α) (h : Reads f name t ks a (set false))
    (hs : f (some (set false)) (k, [none]) = some (set true)) (b : Bool) :
    Reads f name (t ++ flag b k) (ks ++ [k]) a (set b) := by
  cases b
  · simpa [Pmce.flag] using h.snoc (k := k) [] (by simp [Fits]) rfl
  · simpa [Pmce.flag, Item.render, Item.body] using h.snoc [(k, none)] (by simp [Fits]) hs

/-- `kv n k`, read by a step that takes the value of `k` from the table `xs` (`int(val)`, then `in xs`): `set n` is the
record with the parameter's field at `n`, 0 when the item is absent -/
theorem Reads.kv {xs : List Nat} (hxs : SmallTable xs) (set : Nat → α) (h : Reads f name t ks a (set 0))
    (hs : ∀ v, f (some (set 0)) (k, [v]) = (intInV xs v).map set) {n : Nat} (hn : n ∈ 0 :: xs) :
    Reads f name (t ++ kv n k) (ks ++ [k]) a (set n) := by
  rcases List.mem_cons.1 hn with rfl | hn
  · simpa [Pmce.kv] using h.snoc (k := k) [] (by simp [Fits]) rfl
  · have hn' := hxs n hn
    simpa [Pmce.kv, Nat.ne_of_gt hn'.1, Item.render, Item.body] using
      h.snoc (k := k) [(k, some (natStr n))] (by simpa [Fits] using (natStr_small n hn'.2).1)
        (by simp [entries, hs, intInV_natStr hxs hn])

theorem Reads.parses (h : Reads f name t ks a b) (hn : Plain name ∧ name ≠ []) (hks : Keys ks) :
    ∃ ps, parseExtensionsHeader t = [(name, ps)] ∧ ps.foldl f (some a) = some b := by
  obtain ⟨items, rfl, hf, hb⟩ := h
  exact ⟨_, parseExtensionsHeader_render hn hks hf, hb⟩

end Reads

theorem extension_names : (Plain extensionName ∧ extensionName ≠ [])
    ∧ (Plain bzip2ExtensionName ∧ bzip2ExtensionName ≠ []) ∧ (Plain brotliExtensionName ∧ brotliExtensionName ≠ []) := by
  decide +kernel

/-- a `no_context_takeover` override that passed its guard does not switch off what the peer asked for -/
theorem nct_override (n : Option Bool) (c : Bool)
    (h : (match n with
      | some n => !(c && !n)
      | none => true) = true) (hc : c = true) : n.getD c = true := by
  cases n <;> simp_all

/-- an override of a numeric limit (`window_bits`, `compress_level`) that passed its guard: in the table `xs`, and not
above the peer's limit `m` when there is one. The effective value (`0 ↦ dflt`, the largest of the table) is then at most
the one the peer assumes. -/
theorem override_le {xs : List Nat} {dflt : Nat} (hxs : ∀ w ∈ xs, 0 < w ∧ w ≤ dflt) (w : Option Nat) (m : Nat)
    (h : (match w with
      | some w => xs.contains w && !(m != 0 && decide (w > m))
      | none => true) = true) :
    (if w.getD m ≠ 0 then w.getD m else dflt) ≤ (if m ≠ 0 then m else dflt) := by
  cases w with
  | none => exact Nat.le_refl _
  | some w =>
    simp only [Bool.and_eq_true, Bool.not_eq_true', Bool.and_eq_false_imp, bne_iff_ne, decide_eq_false_iff_not,
      List.contains_iff_mem] at h
    have hw := hxs w h.1
    simp only [Option.getD_some, if_pos (Nat.ne_of_gt hw.1)]
    split
    · exact Nat.not_lt.1 (h.2 ‹_›)
    · exact hw.2

end Abverif.Pmce

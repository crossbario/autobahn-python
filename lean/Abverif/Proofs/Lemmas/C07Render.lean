import Abverif.Model.Handshake
import Abverif.Proofs.Lemmas.C07Str
/-!
C07 — `parseHttpHeader (render hs) = hs` for header maps that are safe to render (no CR/LF/`:` in names, no line
breaks in values, nothing `strip()` would remove, distinct names).  A result of its own: the step a general
self-interoperation theorem would need; the finite matrix of C07Interop.lean is evaluated and does not use it.
-/
namespace Abverif.Handshake
open Abverif Abverif.Http

/-- a header `(name, value)` that `renderHeaders` + `parseHttpHeader` reproduce (with the name lowered) -/
structure HeaderSafe (kv : Bytes × Bytes) : Prop where
  key_ne : kv.1 ≠ []
  key_chars : ∀ c ∈ kv.1, c ≠ 58 ∧ isBrk c = false ∧ isSpace c = false
  val_nobrk : ∀ c ∈ kv.2, isBrk c = false
  val_head : ∀ c, kv.2.head? = some c → isSpace c = false
  val_last : ∀ c, kv.2.getLast? = some c → isSpace c = false

def headerLine (kv : Bytes × Bytes) : Bytes := kv.1 ++ b!": " ++ kv.2

theorem headerLine_nobrk {kv : Bytes × Bytes} (h : HeaderSafe kv) : ∀ c ∈ headerLine kv, isBrk c = false := by
  intro c hc
  simp [headerLine] at hc
  rcases hc with hc | hc | hc | hc
  · exact (h.key_chars c hc).2.1
  · subst hc; decide
  · subst hc; decide
  · exact h.val_nobrk c hc

theorem parseLine_headerLine {kv : Bytes × Bytes} (h : HeaderSafe kv) :
    parseLine (headerLine kv) = some (lower kv.1, kv.2) := by
  obtain ⟨k, v⟩ := kv
  have hcut : cut 58 (k ++ 58 :: (32 :: v)) = some (k, 32 :: v) :=
    (cut_some_iff 58 _ k (32 :: v)).2 ⟨rfl, fun hm => (h.key_chars 58 hm).1 rfl⟩
  have hfind : findB 58 (headerLine (k, v)) = some k.length := by
    rw [findB_eq_cut]
    simp only [headerLine, List.append_assoc, List.cons_append, List.nil_append]
    rw [hcut]; rfl
  have hpos : k.length > 0 := List.length_pos_iff.mpr h.key_ne
  have hk : strip k = k := stripBy_of_none fun c hc => (h.key_chars c hc).2.2
  have hv : strip (32 :: v) = v := by
    rw [strip_space_cons]
    exact stripBy_of_clean h.val_head h.val_last
  unfold parseLine
  rw [hfind]
  simp only [hpos, if_true]
  have h1 : (headerLine (k, v)).take k.length = k := by simp [headerLine]
  have h2 : (headerLine (k, v)).drop (k.length + 1) = 32 :: v := by
    simp [headerLine, List.drop_append]
  rw [h1, h2, hk, hv]

theorem renderHeaders_cons (kv : Bytes × Bytes) (hs : List (Bytes × Bytes)) :
    renderHeaders (kv :: hs) = headerLine kv ++ 13 :: 10 :: renderHeaders hs := by
  simp [renderHeaders, headerLine, crlf]

def keysOf (hs : List Hdr) : List Bytes := hs.map (·.key)

theorem hdrInsert_fresh {hs : List Hdr} {k : Bytes} (h : k ∉ keysOf hs) (v : Bytes) :
    hdrInsert hs k v = hs ++ [⟨k, v, 1⟩] := by
  induction hs with
  | nil => rfl
  | cons x xs ih =>
    simp [keysOf] at h
    unfold hdrInsert
    have : x.key ≠ k := fun e => h.1 e.symm
    simp [this]
    exact ih (by simpa [keysOf] using h.2)

def parsedOf (hs : List (Bytes × Bytes)) : List Hdr := hs.map (fun kv => ⟨lower kv.1, kv.2, 1⟩)

theorem addLines_rendered (acc : List Hdr) (hs : List (Bytes × Bytes)) (hsafe : ∀ kv ∈ hs, HeaderSafe kv)
    (hnodup : (keysOf acc ++ hs.map (fun kv => lower kv.1)).Nodup) :
    addLines acc (splitlines (renderHeaders hs ++ [13, 10])) = acc ++ parsedOf hs := by
  induction hs generalizing acc with
  | nil =>
    have : splitlines [13, 10] = [[]] := by decide
    simp [renderHeaders, this, addLines, parseLine, findB, parsedOf]
  | cons kv hs ih =>
    have hs1 := hsafe kv (by simp)
    rw [renderHeaders_cons, List.append_assoc, List.cons_append, List.cons_append,
      splitlines_line _ _ (headerLine_nobrk hs1)]
    simp only [addLines, parseLine_headerLine hs1]
    have hfresh : lower kv.1 ∉ keysOf acc := by
      intro hm
      have := List.nodup_append.1 hnodup
      exact this.2.2 _ hm _ (by simp) rfl
    rw [hdrInsert_fresh hfresh]
    have := ih (acc ++ [⟨lower kv.1, kv.2, 1⟩]) (fun x hx => hsafe x (by simp [hx])) (by
      simp only [keysOf, List.map_append, List.map_cons, List.map_nil, List.append_assoc, List.singleton_append]
      simpa [keysOf] using hnodup)
    rw [this]
    simp [parsedOf]

/-- A first line without line breaks followed by rendered `HeaderSafe` headers with distinct
(case-insensitively) names and the blank line parses back to exactly those headers, each counted once. -/
theorem parse_render_headers (line0 : Bytes) (hs : List (Bytes × Bytes)) (h0 : ∀ c ∈ line0, isBrk c = false)
    (hsafe : ∀ kv ∈ hs, HeaderSafe kv) (hnodup : (hs.map (fun kv => lower kv.1)).Nodup) :
    parseHttpHeader (line0 ++ crlf ++ renderHeaders hs ++ crlf) = some (strip line0, parsedOf hs) := by
  unfold parseHttpHeader
  have : line0 ++ crlf ++ renderHeaders hs ++ crlf = line0 ++ 13 :: 10 :: (renderHeaders hs ++ [13, 10]) := by
    simp [crlf]
  rw [this, splitlines_line _ _ h0]
  simp only
  rw [addLines_rendered [] hs hsafe (by simpa [keysOf] using hnodup)]
  simp

end Abverif.Handshake

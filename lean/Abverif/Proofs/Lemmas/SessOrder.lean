import Abverif.Proofs.Lemmas.SessEnd
import Abverif.Proofs.Lemmas.SessOrderSpec
/-
Model side of `callbacks_ordered_once` (Twisted scheduling): which functions of the session model produce no ranked
lifecycle callback / observer notification and leave `transport`, `sessionId`, `ended` alone (`Calm`), and what those
that do (`runHook`, `leaveHook`, `disconnectHook`) show of them (`skel`: the part of the observations the ordering clauses
of the trace Spec read).
-/
namespace Abverif.Session
open Abverif.SessCodes Abverif.SessTrace

/-- a lifecycle callback the Spec ranks, or an observer notification -/
def ranked : SOut → Bool
  | .hook h _ => hookRank h != 0
  | .fire _ => true
  | _ => false

def isHello : SOut → Bool
  | .send m => m.typ == .hello
  | _ => false

/-- A step that fires no ranked callback / observer, keeps mode, transport and session id, and queues nothing but plain
callbacks. Two strengths: `Calm true` — no `join()` among the user's calls — also sends no HELLO and keeps the record
`ended`; `Calm false` — `join()` allowed, which can only clear the record — keeps `ended` when it was clear. -/
structure Calm (strict : Bool) (s : Sess) (o : List SOut) (s' : Sess) : Prop where
  mode : s'.mode = s.mode
  transport : s'.transport = s.transport
  sid : s'.sessionId = s.sessionId
  ended : (strict = true ∨ s.ended = false) → s'.ended = s.ended
  outs : ∀ x ∈ o, ranked x = false ∧ (strict = true → isHello x = false)
  queue : ∀ x ∈ s'.cbq, x ∈ s.cbq ∨ lifeOut x = false

theorem unranked_of_not_lifeOut {x : SOut} (h : lifeOut x = false) : ranked x = false ∧ isHello x = false := by
  cases x <;> simp_all [lifeOut, ranked, isHello]
  next m => cases hm : m.typ <;> simp_all [lcMsg]

theorem ranked_toCaught (x : SOut) : ranked (toCaught x) = ranked x ∧ isHello (toCaught x) = isHello x := by
  cases x <;> exact ⟨rfl, rfl⟩

theorem ranked_toLost (x : SOut) : ranked (toLost x) = ranked x ∧ isHello (toLost x) = isHello x := by
  cases x <;> exact ⟨rfl, rfl⟩

namespace Calm

theorem refl (b : Bool) (s : Sess) : Calm b s [] s :=
  ⟨rfl, rfl, rfl, fun _ => rfl, by simp, fun x hx => Or.inl hx⟩

theorem trans {b : Bool} {s1 s2 s3 : Sess} {o1 o2 : List SOut} (h1 : Calm b s1 o1 s2) (h2 : Calm b s2 o2 s3) :
    Calm b s1 (o1 ++ o2) s3 := by
  refine ⟨h2.mode.trans h1.mode, h2.transport.trans h1.transport, h2.sid.trans h1.sid, fun hc => ?_, fun x hx => ?_, fun x hx => ?_⟩
  · have e1 := h1.ended hc
    have e2 := h2.ended (by rcases hc with hc | hc; exact Or.inl hc; exact Or.inr (e1.trans hc))
    exact e2.trans e1
  · rcases List.mem_append.mp hx with h | h
    · exact h1.outs x h
    · exact h2.outs x h
  · rcases h2.queue x hx with h | h
    · exact h1.queue x h
    · exact Or.inr h

theorem weaken {s s' : Sess} {o : List SOut} (h : Calm true s o s') : Calm false s o s' :=
  ⟨h.mode, h.transport, h.sid, fun _ => h.ended (Or.inl rfl), fun x hx => ⟨(h.outs x hx).1, by simp⟩, h.queue⟩

theorem ofQuiet {b : Bool} {s s' : Sess} {o : List SOut} (q : Quiet s o s') : Calm b s o s' := by
  have hl := q.life
  simp only [Sess.life, Life.mk.injEq] at hl
  obtain ⟨l1, l2, l3, _, _, _, _, l8⟩ := hl
  exact ⟨l1, l2, l3, fun _ => l8, fun x hx => ⟨(unranked_of_not_lifeOut (q.outs x hx)).1, fun _ => (unranked_of_not_lifeOut (q.outs x hx)).2⟩, q.queue⟩

/-- only a field the relation does not read changed -/
theorem same {b : Bool} {s s' : Sess} {o : List SOut} (hm : s'.mode = s.mode) (ht : s'.transport = s.transport)
    (hi : s'.sessionId = s.sessionId) (he : s'.ended = s.ended) (hq : s'.cbq = s.cbq)
    (ho : ∀ x ∈ o, ranked x = false ∧ isHello x = false) : Calm b s o s' :=
  ⟨hm, ht, hi, fun _ => he, fun x hx => ⟨(ho x hx).1, fun _ => (ho x hx).2⟩, fun _ hx => Or.inl (hq ▸ hx)⟩

theorem cons {b : Bool} {s s' : Sess} {o : List SOut} {x : SOut} (hx : ranked x = false ∧ isHello x = false)
    (c : Calm b s o s') : Calm b s (x :: o) s' :=
  ⟨c.mode, c.transport, c.sid, c.ended, fun y hy => by
    rcases List.mem_cons.mp hy with h | h
    · subst h; exact ⟨hx.1, fun _ => hx.2⟩
    · exact c.outs y h, c.queue⟩

theorem out1 {b : Bool} {s : Sess} {x : SOut} (hx : ranked x = false ∧ isHello x = false) : Calm b s [x] s :=
  cons hx (refl b s)

/-- relabelling the observations in a way that keeps what the relation reads of them (`toCaught`, `toLost`) -/
theorem map {b : Bool} {s s' : Sess} {o : List SOut} (c : Calm b s o s') {f : SOut → SOut}
    (hf : ∀ x, ranked (f x) = ranked x ∧ isHello (f x) = isHello x) : Calm b s (o.map f) s' := by
  refine ⟨c.mode, c.transport, c.sid, c.ended, fun x hx => ?_, c.queue⟩
  obtain ⟨y, hy, rfl⟩ := List.mem_map.mp hx
  rw [(hf y).1, (hf y).2]
  exact c.outs y hy

theorem frame {b : Bool} {s s' : Sess} {o : List SOut} (c : Calm b s o s') : Calm b s [] s' :=
  ⟨c.mode, c.transport, c.sid, c.ended, fun _ hx => (nomatch hx), c.queue⟩

end Calm

/-- what the ordering clauses read of a step's observations: ranked callbacks, observer notifications, HELLO -/
def skel (xs : List SOut) : List SOut := xs.filter (fun x => ranked x || isHello x)

theorem skel_append (xs ys : List SOut) : skel (xs ++ ys) = skel xs ++ skel ys := List.filter_append ..

theorem skel_mark {x : SOut} (hx : (ranked x || isHello x) = true) (xs : List SOut) : skel (x :: xs) = x :: skel xs :=
  List.filter_cons_of_pos hx

theorem skel_skip {x : SOut} (hr : ranked x = false) (hh : isHello x = false) (xs : List SOut) : skel (x :: xs) = skel xs :=
  List.filter_cons_of_neg (by simp [hr, hh])

theorem skel_unmarked {xs : List SOut} (h : ∀ x ∈ xs, ranked x = false ∧ isHello x = false) : skel xs = [] :=
  List.filter_eq_nil_iff.mpr fun x hx => by simp [(h x hx).1, (h x hx).2]

theorem Calm.skel_nil {s s' : Sess} {o : List SOut} (c : Calm true s o s') : skel o = [] :=
  skel_unmarked fun x hx => ⟨(c.outs x hx).1, (c.outs x hx).2 rfl⟩

/-- with `join()` allowed a calm step may show HELLO, nothing else -/
theorem Calm.skel_unranked {b : Bool} {s s' : Sess} {o : List SOut} (c : Calm b s o s') : ∀ x ∈ skel o, ranked x = false :=
  fun x hx => (c.outs x (List.mem_filter.mp hx).1).1

/-- the notification hung on a lifecycle callback: it is fired unless the callback raised -/
def mayFire (e : ObsEv) (fs : List SOut) : Prop := fs = [] ∨ fs = [.fire e]

theorem apiJoin_calm (s : Sess) : Calm false s (apiJoin s).2 (apiJoin s).1 := by
  unfold apiJoin
  split
  · exact Calm.out1 ⟨rfl, rfl⟩
  · split
    · exact Calm.out1 ⟨rfl, rfl⟩
    · exact ⟨rfl, rfl, rfl, fun hc => by rcases hc with hc | hc; simp at hc; simp [hc], by simp [ranked], fun x hx => Or.inl hx⟩

theorem apiLeave_calm (b : Bool) (s : Sess) : Calm b s (apiLeave s).2 (apiLeave s).1 := by
  unfold apiLeave
  split
  · exact Calm.refl b s
  · split
    · exact Calm.refl b s
    · split
      · exact Calm.out1 ⟨rfl, rfl⟩
      · exact Calm.cons ⟨rfl, rfl⟩ (Calm.same rfl rfl rfl rfl rfl fun _ h => nomatch h)

theorem apiDisconnect_calm (b : Bool) (s : Sess) : Calm b s (apiDisconnect s).2 (apiDisconnect s).1 := by
  unfold apiDisconnect
  split
  · exact Calm.out1 ⟨rfl, rfl⟩
  · exact Calm.refl b s

theorem calmLiftQ : LiftQ (Calm false) (fun _ => True) where
  refl := fun _ => Calm.refl false _
  trans := Calm.trans
  post := fun _ _ => trivial
  caught := fun c => c.map ranked_toCaught
  quiet := fun _ q => Calm.ofQuiet q
  lifeApi := fun {s} a ha _ => by
    cases a <;> simp [Api.isLife] at ha
    · exact apiJoin_calm s
    · exact apiLeave_calm false s
    · exact apiDisconnect_calm false s

theorem apiStep_strict (s : Sess) (a : Api) (ha : a ≠ .join) : Calm true s (apiStep s a).2 (apiStep s a).1 := by
  by_cases hl : a.isLife = true
  · cases a <;> simp [Api.isLife] at hl
    · exact absurd rfl ha
    · exact apiLeave_calm true s
    · exact apiDisconnect_calm true s
  · exact Calm.ofQuiet (apiStep_quiet s a (by simpa using hl))

def HCall.noJoin : HCall → Bool
  | .api .join => false
  | _ => true

def HAct.noJoin (a : HAct) : Bool := a.calls.all HCall.noJoin

theorem runCalls_strict (s : Sess) (self : Option FutId) (cs : List HCall) (h : cs.all HCall.noJoin = true) :
    Calm true s (runCalls s self cs).2 (runCalls s self cs).1 := by
  induction cs generalizing s with
  | nil => exact Calm.refl true s
  | cons c cs ih =>
    simp only [List.all_cons, Bool.and_eq_true] at h
    cases c with
    | api a =>
      rw [runCalls_api]
      have ha : a ≠ .join := by rintro rfl; simp [HCall.noJoin] at h
      exact ((apiStep_strict s a ha).map ranked_toCaught).trans (ih _ h.2)
    | unsubSelf =>
      cases self with
      | none => rw [runCalls_self_none]; exact ih s h.2
      | some o =>
        rw [runCalls_self_some]
        exact ((apiStep_strict s _ (by simp)).map ranked_toCaught).trans (ih _ h.2)

theorem defer_sync {s : Sess} (hm : s.mode = .sync) (k : Cont) : defer s k = runCont s k := by
  simp [defer, hm]

theorem deferLeaf_sync {s : Sess} (hm : s.mode = .sync) (k : Cont) : deferLeaf s k = runLeaf s k := by
  simp [deferLeaf, hm]

theorem rejectAll_calm (b : Bool) (s : Sess) (o : Outcome) :
    Calm b s (rejectList s.clearTables o s.outstanding).2 (rejectList s.clearTables o s.outstanding).1 :=
  Calm.ofQuiet (Quiet.congr_left (rejectList_quiet _ _ _) rfl rfl)

theorem onLeaveDefault_calm (b : Bool) {s : Sess} (hm : s.mode = .sync) (reason : Nat) :
    Calm b s (onLeaveDefault s reason).2 (onLeaveDefault s reason).1 := by
  unfold onLeaveDefault
  have h1 := rejectAll_calm b s (.closed reason)
  refine h1.trans ?_
  have hm1 : (rejectList s.clearTables (.closed reason) s.outstanding).1.mode = .sync := h1.mode.trans hm
  unfold deferLeaf
  simp only [hm1, runLeaf]
  split
  · exact Calm.out1 ⟨rfl, rfl⟩
  · exact Calm.refl b _

theorem onDisconnectDefault_calm (b : Bool) (s : Sess) :
    Calm b s (onDisconnectDefault s).2 (onDisconnectDefault s).1 := rejectAll_calm b s (.closed 1)

/-- a lifecycle callback whose own calls do not include `join()`: the callback, then nothing ranked -/
theorem runHook_shape (b : Bool) (s : Sess) (h : Hook) (arg : Nat) (act : HAct) (body : Sess → Sess × List SOut)
    (hb : Calm b s (body s).2 (body s).1) (hj : act.noJoin = true) :
    ∃ mid, (runHook s h arg act body).2 = .hook h arg :: mid ∧ Calm b s mid (runHook s h arg act body).1 := by
  unfold runHook
  have hb1 : Calm b s (if act.dflt then body s else (s, [])).2 (if act.dflt then body s else (s, [])).1 := by
    split
    · exact hb
    · exact Calm.refl b s
  generalize (if act.dflt = true then body s else (s, [])) = r1 at hb1 ⊢
  simp only []
  split
  · exact ⟨_, rfl, hb1.map ranked_toLost⟩
  · have h2 : Calm b r1.1 (runCalls r1.1 none act.calls).2 (runCalls r1.1 none act.calls).1 := by
      have := runCalls_strict r1.1 none act.calls hj
      cases b
      · exact this.weaken
      · exact this
    exact ⟨_, rfl, hb1.trans h2⟩

/-- a ranked lifecycle callback whose own calls do not include `join()`, with the `_error` / notification hung on it: the
callback, then nothing the ordering clauses read but the notification -/
theorem hookEmit_skel {s : Sess} (hm : s.mode = .sync) (h : Hook) (hh : hookRank h ≠ 0) (arg : Nat) (act : HAct)
    (body : Sess → Sess × List SOut) (hb : Calm true s (body s).2 (body s).1) (hj : act.noJoin = true) (e : ObsEv) :
    (∃ fl, skel ((runHook s h arg act body).2 ++
        (emitCb (runHook s h arg act body).1 (if act.raises then .userError else .fire e)).2) = .hook h arg :: fl ∧ mayFire e fl) ∧
      Calm true s [] (emitCb (runHook s h arg act body).1 (if act.raises then .userError else .fire e)).1 := by
  obtain ⟨mid, h1, h2⟩ := runHook_shape true s h arg act body hb hj
  simp only [emitCb_sync (h2.mode.trans hm), h1]
  refine ⟨⟨_, by rw [List.cons_append, skel_mark (by simp [ranked, hh]), skel_append, h2.skel_nil, List.nil_append], ?_⟩, h2.frame⟩
  split
  · exact Or.inl rfl
  · exact Or.inr rfl

theorem leaveHook_skel {s : Sess} (hm : s.mode = .sync) (reason : Nat) (act : HAct) (hj : act.noJoin = true) :
    (∃ fl, skel (leaveHook s reason act).2 = .hook .onLeave reason :: fl ∧ mayFire .leave fl) ∧
      Calm true s [] (leaveHook s reason act).1 :=
  hookEmit_skel hm .onLeave (by decide) reason act _ (onLeaveDefault_calm true hm reason) hj .leave

theorem disconnectHook_skel {s : Sess} (hm : s.mode = .sync) (act : HAct) (hj : act.noJoin = true) :
    (∃ fl, skel (disconnectHook s act).2 = .hook .onDisconnect 0 :: fl ∧ mayFire .disconnect fl) ∧
      Calm true s [] (disconnectHook s act).1 :=
  hookEmit_skel hm .onDisconnect (by decide) 0 act _ (onDisconnectDefault_calm true s) hj .disconnect

/-- on Twisted the callee side is calm: it writes `_invocations` / the plan / `progs` and emits the endpoint call, YIELD /
ERROR and their failures only -/
theorem calmCallee (b : Bool) : CalleeLift (Calm b) (fun s => s.mode = .sync) where
  refl := fun _ => Calm.refl b _
  trans := Calm.trans
  post := fun h r => r.mode.trans h
  note := fun {s x} _ hx => Calm.out1 (by cases x <;> simp [calleeNote] at hx <;> exact ⟨rfl, rfl⟩)
  progSend := fun {s} r v _ => by
    rw [progressSend, replySend_eq]
    exact Calm.same rfl rfl rfl rfl rfl (by intro y hy; split at hy <;> simp at hy <;> subst hy <;> exact ⟨rfl, rfl⟩)
  invDone := fun {s} r o h =>
    invDone_lift (R := Calm b) (P := fun s => s.mode = .sync) (fun _ => Calm.refl b _) Calm.trans (fun h r => r.mode.trans h)
      (fun _ ho => Calm.same rfl rfl rfl rfl rfl (fun y hy => by rcases ho y hy with rfl | ⟨e, rfl⟩ <;> exact ⟨rfl, rfl⟩))
      (fun {s} m _ hm => by
        rw [replySend_eq]
        refine Calm.same rfl rfl rfl rfl rfl (fun y hy => ?_)
        have hh : isHello (.send m) = false := by rcases hm with hm | hm <;> simp [isHello, hm]
        split at hy <;> simp at hy <;> subst hy
        · exact ⟨rfl, hh⟩
        · exact ⟨rfl, rfl⟩)
      (fun _ _ => Calm.same rfl rfl rfl rfl rfl (fun _ h => nomatch h)) h r o
  enq := fun _ h hm => by rw [h] at hm; cases hm
  fired := fun _ _ => Calm.same rfl rfl rfl rfl rfl (fun _ h => nomatch h)
  progs := fun _ _ => Calm.same rfl rfl rfl rfl rfl (fun _ h => nomatch h)
  accept := fun _ _ _ _ _ _ r _ =>
    ⟨r.mode, r.transport, r.sid, r.ended, fun x hx => (List.mem_cons.mp hx).elim (fun e => e ▸ ⟨rfl, fun _ => rfl⟩) (r.outs x), r.queue⟩

theorem onInvocation_calm {s : Sess} (hm : s.mode = .sync) (beh : List HAct) (r : ReqId) (reg : RegId) (p : Payload) (rp : Bool) :
    Calm false s (onInvocation s beh r reg p rp).2 (onInvocation s beh r reg p rp).1 :=
  (calmCallee false).onInvocation (fun cs _ => calmLiftQ.toLift.runCalls trivial none cs) hm beh r reg p rp

/-- on Twisted nothing of the lifecycle waits in the queue: a loop iteration hands out the plain callbacks that are there -/
theorem tickList_plain (s : Sess) (items : List SOut) (h : ∀ x ∈ items, lifeOut x = false) : tickList s items = (s, items) := by
  induction items with
  | nil => rfl
  | cons x rest ih =>
    have hx := h x List.mem_cons_self
    have ih' := ih (fun y hy => h y (List.mem_cons_of_mem _ hy))
    cases x <;> simp [lifeOut] at hx <;> simp [tickList, ih']

theorem tick_calm {s : Sess} (hq : ∀ x ∈ s.cbq, lifeOut x = false) : Calm true s (tick s).2 (tick s).1 ∧ (tick s).1.cbq = [] := by
  unfold tick
  rw [tickList_plain _ _ hq]
  exact ⟨⟨rfl, rfl, rfl, fun _ => rfl, fun x hx => ⟨(unranked_of_not_lifeOut (hq x hx)).1, fun _ => (unranked_of_not_lifeOut (hq x hx)).2⟩,
    by simp⟩, rfl⟩

theorem drain_nil (n : Nat) (s : Sess) (h : s.cbq = []) : drain n s = (s, []) := by
  cases n with
  | zero => rfl
  | succ n => simp [drain, h]

theorem pump_calm {s : Sess} (hq : ∀ x ∈ s.cbq, lifeOut x = false) (n : Nat) :
    Calm true s (drain (n + 1) s).2 (drain (n + 1) s).1 := by
  unfold drain
  split
  · exact Calm.refl true s
  · obtain ⟨c, hq'⟩ := tick_calm hq
    simp only [drain_nil n _ hq', List.append_nil]
    exact c

def SEv.plain : SEv → Bool
  | .open_ _ | .closed _ | .msg _ _ => false
  | _ => true

def SEv.noJoin : SEv → Bool
  | .api a => a != .join
  | .msg _ beh => beh.all HAct.noJoin
  | .open_ acts => acts.all HAct.noJoin
  | .closed acts => acts.all HAct.noJoin
  | _ => true

theorem plain_calm {s : Sess} (hm : s.mode = .sync) (hq : ∀ x ∈ s.cbq, lifeOut x = false) (e : SEv) (he : e.plain = true)
    (hj : e.noJoin = true) : Calm true s (step s e).2 (step s e).1 := by
  cases e with
  | api a =>
    refine apiStep_strict s a ?_
    rintro rfl
    simp [SEv.noJoin] at hj
  | pump => exact pump_calm hq 7
  | tick => exact (tick_calm hq).1
  | fault l => exact Calm.same rfl rfl rfl rfl rfl (fun x hx => by simp [step] at hx)
  | resolve r v => exact (calmCallee true).settleInv hm r _
  | fail r x => exact (calmCallee true).settleInv hm r _
  | lateProgress r v => exact (calmCallee true).lateProgress hm r v
  | open_ a => simp [SEv.plain] at he
  | closed a => simp [SEv.plain] at he
  | msg m b => simp [SEv.plain] at he

end Abverif.Session

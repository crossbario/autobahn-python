import Abverif.Proofs.Lemmas.SchemaSteps
/-
Totality (C08): which exception classes each part of the parse model can raise.  The checks that have a specification
(`Checks`) bring theirs along; here are the tail, the constructor stage and everything in front of the constructor call
(`parseStage_allowed`).  The whole of `parse` is in SchemaCtor, since it needs the assertions to be unreachable.
-/
namespace Abverif.Wamp
open Schema

/-- the loop over the typed entries raises only the library's own errors.  Stated for entries other than `roles`;
`parseOpts_spec.errIn` says the same without that restriction (`OTy.check_allowed` covers `roles`). -/
theorem parseOpts_allowed (O : Oracles) (d : Dict) :
    ∀ ss : List OptStep, (∀ s ∈ ss, s.ty.isRoles = false) → ErrIn Allowed (parseOpts O d ss) :=
  fun _ _ => parseOpts_spec.errIn

theorem checkArgs_allowed (v : ArgsVariant) (x : WVal) : ErrIn Allowed (checkArgs v x) := by
  unfold checkArgs
  split
  all_goals first
    | exact ErrIn.ok _
    | exact ErrIn.fail _ allowed_protocol

theorem checkKwargs_allowed (v : ArgsVariant) (x : WVal) : ErrIn Allowed (checkKwargs v x) := by
  unfold checkKwargs
  split
  all_goals first
    | exact ErrIn.ok _
    | exact ErrIn.fail _ allowed_protocol

theorem argsPart_allowed (t : TailSpec) (k : Nat) (w : List WVal) : ErrIn Allowed (argsPart t k w) := by
  unfold argsPart; exact ErrIn.ite (checkArgs_allowed _ _) (ErrIn.ok _)

theorem kwargsPart_allowed (t : TailSpec) (k : Nat) (w : List WVal) : ErrIn Allowed (kwargsPart t k w) := by
  unfold kwargsPart; exact ErrIn.ite (checkKwargs_allowed _ _) (ErrIn.ok _)

theorem parseTail_allowed (O : Oracles) (t : TailSpec) (k : Nat) (d : Dict) (w : List WVal) :
    ErrIn Allowed (parseTail O t k d w) := by
  unfold parseTail
  split
  · apply ErrIn.bind encGet_spec.errIn; intro _ _
    apply ErrIn.bind encGet_spec.errIn; intro _ _
    apply ErrIn.bind encGet_spec.errIn; intro _ _
    exact encTripleGate_spec.errIn.map _
  · apply ErrIn.bind (argsPart_allowed _ _ _); intro _ _
    exact (kwargsPart_allowed _ _ _).map _

def AssertOrAllowed (c : ErrClass) : Prop := c.allowed = true ∨ c = .assertion

theorem ctorOpts_errIn (cls : ErrClass) (m : Msg) : ∀ ss : List OptStep, ErrIn (· = cls) (ctorOpts cls m ss) := by
  intro ss
  induction ss with
  | nil => exact ErrIn.ok _
  | cons s t ih =>
    unfold ctorOpts
    exact ErrIn.ite ih (ErrIn.fail _ rfl)

theorem ctorCross_errIn (cls : ErrClass) (O : Oracles) (m : Msg) : ∀ cs : List Cross, ErrIn (· = cls) (ctorCross cls O m cs) := by
  intro cs
  induction cs with
  | nil => exact ErrIn.ok _
  | cons c t ih =>
    unfold ctorCross
    exact ErrIn.ite ih (ErrIn.fail _ rfl)

theorem ctorStage_classes (σ : Schema) (O : Oracles) (m : Msg) : ErrIn AssertOrAllowed (σ.ctorStage O m) := by
  unfold Schema.ctorStage
  have hcls : ∀ c, c = σ.ctorErr → AssertOrAllowed c := by
    intro c hc; subst hc
    unfold Schema.ctorErr
    split
    · exact Or.inr rfl
    · exact Or.inl rfl
  apply ErrIn.bind ((ctorOpts_errIn _ m _).mono hcls); intro _ _
  apply ErrIn.bind ((ctorCross_errIn _ O m _).mono hcls); intro _ _
  exact ErrIn.ite (kwargsCheck_spec.errIn.mono (fun _ h => Or.inl h)) (ErrIn.ok _)

/-- a schema none of whose constructor assertions can fire -/
def Schema.assertFree (σ : Schema) : Bool := σ.opts.all (fun s => s.cty == .none) && σ.cross.isEmpty

theorem ctorStage_allowed_of_assertFree (σ : Schema) (O : Oracles) (m : Msg) (h : σ.assertFree = true) :
    ErrIn Allowed (σ.ctorStage O m) := by
  simp only [Schema.assertFree, Bool.and_eq_true, List.all_eq_true, beq_iff_eq, List.isEmpty_iff] at h
  unfold Schema.ctorStage
  rw [(ctorOpts_ok_iff σ.opts).mpr (fun s hs => by rw [h.1 s hs]; rfl), h.2]
  simp only [ctorCross, bind, Except.bind, pure, Except.pure]
  exact ErrIn.ite kwargsCheck_spec.errIn (ErrIn.ok _)

theorem parseFields_allowed (σ : Schema) (O : Oracles) (w : List WVal) : ErrIn Allowed (σ.parseFields O w) := by
  unfold Schema.parseFields
  refine ErrIn.ite (ErrIn.fail _ allowed_protocol) ?_
  apply ErrIn.bind parsePos_spec.errIn; intro _ _
  apply ErrIn.bind
  · unfold Schema.tailPart
    split
    · exact parseTail_allowed O _ _ _ _
    · exact ErrIn.ok _
  intro _ _
  exact parseOpts_spec.errIn.map _

theorem parseStage_allowed (σ : Schema) (O : Oracles) (w : List WVal) : ErrIn Allowed (σ.parseStage O w) := by
  unfold Schema.parseStage
  apply ErrIn.bind (parseFields_allowed σ O w); intro m _
  have hc : ErrIn Allowed (ctorCross .protocol O m σ.pcross) :=
    (ctorCross_errIn .protocol O m σ.pcross).mono (fun c hc => by subst hc; exact allowed_protocol)
  exact hc.map _

end Abverif.Wamp

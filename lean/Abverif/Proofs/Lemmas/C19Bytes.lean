import Abverif.Model.Auth
/-
C19 — helper lemmas: XOR on octet strings, hex / base64 round trips.
-/
namespace Abverif.Crypto

theorem ofNat_eq (a : UInt8) {n : Nat} (h : n = a.toNat) : UInt8.ofNat n = a := h ▸ UInt8.ofNat_toNat

theorem xorBytes_nil_left (b : Bytes) : xorBytes [] b = [] := by simp [xorBytes]
theorem xorBytes_nil_right (a : Bytes) : xorBytes a [] = [] := by simp [xorBytes]

theorem xorBytes_cons (x y : UInt8) (a b : Bytes) :
    xorBytes (x :: a) (y :: b) = (x ^^^ y) :: xorBytes a b := by simp [xorBytes]

theorem xorBytes_length (a b : Bytes) : (xorBytes a b).length = min a.length b.length := by
  simp [xorBytes]

theorem xorBytes_length_eq {a b : Bytes} (h : a.length = b.length) : (xorBytes a b).length = a.length := by
  simp [xorBytes, h]

theorem xorBytes_comm (a b : Bytes) : xorBytes a b = xorBytes b a :=
  List.zipWith_comm_of_comm UInt8.xor_comm

theorem xor_xor_cancel_right (x y : UInt8) : x ^^^ y ^^^ y = x := by
  rw [UInt8.xor_assoc, UInt8.xor_self, UInt8.xor_zero]

theorem xor_xor_cancel_left (x y : UInt8) : x ^^^ (x ^^^ y) = y := by
  rw [← UInt8.xor_assoc, UInt8.xor_self, UInt8.zero_xor]

theorem xorBytes_cancel_right {a b : Bytes} (h : a.length ≤ b.length) : xorBytes (xorBytes a b) b = a := by
  induction a generalizing b with
  | nil => simp [xorBytes]
  | cons x a ih =>
    cases b with
    | nil => simp at h
    | cons y b =>
      simp only [xorBytes_cons, xor_xor_cancel_right]
      rw [ih (by simpa using h)]

theorem xorBytes_cancel_left {a b : Bytes} (h : b.length ≤ a.length) : xorBytes a (xorBytes a b) = b := by
  rw [xorBytes_comm a b, xorBytes_comm a, xorBytes_cancel_right h]

theorem xorBytes_left_inj {a b c : Bytes} (ha : a.length ≤ c.length) (hb : b.length ≤ c.length)
    (h : xorBytes a c = xorBytes b c) : a = b := by
  rw [← xorBytes_cancel_right ha, h, xorBytes_cancel_right hb]

theorem xorBytes_right_inj {a b c : Bytes} (ha : a.length ≤ c.length) (hb : b.length ≤ c.length)
    (h : xorBytes c a = xorBytes c b) : a = b := by
  rw [xorBytes_comm c a, xorBytes_comm c b] at h
  exact xorBytes_left_inj ha hb h

theorem xorBytes_self (a : Bytes) : xorBytes a a = List.replicate a.length 0 := by
  induction a with
  | nil => rfl
  | cons x a ih => simp [xorBytes_cons, ih, List.replicate_succ]

theorem xorBytes_zero : ∀ {a : Bytes} {n : Nat}, a.length ≤ n → xorBytes a (List.replicate n 0) = a
  | [], _, _ => xorBytes_nil_left _
  | x :: a, n + 1, h => by
    rw [List.replicate_succ, xorBytes_cons, UInt8.xor_zero, xorBytes_zero (Nat.le_of_succ_le_succ h)]

namespace HexText

theorem val_digit {n : Nat} (h : n < 16) : val (digit n) = some n :=
  (by decide : ∀ n : Fin 16, val (digit n.val) = some n.val) ⟨n, h⟩

theorem encode_length (x : Bytes) : (encode x).length = 2 * x.length := by
  induction x with
  | nil => rfl
  | cons b bs ih => simp [encode, ih]; omega

theorem decode_encode (x : Bytes) : decode (encode x) = some x := by
  induction x with
  | nil => rfl
  | cons b bs ih =>
    have h1 : b.toNat / 16 < 16 := by have := b.toNat_lt; omega
    have h2 : b.toNat % 16 < 16 := by omega
    have h3 : UInt8.ofNat (b.toNat / 16 * 16 + b.toNat % 16) = b := ofNat_eq b (by omega)
    simp only [encode, decode, val_digit h1, val_digit h2, ih, h3]

theorem encode_append (x y : Bytes) : encode (x ++ y) = encode x ++ encode y := by
  induction x with
  | nil => rfl
  | cons b bs ih => simp [encode, ih]

theorem encode_injective {x y : Bytes} (h : encode x = encode y) : x = y := by
  have := congrArg decode h
  simpa [decode_encode] using this

theorem decode_length : ∀ (t x : Bytes), decode t = some x → t.length = 2 * x.length
  | [], x, h => by simp [decode] at h; subst h; rfl
  | [_], x, h => by simp [decode] at h
  | a :: b :: rest, x, h => by
    simp only [decode] at h
    split at h
    · rename_i r _ _ hr
      simp only [Option.some.injEq] at h
      subst h
      have := decode_length rest _ hr
      simp [this]; omega
    · contradiction

end HexText

namespace Base64

theorem val_encChar {n : Nat} (h : n < 64) : val (encChar n) = some n :=
  (by decide : ∀ n : Fin 64, val (encChar n.val) = some n.val) ⟨n, h⟩

theorem encChar_ne_pad {n : Nat} (h : n < 64) : encChar n ≠ pad :=
  (by decide : ∀ n : Fin 64, encChar n.val ≠ pad) ⟨n, h⟩

theorem dec_q0 {n : Nat} (h : n < 64) (l p : Nat) (cs : Bytes) :
    dec 0 l p (encChar n :: cs) = dec 1 n 0 cs := by
  rw [dec]; simp only [encChar_ne_pad h, if_false, val_encChar h]

theorem dec_q1 {n : Nat} (h : n < 64) (l p : Nat) (cs : Bytes) :
    dec 1 l p (encChar n :: cs) = (dec 2 (n % 16) 0 cs).map (UInt8.ofNat (l * 4 + n / 16) :: ·) := by
  rw [dec]; simp only [encChar_ne_pad h, if_false, val_encChar h]

theorem dec_q2 {n : Nat} (h : n < 64) (l p : Nat) (cs : Bytes) :
    dec 2 l p (encChar n :: cs) = (dec 3 (n % 4) 0 cs).map (UInt8.ofNat (l * 16 + n / 4) :: ·) := by
  rw [dec]; simp only [encChar_ne_pad h, if_false, val_encChar h]

theorem dec_q3 {n : Nat} (h : n < 64) (l p : Nat) (cs : Bytes) :
    dec 3 l p (encChar n :: cs) = (dec 0 0 0 cs).map (UInt8.ofNat (l * 64 + n) :: ·) := by
  rw [dec]; simp only [encChar_ne_pad h, if_false, val_encChar h]

/-- the first octet comes out of the first two characters; the low nibble of the second character waits in `left` -/
theorem dec_octet1 (a b : UInt8) (l p : Nat) (cs : Bytes) :
    dec 0 l p (encChar (a.toNat / 4) :: encChar (a.toNat % 4 * 16 + b.toNat / 16) :: cs)
      = (dec 2 (b.toNat / 16) 0 cs).map (a :: ·) := by
  have ha := a.toNat_lt
  have hb := b.toNat_lt
  rw [dec_q0 (by omega), dec_q1 (by omega), show (a.toNat % 4 * 16 + b.toNat / 16) % 16 = b.toNat / 16 by omega,
    ofNat_eq a (by omega)]

theorem dec_octet2 (b c : UInt8) (p : Nat) (cs : Bytes) :
    dec 2 (b.toNat / 16) p (encChar (b.toNat % 16 * 4 + c.toNat / 64) :: cs)
      = (dec 3 (c.toNat / 64) 0 cs).map (b :: ·) := by
  have hb := b.toNat_lt
  have hc := c.toNat_lt
  rw [dec_q2 (by omega), show (b.toNat % 16 * 4 + c.toNat / 64) % 4 = c.toNat / 64 by omega,
    ofNat_eq b (by omega)]

theorem dec_octet3 (c : UInt8) (p : Nat) (cs : Bytes) :
    dec 3 (c.toNat / 64) p (encChar (c.toNat % 64) :: cs) = (dec 0 0 0 cs).map (c :: ·) := by
  rw [dec_q3 (by omega), ofNat_eq c (by omega)]

/-- the lenient CPython decoder inverts the encoder: octet by octet; a short last group is the full one with
zero octets in place of the missing ones, and the padding ends the input -/
theorem dec_encode : ∀ (x : Bytes) (l p : Nat), dec 0 l p (encode x) = some x
  | [], l, p => rfl
  | [a], l, p => (dec_octet1 a 0 l p [pad, pad]).trans rfl
  | [a, b], l, p => by
    rw [encode, dec_octet1]
    exact (congrArg _ (dec_octet2 b 0 0 [pad])).trans rfl
  | a :: b :: c :: rest, l, p => by
    rw [encode, dec_octet1, dec_octet2, dec_octet3, dec_encode rest 0 0]
    rfl

theorem pyDecode_encode (x : Bytes) : pyDecode (encode x) = some x := dec_encode x 0 0

theorem encode_injective {x y : Bytes} (h : encode x = encode y) : x = y := by
  have := congrArg pyDecode h
  simpa [pyDecode_encode] using this

theorem encChar_lt_128 (n : Nat) : encChar n < 128 := by
  unfold encChar
  repeat' split
  · show (UInt8.ofNat (65 + n)).toNat < 128
    rw [UInt8.toNat_ofNat']; omega
  · show (UInt8.ofNat (71 + n)).toNat < 128
    rw [UInt8.toNat_ofNat']; omega
  · show (UInt8.ofNat (n - 4)).toNat < 128
    rw [UInt8.toNat_ofNat']; omega
  · decide
  · decide

theorem encode_ascii : ∀ (x : Bytes), ∀ c ∈ encode x, c < 128
  | [] => nofun
  | [_] => by
    simp only [encode, List.forall_mem_cons, encChar_lt_128, true_and]
    decide
  | [_, _] => by
    simp only [encode, List.forall_mem_cons, encChar_lt_128, true_and]
    decide
  | _ :: _ :: _ :: rest => by
    simp only [encode, List.forall_mem_cons, encChar_lt_128, true_and]
    exact encode_ascii rest

/-- `base64.b64decode(base64.b64encode(x)) == x` for the `str` path too -/
theorem decodeStr_encode (x : Bytes) : decodeStr (encode x) = .ok x := by
  unfold decodeStr
  have : (encode x).any (· ≥ 128) = false := by
    rw [List.any_eq_false]
    intro c hc
    have := encode_ascii x c hc
    simp only [ge_iff_le, decide_eq_true_eq]
    exact Nat.not_le.mpr this
  simp [this, pyDecode_encode]

theorem encode_length : ∀ (x : Bytes), (encode x).length = 4 * ((x.length + 2) / 3)
  | [] => by simp [encode]
  | [_] => by simp [encode]
  | [_, _] => by simp [encode]
  | _ :: _ :: _ :: rest => by
    simp only [encode, List.length_cons, encode_length rest]; omega

end Base64
end Abverif.Crypto

import Abverif.Model.Session
/-
Helper lemmas for the session proofs (C04, C06, C10, C11): association lists, what the primitives do to each field, which
branch `step` takes on a message (`step_pre`, `step_est`, `step_over`), and the reply side of `onEstablished` in one form
(`ReplyBody`, `onEstablished_elim`), through which every walk of it goes.
-/
namespace Abverif.Session
open Abverif.SessCodes

section AList
variable {β : Type}

@[simp] theorem alookup_nil (k : Nat) : alookup k ([] : List (Nat × β)) = none := rfl

theorem alookup_cons (k k' : Nat) (v : β) (l : List (Nat × β)) :
    alookup k ((k', v) :: l) = if k' = k then some v else alookup k l := rfl

theorem alookup_append (k : Nat) (l1 l2 : List (Nat × β)) :
    alookup k (l1 ++ l2) = (alookup k l1).or (alookup k l2) := by
  induction l1 with
  | nil => simp
  | cons e l ih =>
    obtain ⟨k', v⟩ := e
    simp only [List.cons_append, alookup_cons]
    split <;> simp [ih]

@[simp] theorem alookup_adel_self (k : Nat) (l : List (Nat × β)) : alookup k (adel k l) = none := by
  induction l with
  | nil => rfl
  | cons e l ih =>
    obtain ⟨k', v⟩ := e
    simp only [adel]
    split
    · exact ih
    · simp [alookup_cons, *]

theorem alookup_adel_ne {k k' : Nat} (h : k ≠ k') (l : List (Nat × β)) :
    alookup k (adel k' l) = alookup k l := by
  induction l with
  | nil => rfl
  | cons e l ih =>
    obtain ⟨k'', v⟩ := e
    simp only [adel]
    split
    · next h' => subst h'; simp [alookup_cons, ih, Ne.symm h]
    · simp [alookup_cons, ih]

@[simp] theorem alookup_aset_self (k : Nat) (v : β) (l : List (Nat × β)) : alookup k (aset k v l) = some v := by
  simp [aset, alookup_append, alookup_cons]

theorem alookup_aset_ne {k k' : Nat} (h : k ≠ k') (v : β) (l : List (Nat × β)) :
    alookup k (aset k' v l) = alookup k l := by
  simp [aset, alookup_append, alookup_cons, alookup_adel_ne h, Ne.symm h]

theorem alookup_some_mem {k : Nat} {v : β} {l : List (Nat × β)} (h : alookup k l = some v) : (k, v) ∈ l := by
  induction l with
  | nil => simp at h
  | cons e l ih =>
    obtain ⟨k', v'⟩ := e
    simp only [alookup_cons] at h
    split at h
    · next hk => subst hk; simp at h; subst h; simp
    · exact List.mem_cons_of_mem _ (ih h)

theorem alookup_none_iff {k : Nat} {l : List (Nat × β)} : alookup k l = none ↔ k ∉ akeys l := by
  induction l with
  | nil => simp [akeys]
  | cons e l ih =>
    obtain ⟨k', v'⟩ := e
    simp only [alookup_cons, akeys, List.map_cons, List.mem_cons, not_or]
    split
    · next hk => subst hk; simp
    · next hk => simp only [akeys] at ih; rw [ih]; constructor
                 · intro h; exact ⟨fun e => hk e.symm, h⟩
                 · intro h; exact h.2

theorem alookup_isSome_iff {k : Nat} {l : List (Nat × β)} : (alookup k l).isSome ↔ k ∈ akeys l := by
  cases h : alookup k l with
  | none => simp [alookup_none_iff.mp h]
  | some v =>
    simp only [Option.isSome_some, true_iff]
    exact List.mem_map.mpr ⟨(k, v), alookup_some_mem h, rfl⟩

theorem adel_sublist (k : Nat) (l : List (Nat × β)) : (adel k l).Sublist l := by
  induction l with
  | nil => exact List.Sublist.slnil
  | cons e l ih =>
    obtain ⟨k', v⟩ := e
    simp only [adel]
    split
    · exact List.Sublist.cons _ ih
    · exact List.Sublist.cons_cons _ ih

theorem mem_adel {k : Nat} {e : Nat × β} {l : List (Nat × β)} (h : e ∈ adel k l) : e ∈ l ∧ e.1 ≠ k := by
  induction l with
  | nil => simp [adel] at h
  | cons x l ih =>
    obtain ⟨k', v⟩ := x
    simp only [adel] at h
    split at h
    · exact ⟨List.mem_cons_of_mem _ (ih h).1, (ih h).2⟩
    · next hk =>
      rcases List.mem_cons.mp h with h | h
      · subst h; exact ⟨List.mem_cons_self, hk⟩
      · exact ⟨List.mem_cons_of_mem _ (ih h).1, (ih h).2⟩

theorem akeys_adel_subset (k : Nat) (l : List (Nat × β)) : ∀ x ∈ akeys (adel k l), x ∈ akeys l ∧ x ≠ k := by
  intro x hx
  simp only [akeys, List.mem_map] at hx ⊢
  obtain ⟨e, he, rfl⟩ := hx
  exact ⟨⟨e, (mem_adel he).1, rfl⟩, (mem_adel he).2⟩

theorem akeys_aset (k : Nat) (v : β) (l : List (Nat × β)) : akeys (aset k v l) = akeys (adel k l) ++ [k] := by
  simp [akeys, aset]

theorem alookup_aupd_self (k : Nat) (v : β) (l : List (Nat × β)) :
    alookup k (aupd k v l) = if (alookup k l).isSome then some v else none := by
  induction l with
  | nil => rfl
  | cons e l ih =>
    obtain ⟨k', v'⟩ := e
    simp only [aupd]
    split
    · next hk => subst hk; simp [alookup_cons]
    · next hk => simp [alookup_cons, hk, ih]

theorem alookup_aupd_ne {k k' : Nat} (h : k ≠ k') (v : β) (l : List (Nat × β)) :
    alookup k (aupd k' v l) = alookup k l := by
  induction l with
  | nil => rfl
  | cons e l ih =>
    obtain ⟨k'', v'⟩ := e
    simp only [aupd]
    split
    · next hk => subst hk; simp [alookup_cons, Ne.symm h]
    · simp [alookup_cons, ih]

theorem akeys_aupd (k : Nat) (v : β) (l : List (Nat × β)) : akeys (aupd k v l) = akeys l := by
  induction l with
  | nil => rfl
  | cons e t ih =>
    obtain ⟨k', v'⟩ := e
    simp only [aupd]
    split
    · next hk => simp [akeys, hk]
    · simpa [akeys] using ih

theorem akeys_adel_sublist (k : Nat) (l : List (Nat × β)) : (akeys (adel k l)).Sublist (akeys l) := by
  simp only [akeys]; exact (adel_sublist k l).map _

theorem akeys_aset_sublist (k : Nat) (v : β) (l : List (Nat × β)) :
    (akeys (aset k v l)).Sublist (akeys l ++ [k]) := by
  rw [akeys_aset]; exact (akeys_adel_sublist k l).append (List.Sublist.refl _)

theorem adel_append (k : Nat) (a b : List (Nat × β)) : adel k (a ++ b) = adel k a ++ adel k b := by
  induction a with
  | nil => rfl
  | cons e a ih => obtain ⟨k', v⟩ := e; simp only [List.cons_append, adel]; split <;> simp [ih]

theorem adel_adel (k : Nat) (a : List (Nat × β)) : adel k (adel k a) = adel k a := by
  induction a with
  | nil => rfl
  | cons e a ih => obtain ⟨k', v⟩ := e; simp only [adel]; split <;> simp [adel, *]

theorem adel_aset_self (k : Nat) (v : β) (l : List (Nat × β)) : adel k (aset k v l) = adel k l := by
  simp [aset, adel_append, adel_adel, adel]

theorem mem_aset {k : Nat} {v : β} {l : List (Nat × β)} {e : Nat × β} (h : e ∈ aset k v l) :
    e ∈ l ∨ e = (k, v) := by
  simp only [aset, List.mem_append, List.mem_singleton] at h
  rcases h with h | h
  · exact Or.inl (mem_adel h).1
  · exact Or.inr h

theorem aupd_of_none {k : Nat} (v : β) {l : List (Nat × β)} (h : alookup k l = none) : aupd k v l = l := by
  induction l with
  | nil => rfl
  | cons e t ih =>
    obtain ⟨k', v'⟩ := e
    simp only [alookup_cons] at h
    split at h
    · simp at h
    · next hk => simp [aupd, hk, ih h]

theorem alookup_aupd_isSome (k k' : Nat) (v : β) (l : List (Nat × β)) :
    (alookup k (aupd k' v l)).isSome = (alookup k l).isSome := by
  by_cases e : k = k'
  · subst e; rw [alookup_aupd_self]; cases alookup k l <;> rfl
  · rw [alookup_aupd_ne e]

theorem alookup_aupd_none {k k' : Nat} (v : β) {l : List (Nat × β)} (h : alookup k l = none) :
    alookup k (aupd k' v l) = none := by
  by_cases e : k = k'
  · subst e; rw [alookup_aupd_self, h]; rfl
  · rw [alookup_aupd_ne e]; exact h

theorem alookup_adel_none {k k' : Nat} {l : List (Nat × β)} (h : alookup k l = none) :
    alookup k (adel k' l) = none := by
  by_cases e : k = k'
  · subst e; exact alookup_adel_self _ _
  · rw [alookup_adel_ne e]; exact h

theorem alookup_of_mem_nodup {k : Nat} {v : β} {l : List (Nat × β)} (hn : (akeys l).Nodup) (hm : (k, v) ∈ l) :
    alookup k l = some v := by
  induction l with
  | nil => simp at hm
  | cons e l ih =>
    obtain ⟨k', v'⟩ := e
    simp only [akeys, List.map_cons, List.nodup_cons] at hn
    simp only [alookup_cons]
    rcases List.mem_cons.mp hm with h | h
    · simp at h; obtain ⟨h1, h2⟩ := h; subst h1; subst h2; simp
    · split
      · next hk =>
        subst hk
        exact absurd (List.mem_map.mpr ⟨(k', v), h, rfl⟩) hn.1
      · exact ih hn.2 h

end AList

@[simp] theorem setTbl_tbl_self (s : Sess) (k : Kind) (t : Table) : (s.setTbl k t).tbl k = t := by cases k <;> rfl
theorem setTbl_tbl_ne {k k' : Kind} (h : k' ≠ k) (s : Sess) (t : Table) : (s.setTbl k t).tbl k' = s.tbl k' := by
  cases k <;> cases k' <;> first | rfl | exact absurd rfl h
theorem setTbl_tbl (s : Sess) (k k' : Kind) (t : Table) : (s.setTbl k t).tbl k' = if k' = k then t else s.tbl k' := by
  by_cases h : k' = k
  · subst h; simp
  · simp [h, setTbl_tbl_ne h]
@[simp] theorem setTbl_subs (s : Sess) (k : Kind) (t : Table) : (s.setTbl k t).subs = s.subs := by cases k <;> rfl
@[simp] theorem setTbl_futs (s : Sess) (k : Kind) (t : Table) : (s.setTbl k t).futs = s.futs := by cases k <;> rfl
@[simp] theorem setTbl_issued (s : Sess) (k : Kind) (t : Table) : (s.setTbl k t).issued = s.issued := by cases k <;> rfl
@[simp] theorem setTbl_nextId (s : Sess) (k : Kind) (t : Table) : (s.setTbl k t).nextId = s.nextId := by cases k <;> rfl
@[simp] theorem setTbl_cbq (s : Sess) (k : Kind) (t : Table) : (s.setTbl k t).cbq = s.cbq := by cases k <;> rfl
@[simp] theorem setTbl_regs (s : Sess) (k : Kind) (t : Table) : (s.setTbl k t).regs = s.regs := by cases k <;> rfl

theorem tbl_subs_update (s1 : Sess) (x : List (SubId × List SubRec)) (k : Kind) : Sess.tbl { s1 with subs := x } k = s1.tbl k := by
  cases k <;> rfl
theorem tbl_regs_update (s1 : Sess) (x : List (RegId × RegRec)) (k : Kind) : Sess.tbl { s1 with regs := x } k = s1.tbl k := by
  cases k <;> rfl

theorem called_eq (s : Sess) (f : Nat) : s.called f = (match s.futs[f]? with | some x => x.cell.isSome | none => false) := rfl

@[simp] theorem drawId_tbl (s : Sess) (k : Kind) : s.drawId.1.tbl k = s.tbl k := by cases k <;> rfl
@[simp] theorem drawId_subs (s : Sess) : s.drawId.1.subs = s.subs := rfl
@[simp] theorem drawId_futs (s : Sess) : s.drawId.1.futs = s.futs := rfl
@[simp] theorem drawId_issued (s : Sess) : s.drawId.1.issued = s.issued + 1 := rfl
@[simp] theorem drawId_cbq (s : Sess) : s.drawId.1.cbq = s.cbq := rfl
@[simp] theorem drawId_nextId (s : Sess) : s.drawId.1.nextId = s.drawId.2 := rfl
@[simp] theorem newFut_tbl (s : Sess) (k k' : Kind) : (s.newFut k).1.tbl k' = s.tbl k' := by cases k' <;> rfl
@[simp] theorem newFut_subs (s : Sess) (k : Kind) : (s.newFut k).1.subs = s.subs := rfl
@[simp] theorem newFut_futs (s : Sess) (k : Kind) : (s.newFut k).1.futs = s.futs ++ [{ kind := k }] := rfl
@[simp] theorem newFut_issued (s : Sess) (k : Kind) : (s.newFut k).1.issued = s.issued := rfl
@[simp] theorem newFut_cbq (s : Sess) (k : Kind) : (s.newFut k).1.cbq = s.cbq := rfl
@[simp] theorem newFut_nextId (s : Sess) (k : Kind) : (s.newFut k).1.nextId = s.nextId := rfl
@[simp] theorem newFut_snd (s : Sess) (k : Kind) : (s.newFut k).2 = s.futs.length := rfl
@[simp] theorem unwatch_tbl (s : Sess) (f : Nat) (k : Kind) : (s.unwatch f).tbl k = s.tbl k := by
  unfold Sess.unwatch; split <;> cases k <;> rfl
@[simp] theorem unwatch_subs (s : Sess) (f : Nat) : (s.unwatch f).subs = s.subs := by unfold Sess.unwatch; split <;> rfl
@[simp] theorem unwatch_issued (s : Sess) (f : Nat) : (s.unwatch f).issued = s.issued := by unfold Sess.unwatch; split <;> rfl
@[simp] theorem unwatch_cbq (s : Sess) (f : Nat) : (s.unwatch f).cbq = s.cbq := by unfold Sess.unwatch; split <;> rfl
@[simp] theorem unwatch_nextId (s : Sess) (f : Nat) : (s.unwatch f).nextId = s.nextId := by unfold Sess.unwatch; split <;> rfl
@[simp] theorem unwatch_futs_length (s : Sess) (f : Nat) : (s.unwatch f).futs.length = s.futs.length := by
  unfold Sess.unwatch; split <;> simp
theorem unwatch_futs_ok (s : Sess) (f : Nat) : ∀ x ∈ (s.unwatch f).futs, x ∈ s.futs ∨ ∃ y ∈ s.futs, x = { y with watched := false } := by
  unfold Sess.unwatch; split
  · next y hy =>
    intro x hx
    rcases List.mem_or_eq_of_mem_set hx with h | h
    · exact Or.inl h
    · exact Or.inr ⟨y, List.mem_of_getElem? hy, h⟩
  · intro x hx; exact Or.inl hx

theorem sendReq_ok (s : Sess) (k : Kind) (id : ReqId) (m : OutMsg) (f : Option FutId) (keep : Bool) :
    sendReq s k id m f keep .ok = (s, [.send m, match f with | some f => .ret f | none => .retNone]) := rfl
theorem sendReq_fail_keep (s : Sess) (k : Kind) (id : ReqId) (m : OutMsg) (f : FutId) :
    sendReq s k id m (some f) true .raises = (s.unwatch f, [.send m, .raise_ .sendFailed]) := rfl
theorem sendReq_fail_forget (s : Sess) (k : Kind) (id : ReqId) (m : OutMsg) (f : FutId) :
    sendReq s k id m (some f) false .raises =
      ((s.unwatch f).setTbl k (adel id ((s.unwatch f).tbl k)), [.send m, .raise_ .sendFailed]) := rfl

theorem sendReq_subs (s : Sess) (k : Kind) (id : ReqId) (m : OutMsg) (f : Option FutId) (keep : Bool) (snd : SendRes) :
    (sendReq s k id m f keep snd).1.subs = s.subs := by
  cases snd with
  | ok => rfl
  | raises => cases f <;> cases keep <;> simp [sendReq]

theorem request_subs (s : Sess) (k : Kind) (mkReq : FutId → Req) (mkMsg : ReqId → OutMsg) (keep : Bool) (snd : SendRes) :
    (request s k mkReq mkMsg keep snd).1.subs = s.subs := by
  unfold request; rw [sendReq_subs]; simp

theorem request_out (s : Sess) (k : Kind) (mkReq : FutId → Req) (mkMsg : ReqId → OutMsg) (keep : Bool) (snd : SendRes) :
    (request s k mkReq mkMsg keep snd).2 =
      [.send (mkMsg s.drawId.2), match snd with | .ok => .ret s.futs.length | .raises => .raise_ .sendFailed] := by
  cases snd <;> rfl

theorem emitCb_fields (s : Sess) (o : SOut) :
    (∀ k, (emitCb s o).1.tbl k = s.tbl k) ∧ (emitCb s o).1.subs = s.subs ∧ (emitCb s o).1.futs = s.futs ∧
    (emitCb s o).1.issued = s.issued ∧ ((emitCb s o).2 = [o] ∨ (emitCb s o).2 = []) ∧
    ((emitCb s o).1.cbq = s.cbq ∨ (emitCb s o).1.cbq = s.cbq ++ [o]) := by
  unfold emitCb; split
  · simp
  · refine ⟨fun k => by cases k <;> rfl, rfl, rfl, rfl, Or.inr rfl, Or.inr rfl⟩

theorem emitCb_sync {s : Sess} (hm : s.mode = .sync) (o : SOut) : emitCb s o = (s, [o]) := by
  simp [emitCb, hm]

theorem emitCb_subs (s : Sess) (o : SOut) : (emitCb s o).1.subs = s.subs := (emitCb_fields s o).2.1

theorem settle_open {s : Sess} {f : Nat} {x : Fut} (hx : s.futs[f]? = some x) (hc : x.cell.isSome = false) (o : Outcome) :
    settle s f o =
      if x.watched then
        ((emitCb { s with futs := s.futs.set f { x with cell := some o, count := x.count + 1 } } (.callback f o)).1,
         .complete f o :: (emitCb { s with futs := s.futs.set f { x with cell := some o, count := x.count + 1 } } (.callback f o)).2)
      else ({ s with futs := s.futs.set f { x with cell := some o, count := x.count + 1 } }, [.complete f o]) := by
  simp [settle, hx, hc]

/-- `settle` rewrites entry `f` of `futs`, if there is one, to a completed future (`List.set` beyond the end does nothing)
and may queue the callback; it touches nothing else -/
theorem settle_eq (s : Sess) (f : FutId) (o : Outcome) :
    ∃ (y : Fut) (Q : List SOut), y.cell.isSome = true ∧ (settle s f o).1 = { s with futs := s.futs.set f y, cbq := Q } ∧
      (Q = s.cbq ∨ Q = s.cbq ++ [.callback f o]) ∧
      ∀ x ∈ (settle s f o).2, x = .raise_ .internal ∨ x = .raise_ .alreadyCalled ∨ x = .complete f o ∨ x = .callback f o := by
  unfold settle
  split
  · next hn =>
    refine ⟨{ kind := .call, cell := some o }, s.cbq, rfl, ?_, .inl rfl, by simp⟩
    rw [List.set_eq_of_length_le (List.getElem?_eq_none_iff.mp hn)]
  · next x _ =>
    split
    · next hc => exact ⟨{ x with count := x.count + 1 }, s.cbq, hc, rfl, .inl rfl, by simp⟩
    · split
      · simp only [emitCb]
        split
        · exact ⟨_, s.cbq, rfl, rfl, .inl rfl, by simp⟩
        · exact ⟨_, _, rfl, rfl, .inr rfl, by simp⟩
      · exact ⟨_, s.cbq, rfl, rfl, .inl rfl, by simp⟩

/-- one `send()` on a reply path takes the head of the plan (an empty plan accepts) and writes nothing else -/
theorem replySend_eq (s : Sess) (m : OutMsg) :
    replySend s m = ({ s with faults := s.faults.tail },
      if s.faults.headD .ok = .ok then [.send m] else [.sendFail m (s.faults.headD .ok)], s.faults.headD .ok) := by
  unfold replySend
  split
  · next h => cases s; simp_all
  · next r h => simp [h]
  · next f r hne h =>
    have hf : f ≠ .ok := hne
    simp [h, hf]

/-- what `cancel` emits or queues: the CANCEL message of a call, the completion and the user's callback (`unmodelled`:
the branches outside the model) -/
def cancelOut (f : FutId) (x : SOut) : Prop :=
  x = .unmodelled ∨ (∃ id, x = .send { typ := .cancel, req := id }) ∨ x = .complete f .cancelled ∨ x = .callback f .cancelled

theorem cancelMsgs_out (s : Sess) (f : FutId) (k : Kind) : ∀ x ∈ cancelMsgs s f k, cancelOut f x := by
  intro x hx
  unfold cancelMsgs at hx
  split at hx
  · split at hx
    · exact .inr (.inl ⟨_, List.mem_singleton.mp hx⟩)
    · cases hx
  · cases hx

theorem apiCancel_eq (s : Sess) (f : FutId) :
    ∃ F Q, (apiCancel s f).1 = { s with futs := F, cbq := Q } ∧ F.length = s.futs.length ∧
      (∀ x ∈ Q, x ∈ s.cbq ∨ cancelOut f x) ∧ ∀ x ∈ (apiCancel s f).2, cancelOut f x := by
  have same : ∀ os : List SOut, (∀ x ∈ os, cancelOut f x) →
      ∃ F Q, (s, os).1 = { s with futs := F, cbq := Q } ∧ F.length = s.futs.length ∧
        (∀ x ∈ Q, x ∈ s.cbq ∨ cancelOut f x) ∧ ∀ x ∈ (s, os).2, cancelOut f x :=
    fun os h => ⟨s.futs, s.cbq, rfl, rfl, fun x hx => .inl hx, h⟩
  unfold apiCancel
  split
  · exact same _ (fun x hx => .inl (List.mem_singleton.mp hx))
  · next y _ =>
    split
    · exact same _ (fun x hx => nomatch hx)
    · split
      · exact same _ (fun x hx => .inl (List.mem_singleton.mp hx))
      · have hlast : ∀ x ∈ [SOut.complete f .cancelled, .callback f .cancelled], cancelOut f x := fun x hx =>
          (List.mem_cons.mp hx).elim (fun e => .inr (.inr (.inl e))) (fun h => .inr (.inr (.inr (List.mem_singleton.mp h))))
        unfold cancelDo
        split
        · refine ⟨_, s.cbq, rfl, by simp, fun x hx => .inl hx, fun x hx => ?_⟩
          exact (List.mem_append.mp hx).elim (cancelMsgs_out s f y.kind x) (hlast x)
        · refine ⟨_, _, rfl, by simp, fun x hx => ?_, fun x hx => .inr (.inr (.inl (List.mem_singleton.mp hx)))⟩
          rcases List.mem_append.mp hx with hx | hx
          · exact (List.mem_append.mp hx).imp id (cancelMsgs_out s f y.kind x)
          · exact .inr (hlast x (List.mem_cons_of_mem _ hx))

theorem settle_tbl (s : Sess) (f : Nat) (o : Outcome) (k : Kind) : (settle s f o).1.tbl k = s.tbl k := by
  obtain ⟨y, Q, _, e, _⟩ := settle_eq s f o
  rw [e]; cases k <;> rfl

theorem settle_subs (s : Sess) (f : Nat) (o : Outcome) : (settle s f o).1.subs = s.subs := by
  obtain ⟨y, Q, _, e, _⟩ := settle_eq s f o
  rw [e]

theorem settle_futs_length (s : Sess) (f : Nat) (o : Outcome) : (settle s f o).1.futs.length = s.futs.length := by
  obtain ⟨y, Q, _, e, _⟩ := settle_eq s f o
  rw [e]; exact List.length_set

/-- a message goes to the pre-session branch, to the established branch, or — once the session of this connection is over —
is a protocol violation -/
theorem step_pre {s : Sess} (hsid : s.sessionId = none) (hended : s.ended = false) (m : InMsg) (beh : List HAct) :
    step s (.msg m beh) = preSessionOpen s beh m := by
  simp only [step, onMessage, hsid, preSession, hended, Bool.false_eq_true, ↓reduceIte]

theorem step_est {s : Sess} {sid : Nat} (hsid : s.sessionId = some sid) (m : InMsg) (beh : List HAct) :
    step s (.msg m beh) = onEstablished s beh m := by
  simp only [step, onMessage, hsid]

theorem step_over {s : Sess} (hsid : s.sessionId = none) (hended : s.ended = true) (m : InMsg) (beh : List HAct) :
    step s (.msg m beh) = (s, [.raise_ .protocolError]) := by
  simp only [step, onMessage, hsid, preSession, hended, ↓reduceIte]

theorem errorKind_some {s : Sess} {t : Nat} {id : ReqId} {k : Kind} (h : errorKind s t id = some k) :
    k.code = t ∧ (alookup id (s.tbl k)).isSome = true := by
  have := List.find?_some h
  simpa using this

/-- a final RESULT and an ERROR are reply branches like the other five: the record is popped, then its future completed -/
theorem onEstablished_result_final (s : Sess) (beh : List HAct) (id : ReqId) (p : Payload) :
    onEstablished s beh (.result id p false) =
      popReply s .call id (fun s1 r => settle s1 r.fut (.value (resultValue r.details p))) := by
  cases h : alookup id s.tCall <;> simp [onEstablished, popReply, Sess.tbl, h] <;> rfl

theorem onEstablished_error {s : Sess} {t : Nat} {id : ReqId} {k : Kind} (hk : errorKind s t id = some k) (beh : List HAct)
    (uri : Uri) (p : Payload) :
    onEstablished s beh (.error t id uri p) =
      popReply s k id (fun s1 r => settle s1 r.fut (.error uri (p.args.getD []) (p.kwargs.getD []))) := by
  have hsome := (errorKind_some hk).2
  cases h : alookup id (s.tbl k) with
  | none => rw [h] at hsome; cases hsome
  | some r => simp [onEstablished, popReply, hk, h]

theorem popReply_open {s : Sess} {kind : Kind} {id : ReqId} {r : Req} {x : Fut} (hr : alookup id (s.tbl kind) = some r)
    (hx : s.futs[r.fut]? = some x) (hopen : x.cell.isSome = false) (k : Sess → Req → Sess × List SOut) :
    popReply s kind id k = k (s.setTbl kind (adel id (s.tbl kind))) r := by
  have hc : (s.setTbl kind (adel id (s.tbl kind))).called r.fut = false := by rw [called_eq, setTbl_futs, hx]; exact hopen
  simp [popReply, hr, hc]

/-- the reply branches of an established session, EVENT dispatch included (everything but GOODBYE, INVOCATION,
INTERRUPT) -/
def InMsg.isReplySide : InMsg → Bool
  | .goodbye | .invocation _ _ _ _ | .interrupt _ => false
  | _ => true

/-- What a final reply does with the popped record `r` once its future is known to be open. PUBLISHED, a final RESULT and
ERROR complete the future and nothing else (`plain`); the other four rewrite a handler list or the registrations first
(REGISTERED refuses a registration id already held). `plain` is there for every `m`, `kind` and `out`: the index `m` says
something in the other four constructors only. -/
inductive ReplyBody : InMsg → Kind → (Sess → Req → Sess × List SOut) → Prop
  | plain (m : InMsg) (kind : Kind) (out : Req → Outcome) : ReplyBody m kind fun s r => settle s r.fut (out r)
  | subscribed (id : ReqId) (sub : SubId) : ReplyBody (.subscribed id sub) .subscribe fun s r =>
      let rec_ : SubRec := { obj := r.fut, h := r.handler, detailsArg := r.detailsArg, topic := r.uri }
      let subs := match alookup sub s.subs with
        | none => s.subs ++ [(sub, [rec_])]
        | some l => aupd sub (l ++ [rec_]) s.subs
      settle { s with subs := subs } r.fut (.value (.subscription sub))
  | unsubscribed (id : ReqId) : ReplyBody (.unsubscribed id) .unsubscribe fun s r =>
      settle { s with subs := adel r.target s.subs } r.fut (.value (.int 0))
  | registered (id : ReqId) (reg : RegId) : ReplyBody (.registered id reg) .register fun s r =>
      match alookup reg s.regs with
      | none =>
        settle { s with regs := s.regs ++ [(reg, { obj := r.fut, proc := r.uri, endpoint := r.handler, detailsArg := r.detailsArg })] }
          r.fut (.value (.registration reg))
      | some _ => (s, [.raise_ .protocolError])
  | unregistered (id : ReqId) (reg : Option RegId) : ReplyBody (.unregistered id reg) .unregister fun s r =>
      settle { s with regs := adel r.target s.regs } r.fut (.value .none_)

/-- The reply side of an established session has six shapes: a final reply that finds its record with the future still
open (the record is popped and the body runs); one that finds the future completed already (the record is popped, nothing
else); a protocol violation that changes nothing; a message that is ignored; an EVENT for an id that is held; a
progressive RESULT whose call has an `on_progress`. Less is handed over than the cases know: `popped` is asked for every
`kind` and `id`, without the record found or its future being completed, and the `id` of `reply` is the one the record
stands under, not tied to the id inside `m`. -/
theorem onEstablished_elim {C : Sess × List SOut → Prop} (s : Sess) (beh : List HAct) {m : InMsg}
    (hm : m.isReplySide = true)
    (reply : ∀ kind id k r, ReplyBody m kind k → alookup id (s.tbl kind) = some r → s.called r.fut = false →
      C (k (s.setTbl kind (adel id (s.tbl kind))) r))
    (popped : ∀ kind id, C (s.setTbl kind (adel id (s.tbl kind)), []))
    (violation : C (s, [.raise_ .protocolError]))
    (ignored : C (s, []))
    (event : ∀ sub (p : Payload) l, alookup sub s.subs = some l → C (dispatch s sub (p.args.getD []) (kwOfPayload p) l beh))
    (progress : ∀ (h : HId) (pr : Prog),
      C ((runAct s none (beh.headD {})).1, .progress h pr :: (runAct s none (beh.headD {})).2)) :
    C (onEstablished s beh m) := by
  have pop : ∀ kind id k, ReplyBody m kind k → C (popReply s kind id k) := by
    intro kind id k hb
    unfold popReply
    split
    · exact violation
    · next r hr =>
      simp only []
      split
      · exact popped kind id
      · next hc => exact reply kind id k r hb hr (by simpa [called_eq] using hc)
  cases m with
  | goodbye | invocation _ _ _ _ | interrupt _ => cases hm
  | published id pub => exact pop _ _ _ (.plain _ _ _)
  | subscribed id sub => exact pop _ _ _ (.subscribed id sub)
  | unsubscribed id => exact pop _ _ _ (.unsubscribed id)
  | registered id reg => exact pop _ _ _ (.registered id reg)
  | event sub pub p =>
    simp only [onEstablished]
    split
    · exact violation
    · next l hl => exact event sub p l hl
  | result id p progress =>
    cases progress with
    | false => rw [onEstablished_result_final]; exact pop _ _ _ (.plain _ _ _)
    | true =>
      simp only [onEstablished, ↓reduceIte]
      split
      · exact violation
      · split
        · exact ignored
        · exact progress _ _
  | unregistered id reg =>
    simp only [onEstablished]
    split
    · split
      · exact violation
      · exact ignored
    · exact pop _ _ _ (.unregistered id reg)
  | error t id uri p =>
    cases hk : errorKind s t id with
    | none => simp only [onEstablished, hk]; exact violation
    | some k => rw [onEstablished_error hk]; exact pop _ _ _ (.plain _ _ _)
  | welcome _ | abort | challenge | other => exact violation

end Abverif.Session

import Abverif.Proofs.Lemmas.C14Step
/-!
C14 — what a step logs and what it does to `_stopping`, whatever the transports are (one walk through the retry
logic, `step_tame`); and stop(): once stop() has been called (from any position after start) no connection is
attempted any more.  `transport_check` consults `_stopping`, so whatever becomes of a connect in flight or of a
joined session, the loop ends at the next check.
-/
namespace Abverif.Comp
open Spec

def Obs.isAtt : Obs → Bool
  | .att _ _ _ => true
  | _ => false

def Obs.isStop : Obs → Bool
  | .stop => true
  | _ => false

def Free (p : Obs → Bool) (l : List Obs) : Prop := ∀ o ∈ l, p o = false

theorem Free.nil {p : Obs → Bool} : Free p [] := by intro o ho; cases ho

theorem Free.append {p : Obs → Bool} {a b : List Obs} (ha : Free p a) (hb : Free p b) : Free p (a ++ b) :=
  List.forall_mem_append.mpr ⟨ha, hb⟩

theorem Free.cons {p : Obs → Bool} {o : Obs} {r : List Obs} (h : p o = false) (hr : Free p r) :
    Free p (o :: r) :=
  List.forall_mem_cons.mpr ⟨h, hr⟩

theorem Free.single {p : Obs → Bool} (o : Obs) (h : p o = false) : Free p [o] := Free.cons h Free.nil

abbrev NoStop (l : List Obs) : Prop := Free Obs.isStop l
abbrev NoAtt (l : List Obs) : Prop := Free Obs.isAtt l

/-- stop() has been called and no retry delay is pending -/
def Halted (s : State) : Prop := s.stopping = true ∧ ∀ i d, s.phase ≠ .waiting i d

/-! ### what a step logs and what it does to the flags, whatever the transports are -/

/-- single observations other than the two a firing consists of, other than `stop` and other than attempts -/
def Obs.plain : Obs → Bool
  | .sfire _ _ | .call _ _ | .stop | .att _ _ _ => false
  | _ => true

theorem ofSession_plain (o : Obs) (h : o.ofSession = true) : o.plain = true := by
  cases o <;> first | rfl | cases h

/-- `p` holds of the single observations that may be logged: of an attempt only while the component is not halted
(`H`: it is) -/
structure Admits (H : Prop) (p : Obs → Prop) : Prop where
  plain : ∀ o, o.plain = true → p o
  att : ¬ H → ∀ i w t, p (.att i w t)

/-- `r` is what one of the model's functions returns: the configuration stands, a halted component stays halted,
and the log consists of session firings and of single observations satisfying `p` -/
structure Tame (cfg : Cfg) (H : Prop) (p : Obs → Prop) (r : State × List Obs) : Prop where
  keeps : r.1.cfg = cfg
  halted : H → Halted r.1
  log : Shaped cfg p r.2

variable {H : Prop} {p : Obs → Prop} {s : State}

theorem Halted.dead {s' : State} (hs : s'.stopping = true) (hp : s'.phase = .dead) : Halted s' :=
  ⟨hs, fun i d hw => by rw [hp] at hw; cases hw⟩

theorem setDone_stopping (ok : Bool) (s : State) : (setDone ok s).1.stopping = s.stopping := by
  unfold setDone; split <;> rfl

theorem tame_setDone (hp : Admits H p) (ok : Bool) (s : State) : Tame s.cfg False p (setDone ok s) := by
  unfold setDone; split <;> exact ⟨rfl, False.elim, .single (hp.plain _ rfl)⟩

/-- `transport_check` consults `_stopping`: if it is set the loop ends, and only if it is not set is anything
attempted -/
theorem tame_tc (hp : Admits H p) (hH : H → s.stopping = true) : Tame s.cfg H p (transportCheck s) := by
  have no : s.stopping = false → ¬ H := fun hs h => nomatch hs.symm.trans (hH h)
  have hcs := tc_cases s
  generalize transportCheck s = r at hcs ⊢
  cases hcs with
  | stopped hs =>
    unfold stopCheck; split
    · exact ⟨rfl, fun _ => .dead hs rfl, .single (hp.plain _ rfl)⟩
    · exact ⟨rfl, fun _ => .dead hs rfl, .nil⟩
  | giveUp hs => exact ⟨(tame_setDone hp false s).keeps, fun h => (no hs h).elim, (tame_setDone hp false s).log⟩
  | wait hs => exact ⟨rfl, fun h => (no hs h).elim, .nil⟩
  | now hs => exact ⟨rfl, fun h => (no hs h).elim, .single (hp.att (no hs) ..)⟩

theorem tame_failRetry (hp : Admits H p) (hH : H → s.stopping = true) (i : Nat) (f : Bool) :
    Tame s.cfg H p (failRetry i f s) := by
  unfold failRetry; split
  · have t := tame_tc (s := { s with trs := updAt Tr.failed s.trs i }) hp hH
    exact ⟨t.keeps, t.halted, .one (hp.plain _ rfl) t.log⟩
  · exact tame_tc hp hH

theorem tame_sessionDone (hp : Admits H p) (hH : H → s.stopping = true) (i : Nat) (f : Bool) :
    Tame s.cfg H p (sessionDone i f s) := by
  unfold sessionDone; split
  · exact ⟨rfl, fun h => .dead (hH h) rfl, .single (hp.plain _ rfl)⟩
  · split
    · have t := tame_failRetry hp hH i f
      exact ⟨t.keeps, t.halted, .one (hp.plain _ rfl) t.log⟩
    · exact ⟨rfl, fun h => .dead (hH h) rfl, .single (hp.plain _ rfl)⟩

theorem Tame.around {cfg : Cfg} {marks pre post : List Obs} {r : State × List Obs} (t : Tame cfg H p r)
    (hp : Admits H p) (hl : EndLog cfg marks pre post) : Tame cfg H p (around pre post r) :=
  ⟨t.keeps, t.halted, ((hl.before.mono fun o h => hp.plain o (ofSession_plain o h)).append t.log).append
    (hl.after.mono fun _ h => h.elim)⟩

/-- stop() anywhere after start: `_stopping` is set, a pending retry delay is cancelled — the component is halted
whatever it was doing — and nothing is attempted -/
theorem tame_stop (hp : Admits True p) (hs : p .stop) (hph : s.phase ≠ .idle) : Tame s.cfg True p (onStop s) := by
  unfold onStop
  split
  · next h => exact absurd h hph
  · have t := tame_setDone hp true { s with stopping := true }
    exact ⟨t.keeps, fun _ => .dead (setDone_stopping ..) rfl, .one hs t.log⟩
  · next hc =>
    have hw : ∀ i d, s.phase ≠ .waiting i d := fun i d h => by rw [hc] at h; cases h
    split
    · exact ⟨rfl, fun _ => ⟨rfl, hw⟩, .one hs (.single (hp.plain _ rfl))⟩
    · exact ⟨rfl, fun _ => ⟨rfl, hw⟩, .single hs⟩
  · exact ⟨rfl, fun _ => ⟨rfl, fun i d h => by cases h⟩, .single hs⟩
  · next hw _ _ => exact ⟨rfl, fun _ => ⟨rfl, hw⟩, .single hs⟩

/-- Every step keeps the configuration and leaves a halted component halted; its log consists of session firings and
of single observations, of which `stop` is logged by a stop() after start only and an attempt only if the component
was not halted. -/
theorem step_tame (hp : Admits (Halted s) p) (e : Event) (he : e = .stop → s.phase ≠ .idle → p .stop) :
    Tame s.cfg (Halted s) p (step s e) := by
  have hcs := step_cases s e
  generalize step s e = r at hcs ⊢
  cases hcs with
  | skip => exact ⟨rfl, id, .nil⟩
  | check => exact tame_tc hp (·.1)
  | elapsed i d hph => exact ⟨rfl, fun h => absurd hph (h.2 i d), .single (hp.att (fun h => h.2 i d hph) ..)⟩
  | stop hph =>
    have t := tame_stop ⟨hp.plain, fun h => (h trivial).elim⟩ (he rfl hph) hph
    exact ⟨t.keeps, fun _ => t.halted trivial, t.log⟩
  | joined =>
    exact ⟨rfl, fun h => ⟨h.1, fun i d h => by cases h⟩, .joinedPre _ _ _ (hp.plain _ rfl) (hp.plain _ rfl)⟩
  | retry i f _ g m _ _ _ _ hlog hr =>
    subst hr; exact (tame_failRetry (s := { s with trs := updAt g s.trs i, nsess := m }) hp (·.1) i f).around hp hlog
  | raised i f g m _ _ _ _ hlog hr =>
    subst hr; exact (tame_failRetry (s := { s with trs := updAt g s.trs i, nsess := m }) hp (·.1) i f).around hp hlog
  | finish i f _ g m _ _ _ _ hlog hr =>
    subst hr; exact (tame_sessionDone (s := { s with trs := updAt g s.trs i, nsess := m }) hp (·.1) i f).around hp hlog

theorem step_cfg (s : State) (e : Event) : (step s e).1.cfg = s.cfg :=
  (step_tame (p := fun _ => True) ⟨fun _ _ => trivial, fun _ _ _ _ => trivial⟩ e (fun _ _ => trivial)).keeps

theorem nostop_step (s : State) (e : Event) (he : e = .stop → s.phase = .idle) : NoStop (step s e).2 :=
  (step_tame (p := fun o => o.isStop = false)
    ⟨fun o h => (by cases o <;> first | rfl | cases h), fun _ _ _ _ => rfl⟩
    e (fun h hp => absurd (he h) hp)).log.all (fun _ h => h) (fun o h => by cases o <;> first | rfl | cases h)

theorem admits_noAtt {H : Prop} (h : H) : Admits H (fun o => o.isAtt = false) :=
  ⟨fun o ho => (by cases o <;> first | rfl | cases ho), fun hn => absurd h hn⟩

theorem Tame.noAtt {cfg : Cfg} {H : Prop} {r : State × List Obs} (t : Tame cfg H (fun o => o.isAtt = false) r) :
    NoAtt r.2 :=
  t.log.all (fun _ h => h) fun o h => by cases o <;> first | rfl | cases h

theorem halted_step (s : State) (h : Halted s) (e : Event) : Halted (step s e).1 ∧ NoAtt (step s e).2 :=
  have t := step_tame (admits_noAtt h) e (fun _ _ => rfl)
  ⟨t.halted h, t.noAtt⟩

theorem stop_halts (s : State) (hp : s.phase ≠ .idle) : Halted (step s .stop).1 ∧ NoAtt (step s .stop).2 :=
  have t := tame_stop (admits_noAtt trivial) rfl hp
  ⟨t.halted trivial, t.noAtt⟩

theorem halted_run (s : State) (h : Halted s) (es : List Event) :
    Halted (run s es).1 ∧ NoAtt (run s es).2 :=
  run_inv Free.nil Free.append (fun s e h => halted_step s h e) h es

/-! ### once the loop has ended start()'s future is not touched -/

theorem dead_fixed (s : State) (hp : s.phase = .dead) (e : Event) :
    (step s e).1.phase = .dead ∧ (step s e).1.done = s.done ∧ ∀ o ∈ (step s e).2, o.isAtt = false := by
  cases e with
  | start => simp [step, hp]
  | delayElapsed => simp [step, hp]
  | stop => simp [step, onStop, hp, Obs.isAtt]
  | outcome o f => simp [step, hp]
  | sess e f => cases e <;> simp [step, onSess, hp]

theorem dead_run (s : State) (hp : s.phase = .dead) (es : List Event) :
    ((run s es).1.phase = .dead ∧ (run s es).1.done = s.done) ∧ NoAtt (run s es).2 :=
  run_inv (I := fun s' => s'.phase = .dead ∧ s'.done = s.done) Free.nil Free.append
    (fun s' e h => have d := dead_fixed s' h.1 e; ⟨⟨d.1, d.2.1.trans h.2⟩, d.2.2⟩) ⟨hp, rfl⟩ es

theorem chkStop_nostop (c : Conf) (k : Core) (l : List Obs) (hk : k.stopped = false) (hl : NoStop l) :
    specAll chkStop finTrue c k false l = true ∧ (feedAll c k l).stopped = false :=
  specAll_of_forall (P := fun k => k.stopped = false)
    (fun k o hk ho => ⟨by cases o <;> simp [chkStop, hk], by cases o <;> first | exact hk | cases ho⟩) hk hl

theorem chkStop_noatt (c : Conf) (k : Core) (l : List Obs) (hl : NoAtt l) :
    specAll chkStop finTrue c k false l = true :=
  (specAll_of_forall (P := fun _ => True) (fun _ o _ ho => ⟨(by cases o <;> first | rfl | cases ho), trivial⟩)
    trivial hl).1

/-- The monitor "no connection attempt after stop()" accepts every step, and once it has seen a stop the component
is halted: as long as the log carries no stop the monitor has nothing to reject; a stop() before start is not
logged; any other stop() halts the component. -/
theorem stop_step (c : Conf) (s : State) (k : Core) (hinv : k.stopped = true → Halted s) (e : Event) :
    Accepted c (fun k l => specAll chkStop finTrue c k false l = true) (fun s k => k.stopped = true → Halted s) k
      (step s e) := by
  cases hk : k.stopped with
  | true =>
    have h1 := halted_step s (hinv hk) e
    exact ⟨chkStop_noatt c k _ h1.2, fun _ => h1.1⟩
  | false =>
    by_cases he : e = .stop ∧ s.phase ≠ .idle
    · obtain ⟨rfl, hp⟩ := he
      have h1 := stop_halts s hp
      exact ⟨chkStop_noatt c k _ h1.2, fun _ => h1.1⟩
    · have h1 := chkStop_nostop c k _ hk (nostop_step s e fun h => Decidable.not_not.mp fun hp => he ⟨h, hp⟩)
      exact ⟨h1.1, fun hs => by rw [h1.2] at hs; cases hs⟩

theorem stop_run (c : Conf) (s : State) (k : Core) (hinv : k.stopped = true → Halted s)
    (es : List Event) : specAll chkStop finTrue c k false (run s es).2 = true :=
  (run_accepted (Monitor.ofChk c chkStop chkStop_ad) es (fun e _ s k h => stop_step c s k h e) hinv).chk

end Abverif.Comp

import Abverif.Model.Batch
/-
Batching lemmas (C03): `unbatch (batch ms) = ms` for every number of messages.
-/
namespace Abverif.Batch

theorem splitSep_eq (p : Bytes) : splitSep p = p.splitOn SEP := by
  induction p with
  | nil => rfl
  | cons b bs ih =>
    rw [splitSep, ih, List.splitOn_cons_eq_if_modifyHead]
    cases h : bs.splitOn SEP with
    | nil => exact absurd h (List.splitOn_ne_nil SEP bs)
    | cons q qs => rfl

/-- Python's `split` returns at least one piece: the `[]` branch of the `match` in `splitSep` is never taken -/
theorem splitSep_ne_nil (p : Bytes) : splitSep p ≠ [] :=
  splitSep_eq p ▸ List.splitOn_ne_nil SEP p

theorem splitSep_append_sep (m rest : Bytes) (h : SEP ∉ m) :
    splitSep (m ++ SEP :: rest) = m :: splitSep rest := by
  rw [splitSep_eq, splitSep_eq, List.splitOn_append_cons_self_of_not_mem h]

theorem splitSep_batchJson (ms : List Bytes) (h : ∀ m ∈ ms, SEP ∉ m) :
    splitSep (batchJson ms) = ms ++ [[]] := by
  induction ms with
  | nil => simp [batchJson, splitSep]
  | cons m t ih =>
    simp only [batchJson]
    rw [splitSep_append_sep m _ (h m List.mem_cons_self), ih (fun x hx => h x (List.mem_cons_of_mem _ hx))]
    rfl

theorem u32dec_u32be (n : Nat) (h : n < 4294967296) :
    ∃ a b c d, u32be n = [a, b, c, d] ∧ u32dec a b c d = n := by
  refine ⟨_, _, _, _, rfl, ?_⟩
  simp only [u32dec, UInt8.toNat_ofNat', Nat.mod_mod]
  -- the four quotients are the base-256 digits of `n`: write them as repeated division by 256
  rw [show n / 65536 = n / 256 / 256 by rw [Nat.div_div_eq_div_mul],
    show n / 16777216 = n / 256 / 256 / 256 by rw [Nat.div_div_eq_div_mul, Nat.div_div_eq_div_mul]]
  omega

theorem batchBin_length_ge (ms : List Bytes) : ms.length ≤ (batchBin ms).length := by
  induction ms with
  | nil => simp
  | cons m t ih =>
    simp only [batchBin, List.length_append, List.length_cons]
    simp only [u32be, List.length_cons, List.length_nil]
    omega

theorem unbatchBinAux_batchBin (ms : List Bytes) (h : ∀ m ∈ ms, m.length < 4294967296) :
    ∀ fuel, ms.length ≤ fuel → unbatchBinAux fuel (batchBin ms) = .ok ms := by
  induction ms with
  | nil => intro fuel _; cases fuel <;> simp [batchBin, unbatchBinAux]
  | cons m t ih =>
    intro fuel hf
    cases fuel with
    | zero => simp at hf
    | succ f =>
      obtain ⟨a, b, c, d, hu, hd⟩ := u32dec_u32be m.length (h m List.mem_cons_self)
      have ht := ih (fun x hx => h x (List.mem_cons_of_mem _ hx)) f (by simpa using hf)
      simp only [batchBin, hu, List.cons_append, List.nil_append, unbatchBinAux, hd]
      have hlen : ¬ (m.length > (m ++ batchBin t).length) := by simp
      simp only [hlen, if_false, List.drop_left, List.take_left, ht]

end Abverif.Batch

import Abverif.Proofs.Lemmas.WsWalk
/-
Which frames (by opcode, history variable `S.sentOps`) each engine function may hand to `sendData`:
the receive path, the timers and the closing functions send only close/ping/pong frames, nothing once the
connection is CLOSING or CLOSED, and a close frame only on the way into CLOSING.
-/
namespace Abverif.Ws

/-- `b` comes after `a`; the frames sent in between are control frames only, none if `a` was already closing, and a
close frame among them means `b` is closing or closed; the opcode the streaming API will use next is untouched -/
def OpsRel (a b : S) : Prop :=
  a.st.rank ≤ b.st.rank ∧ b.sendOpcode = a.sendOpcode ∧ ∃ d, b.sentOps = a.sentOps ++ d ∧ (2 ≤ a.st.rank → d = []) ∧
    (∀ x ∈ d, x = 8 ∨ x = 9 ∨ x = 10) ∧ (8 ∈ d → 2 ≤ b.st.rank)

theorem OpsRel.of_rank {a b : S} (h1 : a.st.rank ≤ b.st.rank) (h2 : b.sentOps = a.sentOps)
    (h3 : b.sendOpcode = a.sendOpcode) : OpsRel a b :=
  ⟨h1, h3, [], by simp [h2], fun _ => rfl, by simp, by simp⟩

theorem OpsRel.of_same {a b : S} (h1 : b.st = a.st) (h2 : b.sentOps = a.sentOps) (h3 : b.sendOpcode = a.sendOpcode) :
    OpsRel a b :=
  OpsRel.of_rank (by rw [h1]; exact Nat.le_refl _) h2 h3

theorem OpsRel.refl (a : S) : OpsRel a a := OpsRel.of_same rfl rfl rfl

theorem OpsRel.trans {a b c : S} (h1 : OpsRel a b) (h2 : OpsRel b c) : OpsRel a c := by
  obtain ⟨r1, o1, d1, e1, z1, k1, c1⟩ := h1
  obtain ⟨r2, o2, d2, e2, z2, k2, c2⟩ := h2
  refine ⟨Nat.le_trans r1 r2, o2.trans o1, d1 ++ d2, by rw [e2, e1, List.append_assoc], ?_, ?_, ?_⟩
  · intro ha
    rw [z1 ha, z2 (Nat.le_trans ha r1)]; rfl
  · intro x hx
    rcases List.mem_append.mp hx with h | h
    · exact k1 x h
    · exact k2 x h
  · intro h8
    rcases List.mem_append.mp h8 with h | h
    · exact Nat.le_trans (c1 h) r2
    · exact c2 h

theorem OpsRel.of_SendEq_same {a b : S} (h : SendEq a b) (hs : b.sentOps = a.sentOps) : OpsRel a b :=
  OpsRel.of_same h.st hs h.sendOpcode

theorem timer_Ops (s : S) (d : Nat) : OpsRel s (s.timer d).1 := OpsRel.of_same rfl rfl rfl
theorem armCloseHs_Ops (s : S) : OpsRel s (armCloseHs s) := OpsRel.of_same rfl rfl rfl

theorem OpsRel.of_Sends {a b : S} {d : List Nat} (h : Sends a b d) (hd : ∀ x ∈ d, (x = 9 ∨ x = 10) ∧ a.st = .opened) :
    OpsRel a b :=
  ⟨by rw [h.eq.st]; exact Nat.le_refl _, h.eq.sendOpcode, d, h.ops,
    fun hr => List.eq_nil_iff_forall_not_mem.mpr fun x hx => by rw [(hd x hx).2] at hr; simp [St.rank] at hr,
    fun x hx => Or.inr (hd x hx).1, fun h8 => by have := (hd 8 h8).1; omega⟩

theorem sendCloseFrame_Ops (s : S) (c : Option Nat) (r : Option Bytes) (i : Bool) : OpsRel s (sendCloseFrame s c r i) := by
  refine sendCloseFrame_of (R := OpsRel) OpsRel.trans armCloseHs_Ops s c r i (OpsRel.refl s) (OpsRel.of_same rfl rfl rfl) fun t h ho => ?_
  exact ⟨by rw [ho]; simp [St.rank], h.eq.sendOpcode, _, h.ops,
    fun hr => (by rw [ho] at hr; simp [St.rank] at hr), fun x hx => Or.inl (mem_recorded hx), fun _ => (by simp [St.rank])⟩

theorem OpsRel.base : Walk.Base OpsRel where
  refl := OpsRel.refl
  trans := OpsRel.trans
  parse h := h ▸ OpsRel.of_same rfl rfl rfl
  emit _ _ _ := OpsRel.of_same rfl rfl rfl
  armServerDrop _ := OpsRel.of_same rfl rfl rfl
  armPingNext _ := OpsRel.of_same rfl rfl rfl
  armPingTimeout _ := OpsRel.of_same rfl rfl rfl
  sends := OpsRel.of_Sends
  dropped s _ _ _ := OpsRel.of_rank (by cases s.st <;> simp [St.rank]) rfl rfl
  failClose _ _ _ := sendCloseFrame_Ops _ _ _ _
  unclean _ _ := OpsRel.of_same rfl rfl rfl
  peerReason _ _ _ := OpsRel.of_same rfl rfl rfl
  tick _ _ := OpsRel.of_same rfl rfl rfl

theorem connectionLost_Ops (s : S) : OpsRel s (connectionLost s) :=
  connectionLost_of OpsRel.refl s fun _ _ => OpsRel.of_rank (by cases s.st <;> simp [St.rank]) rfl rfl

theorem OpsRel.walk : Walk OpsRel :=
  Walk.ofSteps OpsRel.base
    (mark := fun _ _ _ => OpsRel.of_same rfl rfl rfl)
    (replyClose := fun s => replyClose_of s (sendCloseFrame_Ops _ _ _ _) (sendCloseFrame_Ops _ _ _ _))
    (ping := fun _ _ _ _ _ => OpsRel.of_same rfl rfl rfl)
    (opened := fun s hc => OpsRel.of_rank (by rw [hc]; simp [St.rank]) rfl rfl)
    (forget := fun _ _ _ _ _ => OpsRel.of_same rfl rfl rfl)
    (buffer := fun _ _ => OpsRel.of_same rfl rfl rfl)

theorem sendClose_Ops (s : S) (c : Option Nat) (r : Option Bytes) : OpsRel s (sendClose s c r) :=
  OpsRel.base.sendClose_of s c r (sendCloseFrame_Ops _ _ _ _)

end Abverif.Ws

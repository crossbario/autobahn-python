import Abverif.Proofs.Lemmas.SchemaChecks
/-
Option entries other than `roles` (`OTy.isRoles` tells them apart; `marshal` writes them unchanged): `OTy.check` passes
exactly the values of the declared type (`OTy.valid`), unchanged.  Also what `isDflt` says of a default.
-/
namespace Abverif.Wamp

def OTy.isRoles : OTy → Bool
  | .roles _ _ => true
  | _ => false

theorem OTy.roles_or_not (ty : OTy) : (∃ a f, ty = .roles a f) ∨ ty.isRoles = false := by
  cases ty <;> first | exact Or.inr rfl | exact Or.inl ⟨_, _, rfl⟩

theorem OTy.encode_of_not_roles {ty : OTy} (h : ty.isRoles = false) (v : WVal) : ty.encode v = v := by
  cases ty <;> simp_all [OTy.encode, OTy.isRoles]

theorem isDflt_eq {d v : WVal} (h : isDflt d v = true) : v = d := by
  cases d <;> cases v <;> simp_all [isDflt]

theorem isDflt_self {d : WVal} (h : (match d with | .null => true | .str _ => true | _ => false) = true) :
    isDflt d d = true := by
  cases d <;> simp_all [isDflt]

/-- the check passes exactly the values of the declared type, unchanged.  For a given type and constructor of the
value both sides compute: the check is an accepted value, an error, or a test that is the declared type itself. -/
theorem OTy.check_spec {O : Oracles} {site : Str} {ty : OTy} {v : WVal} (hr : ty.isRoles = false) :
    Checks (ty.check O site v) (fun w => v = w ∧ ty.valid O v = true) := by
  cases ty with
  | roles a f => cases hr
  | int lo =>
    cases v with
    | int i =>
      cases lo with
      | none => exact Checks.pass
      | some lo => exact (Checks.guardNot allowed_protocol).congr fun _ => by simp [OTy.valid, Int.not_lt]
    | _ => cases lo <;> exact Checks.fails allowed_protocol
  | uri fl => exact Checks.guard allowed_invalidUri
  | strUri n =>
    cases v with
    | null => exact Checks.guard allowed_protocol
    | str s => exact Checks.guard allowed_invalidUri
    | _ => exact Checks.fails allowed_protocol
  | forwardFor b =>
    cases v with
    | list xs => exact (Checks.guardNot allowed_protocol).congr fun _ => by cases b <;> simp [OTy.valid]
    | _ => exact Checks.fails allowed_protocol
  | _ =>
    -- `pass` where `OTy.check` returns the value as it is (the constructors of the type; `None` too for the `…OrNull`
    -- types), `guard` where it tests it (`strEnum`, `id`, the three list types), `fails` for every other constructor
    cases v <;> first | exact Checks.fails allowed_protocol | exact Checks.pass | exact Checks.guard allowed_protocol

theorem OTy.check_iff_valid (O : Oracles) (site : Str) {ty : OTy} {v w : WVal} (hr : ty.isRoles = false) :
    ty.check O site v = .ok w ↔ v = w ∧ ty.valid O v = true :=
  (OTy.check_spec hr).ok_iff w

end Abverif.Wamp

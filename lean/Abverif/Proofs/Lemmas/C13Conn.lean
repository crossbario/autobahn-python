import Abverif.Proofs.Lemmas.C13Framing
/-!
The connection as a whole, for an arbitrary `Cfg`: the 4-octet handshake accumulator followed by the framing does not
depend on how the byte stream is cut into reads (`conn_segmentation`: any number of reads, empty ones included), and every
event comes from the handshake on the first four octets or, once that is accepted, from the framing on the rest
(`conn_events_src`).
-/
namespace Abverif.RawSocket

theorem accumulate_eq (v : Variant) (acc data : Bytes) (h : acc.length < 4) :
    accumulate v acc data = ((acc ++ data).take 4, (acc ++ data).drop 4) := by
  cases v with
  | twisted =>
    simp only [accumulate, twAccumulate]
    rw [List.take_append, List.drop_append, List.take_of_length_le (by omega : acc.length ≤ 4),
      List.drop_of_length_le (by omega : acc.length ≤ 4)]
    simp
  | asyncio =>
    simp only [accumulate, aioAccumulate]
    split
    · rfl
    · rename_i hlt
      rw [List.take_of_length_le (by omega), List.drop_of_length_le (by omega)]

/-- a connection that starts in its handshake, as a function of all octets received so far: below four it waits; from the
fourth on the handshake is evaluated on the first four and, if accepted, the framing reads the rest -/
def hsStep (c : Cfg) (t : Bytes) : Phase × List Ev :=
  match split4 t with
  | some (o1, o2, o3, o4, rest) => finishHs c o1 o2 o3 o4 rest
  | none => (.handshake t, [])

theorem connFeed_hs (c : Cfg) (acc data : Bytes) (h : acc.length < 4) :
    connFeed c (.handshake acc) data = hsStep c (acc ++ data) := by
  simp only [connFeed, accumulate_eq c.variant acc data h, hsStep]
  cases h4 : split4 (acc ++ data) with
  | none =>
    have hl := split4_none.mp h4
    rw [List.take_of_length_le (by omega), h4]
  | some q =>
    obtain ⟨o1, o2, o3, o4, rest⟩ := q
    have hs := split4_some.mp h4
    rw [hs]
    simp [split4]

theorem feed_init_nil (F : Framing) : feed F PSt.init [] = (some PSt.init, []) := by
  simp [feed, PSt.init, loop, split4]

/-- `finishHs` without the `if data:` special case -/
theorem finishHs_eq (c : Cfg) (o1 o2 o3 o4 : UInt8) (rest : Bytes) :
    finishHs c o1 o2 o3 o4 rest =
      if (hsEval c o1 o2 o3 o4).accepted then
        (phaseOf (feed (framingOf c) PSt.init rest).1,
         hsEvents (hsEval c o1 o2 o3 o4) ++ (feed (framingOf c) PSt.init rest).2)
      else (.dead, hsEvents (hsEval c o1 o2 o3 o4)) := by
  simp only [finishHs]
  split
  · cases rest with
    | nil => simp [feed_init_nil, phaseOf]
    | cons x xs => simp
  · rfl

theorem connFeedAll_dead (c : Cfg) (cs : List Bytes) : connFeedAll c .dead cs = (.dead, []) := by
  induction cs with
  | nil => rfl
  | cons d ds ih => simp [connFeedAll, connFeed, ih]

theorem connFeedAll_established (c : Cfg) : ∀ (cs : List Bytes) (op : Option PSt),
    connFeedAll c (phaseOf op) cs =
      (phaseOf (feedAll (framingOf c) op cs).1, (feedAll (framingOf c) op cs).2) := by
  intro cs
  induction cs with
  | nil => intro op; cases op <;> simp [connFeedAll, feedAll]
  | cons d ds ih =>
    intro op
    cases op with
    | none => simp [phaseOf, connFeedAll_dead, feedAll]
    | some p =>
      rw [show phaseOf (some p) = Phase.established p from rfl]
      simp only [connFeedAll, connFeed, feedAll, ih]

theorem conn_segmentation (c : Cfg) : ∀ (cs : List Bytes) (acc : Bytes), acc.length < 4 →
    connFeedAll c (.handshake acc) cs = hsStep c (acc ++ cs.flatten) := by
  intro cs
  induction cs with
  | nil =>
    intro acc h
    simp only [connFeedAll, List.flatten_nil, List.append_nil, hsStep, split4_none.mpr h]
  | cons d ds ih =>
    intro acc h
    simp only [connFeedAll, List.flatten_cons]
    rw [connFeed_hs c acc d h, ← List.append_assoc]
    cases h4 : split4 (acc ++ d) with
    | none =>
      simp only [hsStep, h4]
      rw [ih (acc ++ d) (split4_none.mp h4)]
      simp [hsStep]
    | some q =>
      obtain ⟨o1, o2, o3, o4, rest⟩ := q
      simp only [hsStep, h4, split4_append ds.flatten h4]
      rw [finishHs_eq, finishHs_eq]
      by_cases ha : (hsEval c o1 o2 o3 o4).accepted = true
      · simp only [ha, if_true]
        rw [connFeedAll_established]
        have h1 := feedAll_eq_parse (framingOf c) (rest :: ds) PSt.init (inv_init _)
        have h2 := feed_eq (framingOf c) PSt.init (rest ++ ds.flatten) (inv_init _)
        simp only [feedAll, List.flatten_cons] at h1
        rw [h2, ← h1]
        simp [List.append_assoc]
      · simp only [ha]
        simp [connFeedAll_dead]

theorem connFeedAll_init (c : Cfg) (cs : List Bytes) : connFeedAll c Phase.init cs = hsStep c cs.flatten :=
  conn_segmentation c cs [] (by decide)

theorem conn_events_src (c : Cfg) (cs : List Bytes) (e : Ev) (h : e ∈ (connFeedAll c Phase.init cs).2) :
    ∃ o1 o2 o3 o4 rest, cs.flatten = o1 :: o2 :: o3 :: o4 :: rest ∧
      (e ∈ hsEvents (hsEval c o1 o2 o3 o4) ∨
        (hsEval c o1 o2 o3 o4).accepted = true ∧ e ∈ (feedAll (framingOf c) (some PSt.init) [rest]).2) := by
  rw [connFeedAll_init, hsStep] at h
  cases h4 : split4 cs.flatten with
  | none => simp [h4] at h
  | some q =>
    obtain ⟨o1, o2, o3, o4, rest⟩ := q
    refine ⟨o1, o2, o3, o4, rest, split4_some.mp h4, ?_⟩
    rw [h4] at h
    simp only [finishHs_eq] at h
    by_cases ha : (hsEval c o1 o2 o3 o4).accepted = true
    · simp only [ha, if_true, List.mem_append] at h
      refine h.imp id fun h => ⟨ha, ?_⟩
      cases hf : (feed (framingOf c) PSt.init rest).1 <;> simp [feedAll, h]
    · simp only [ha] at h
      exact Or.inl h

theorem attach_mem_hsEvents (o : HsOut) (ser ms : Nat) :
    Ev.attach ser ms ∈ hsEvents o ↔ o.accepted = true ∧ ser = o.ser ∧ ms = o.maxSend.getD 0 := by
  obtain ⟨a, s, m, w, t, x⟩ := o
  cases t <;> cases x <;> simp [hsEvents]

theorem raised_mem_hsEvents (o : HsOut) (e : Exc) : Ev.raised e ∈ hsEvents o ↔ o.exc = some e := by
  obtain ⟨a, s, m, w, t, x⟩ := o
  cases t <;> cases x <;> simp [hsEvents] <;> exact eq_comm

end Abverif.RawSocket

import Abverif.Model.WsSpec
/-
Normal forms of the engine's functions: what each does to the state, stated once.  The walk (WsWalk) and the relations and
history theorems above read these instead of unfolding the function again; what has no entry here (the receive path
below the header step, `closeStateStep` …) or only entries by case (`failConnection`, `afterCloseHandshake`) is walked
once from its definition, for every relation, in WsWalk.  The pointwise theorems of C16 read a function's definition; those
of C17 read the entries here and unfold only what has none (`fire`, `closeStateStep`, `endDataFrame`, `onFrameEnd`).
Names: `f_eq` is an equation for `f` (under the hypothesis of its case, if it has one: `f_opened_eq`, `f_fbd`, `f_fbc`);
`f_closed`, `f_idle`, `f_idem`: `f` does nothing in that state; `f_cases`: a disjunction of such equations; `f_of` (and
`advanceTo_rel`, `timeout_rel`): a relation is carried across `f` if it holds across the steps named in the hypotheses;
`f_Sends`, `f_SendEq`, `f_CloseEq`, `f_DataStep`: `f` stands in that frame or step relation to its argument (`fire_closed_eq`
is of this kind: the frame `IdleEq`).  Roughly in the order of Model/Ws.lean:

* `batched_le`; the log clause `LogGrows`.
* the send path.  `SendEq a b`: `b` equals `a` except in the fields the send path may touch (log, timer sequence number,
  send-tick timer, send queue, `triggered`, key counter, opcode history); `Sends a b d` adds what it does: the log grows
  by writes and raised exceptions, the opcodes `d` are recorded.  One lemma per function from `sendTick` to
  `sendMessage`, the `*_SendEq` corollaries behind them.  Which octets are written is not said here: that is `Wrote`
  (Lemmas/WsWire.lean), whose lemmas read the definitions of `sendData`, `sendFrame`, `sendPrepared` and the streaming
  functions once more, as do the senders' lemmas of Lemmas/WsRound.lean for `sendMessage`, `sendFrags`,
  `sendMessageFrame`, `beginMessage`, `endMessage`.
* closing.  `sendCloseFrame_of` / `sendCloseFrame_opened_eq`, `sendClose_of`, `replyClose_of`, `dropConnection_eq`,
  `failConnection_fbd` (an endpoint that fails by dropping: the state `dropNow`) / `_fbc` (by the closing handshake) /
  `_closed`, the frame `CloseEq` of these functions, `afterCloseHandshake_cases`, `onCloseFrame_checked` (a legal peer close
  frame), `connectionLost_eq` (frame `LostEq`; a relation is carried across by `connectionLost_of`).
* automatic pings.  `sendAutoPing_eq` (the `pinged` state, then the arming), `onPongFrame_eq`.
* receiving.  `extLenStep_eq`; `headerStep`: `processHeader` with the two header octets parsed (`processHeader_eq`), so
  that the buffer enters only through `hdrRec`, through whether the whole header is there, and through what is behind it.
* the data-sending API.  `ApiEq`: the send path plus the state of the streaming API; `DataStep` adds what a call does;
  `beginMessageFrameCore_iff` (the streaming frame header `frameHeader`), `stepCore_DataStep`, and `stepCore_notOpen`:
  unless OPEN a call at most raises (and a prepared message has drawn its key).
* timers, start states, histories.  `advanceTo_rel`: from one timer callback to `advanceTo`; `TK.get`, `nextTimer_mem`;
  `fire_closed_eq` (frame `IdleEq`: a timer callback on a CLOSED connection); `start_eq`, `startConnecting_eq`,
  `handshakeDone_idle` / `_opens`; `run_induction`: from one operation to a history.
-/
namespace Abverif.Ws

theorem batched_le (now delay : Nat) : batched now delay ≤ now + delay := by
  unfold batched sec; omega

/-! ### the send path: `SendEq`, `Sends` -/

/-- `b` equals `a` except in the fields the send path may touch -/
def SendEq (a b : S) : Prop :=
  b = { a with log := b.log, seq := b.seq, tSendTick := b.tSendTick, sendQueue := b.sendQueue,
               triggered := b.triggered, keyCtr := b.keyCtr, sentOps := b.sentOps }

theorem SendEq.refl (a : S) : SendEq a a := rfl

theorem SendEq.trans {a b c : S} (h1 : SendEq a b) (h2 : SendEq b c) : SendEq a c := by
  unfold SendEq at *
  rw [h2, h1]

theorem SendEq.st {a b : S} (h : SendEq a b) : b.st = a.st := h ▸ rfl
theorem SendEq.cfg {a b : S} (h : SendEq a b) : b.cfg = a.cfg := h ▸ rfl
theorem SendEq.lost {a b : S} (h : SendEq a b) : b.lost = a.lost := h ▸ rfl
theorem SendEq.now {a b : S} (h : SendEq a b) : b.now = a.now := h ▸ rfl
theorem SendEq.tCloseHs {a b : S} (h : SendEq a b) : b.tCloseHs = a.tCloseHs := h ▸ rfl
theorem SendEq.tServerDrop {a b : S} (h : SendEq a b) : b.tServerDrop = a.tServerDrop := h ▸ rfl
theorem SendEq.tPingTimeout {a b : S} (h : SendEq a b) : b.tPingTimeout = a.tPingTimeout := h ▸ rfl
theorem SendEq.tPingNext {a b : S} (h : SendEq a b) : b.tPingNext = a.tPingNext := h ▸ rfl
theorem SendEq.tOpenHs {a b : S} (h : SendEq a b) : b.tOpenHs = a.tOpenHs := h ▸ rfl
theorem SendEq.wasClean {a b : S} (h : SendEq a b) : b.wasClean = a.wasClean := h ▸ rfl
theorem SendEq.notClean {a b : S} (h : SendEq a b) : b.notClean = a.notClean := h ▸ rfl
theorem SendEq.closedByMe {a b : S} (h : SendEq a b) : b.closedByMe = a.closedByMe := h ▸ rfl
theorem SendEq.failedByMe {a b : S} (h : SendEq a b) : b.failedByMe = a.failedByMe := h ▸ rfl
theorem SendEq.droppedByMe {a b : S} (h : SendEq a b) : b.droppedByMe = a.droppedByMe := h ▸ rfl
theorem SendEq.remoteCloseCode {a b : S} (h : SendEq a b) : b.remoteCloseCode = a.remoteCloseCode := h ▸ rfl
theorem SendEq.remoteCloseReason {a b : S} (h : SendEq a b) : b.remoteCloseReason = a.remoteCloseReason := h ▸ rfl
theorem SendEq.closeSent {a b : S} (h : SendEq a b) : b.closeSent = a.closeSent := h ▸ rfl
theorem SendEq.data {a b : S} (h : SendEq a b) : b.data = a.data := h ▸ rfl
theorem SendEq.cur {a b : S} (h : SendEq a b) : b.cur = a.cur := h ▸ rfl
theorem SendEq.sendOpcode {a b : S} (h : SendEq a b) : b.sendOpcode = a.sendOpcode := h ▸ rfl
theorem SendEq.sendSt {a b : S} (h : SendEq a b) : b.sendSt = a.sendSt := h ▸ rfl
theorem SendEq.begun {a b : S} (h : SendEq a b) : b.begun = a.begun := h ▸ rfl
theorem SendEq.frameLen {a b : S} (h : SendEq a b) : b.frameLen = a.frameLen := h ▸ rfl
theorem SendEq.frameKey {a b : S} (h : SendEq a b) : b.frameKey = a.frameKey := h ▸ rfl
theorem SendEq.frameMasking {a b : S} (h : SendEq a b) : b.frameMasking = a.frameMasking := h ▸ rfl
theorem SendEq.framePtr {a b : S} (h : SendEq a b) : b.framePtr = a.framePtr := h ▸ rfl

theorem emit_SendEq (s : S) (o : Out) : SendEq s (s.emit o) := rfl

/-- the log clause of `Sends`, `DataStep`, and (written out, with `p` = "not an `onClose`" / "a raised exception") of `ExtW`
and `OnlyRaised`, whose proofs go through `LogGrows.of_eq/.emit/.trans/.mono` -/
def LogGrows (p : Out → Prop) (a b : S) : Prop := ∃ l, b.log = a.log ++ l ∧ ∀ o ∈ l, p o

namespace LogGrows
variable {p : Out → Prop}

theorem of_eq {a b : S} (h : b.log = a.log) : LogGrows p a b := ⟨[], by simp [h], by simp⟩

theorem emit (s : S) (o : Out) (h : p o) : LogGrows p s (s.emit o) := ⟨[o], rfl, by simpa using h⟩

theorem trans {a b c : S} (h1 : LogGrows p a b) (h2 : LogGrows p b c) : LogGrows p a c := by
  obtain ⟨l1, e1, n1⟩ := h1
  obtain ⟨l2, e2, n2⟩ := h2
  refine ⟨l1 ++ l2, by rw [e2, e1, List.append_assoc], fun o ho => ?_⟩
  rcases List.mem_append.mp ho with h | h
  · exact n1 o h
  · exact n2 o h

theorem mono {q : Out → Prop} (hpq : ∀ o, p o → q o) {a b : S} (h : LogGrows p a b) : LogGrows q a b :=
  h.imp fun _ hl => ⟨hl.1, fun o ho => hpq o (hl.2 o ho)⟩

end LogGrows

/-- what the send path logs: octets handed to the transport, exceptions raised to the caller -/
def Out.isSent : Out → Bool
  | .write _ | .raised _ => true
  | _ => false

/-- the send path ran between `a` and `b`: only its own fields changed (`SendEq`), the log grew by writes and raised
exceptions, and the opcodes `d` were recorded -/
structure Sends (a b : S) (d : List Nat) : Prop where
  eq : SendEq a b
  log : LogGrows (·.isSent = true) a b
  ops : b.sentOps = a.sentOps ++ d

namespace Sends

theorem refl (a : S) : Sends a a [] := ⟨SendEq.refl a, .of_eq rfl, by simp⟩

theorem trans {a b c : S} {d1 d2 : List Nat} (h1 : Sends a b d1) (h2 : Sends b c d2) : Sends a c (d1 ++ d2) :=
  ⟨h1.eq.trans h2.eq, h1.log.trans h2.log, by rw [h2.ops, h1.ops, List.append_assoc]⟩

/-- a step inside the send path that logs nothing and records nothing -/
theorem quiet {a b : S} (h : SendEq a b) (hl : b.log = a.log) (ho : b.sentOps = a.sentOps) : Sends a b [] :=
  ⟨h, .of_eq hl, by simp [ho]⟩

/-- `h` after such a step (stated this way round so that `h` fixes the state in between) -/
theorem pre {a a' b : S} {d : List Nat} (h : Sends a' b d) (he : SendEq a a') (hl : a'.log = a.log)
    (ho : a'.sentOps = a.sentOps) : Sends a b d := (quiet he hl ho).trans h

theorem emit (s : S) (o : Out) (h : o.isSent = true) : Sends s (s.emit o) [] :=
  ⟨emit_SendEq s o, .emit s o h, by simp [S.emit]⟩

end Sends

theorem sendTick_Sends (s : S) : Sends s (sendTick s) [] := by
  unfold sendTick S.timer S.emit
  split
  · rename_i e rest _
    dsimp only
    split
    · exact ⟨rfl, .emit _ (.write e) rfl, by simp⟩
    · exact Sends.quiet rfl rfl rfl
  · exact Sends.quiet rfl rfl rfl

theorem trigger_Sends (s : S) : Sends s (trigger s) [] := by
  unfold trigger
  split
  · exact (sendTick_Sends _).pre rfl rfl rfl
  · exact Sends.refl s

theorem sendData_Sends (s : S) (d : Bytes) (sync : Bool) (chop : Nat) : Sends s (sendData s d sync chop) [] := by
  unfold sendData
  split
  · exact (trigger_Sends _).pre rfl rfl rfl
  · split
    · exact (trigger_Sends _).pre rfl rfl rfl
    · split <;> exact Sends.emit _ _ rfl

theorem drawKey_fst (s : S) : (drawKey s).1 = { s with keyCtr := (drawKey s).1.keyCtr } := by
  unfold drawKey; split <;> rfl

theorem drawKey_isSome (s : S) : (drawKey s).2.isSome = s.masksFrames := by
  cases h : s.masksFrames <;> simp [drawKey, h]

theorem drawKey_Sends (s : S) : Sends s (drawKey s).1 [] := by
  rw [drawKey_fst]; exact Sends.quiet rfl rfl rfl

theorem recordOp_Sends (s : S) (op : Nat) : Sends s (recordOp s op) [op] :=
  ⟨rfl, .of_eq rfl, rfl⟩

/-- one frame: its opcode is recorded, unless the frame cannot be encoded (then an exception is raised) -/
theorem sendFrame_Sends (s : S) (op : Nat) (pl : Bytes) (fin : Bool) (rsv : Nat) (sync : Bool) (chop : Nat) :
    Sends s (sendFrame s op pl fin rsv sync chop)
      (if (encodeFrame fin rsv op (drawKey s).2 s.cfg.applyMask pl).isSome then [op] else []) := by
  unfold sendFrame
  simp only [(drawKey_Sends s).eq.cfg]
  split
  · rename_i h
    rw [h]
    exact (drawKey_Sends s).trans (Sends.emit _ _ rfl)
  · rename_i raw h
    rw [h]
    exact (drawKey_Sends s).trans ((recordOp_Sends _ op).trans (sendData_Sends _ _ _ _))

theorem mem_recorded {c : Prop} [Decidable c] {x op : Nat} (h : x ∈ (if c then [op] else [])) : x = op := by
  split at h <;> simp at h
  exact h

/-- `sendPing`, `sendPong`: one control frame and only while OPEN, or an exception, or nothing -/
theorem sendCtl_Sends (s : S) (op : Nat) (pl : Bytes) :
    ∃ d, Sends s (if s.st ≠ .opened then s else if pl.length > 125 then s.emit (.raised .exception)
      else sendFrame s op pl) d ∧ ∀ x ∈ d, x = op ∧ s.st = .opened := by
  split
  · exact ⟨[], Sends.refl s, by simp⟩
  · rename_i ho
    split
    · exact ⟨[], Sends.emit _ _ rfl, by simp⟩
    · exact ⟨_, sendFrame_Sends s op pl true 0 false 0, fun x hx => ⟨mem_recorded hx, by simpa using ho⟩⟩

theorem sendPing_Sends (s : S) (pl : Bytes) : ∃ d, Sends s (sendPing s pl) d ∧ ∀ x ∈ d, x = 9 ∧ s.st = .opened :=
  sendCtl_Sends s 9 pl

theorem sendPong_Sends (s : S) (pl : Bytes) : ∃ d, Sends s (sendPong s pl) d ∧ ∀ x ∈ d, x = 10 ∧ s.st = .opened :=
  sendCtl_Sends s 10 pl

theorem sendFrags_Sends (op : Nat) (sync : Bool) : ∀ (frs : List (Bytes × Bool)) (s : S) (first : Bool),
    ∃ d, Sends s (sendFrags s op sync frs first) d ∧ ∀ x ∈ d, x = op ∨ x = 0 := by
  intro frs
  induction frs with
  | nil => intro s first; exact ⟨[], Sends.refl s, by simp⟩
  | cons x rest ih =>
    intro s first
    unfold sendFrags
    obtain ⟨d, hd, k⟩ := ih (sendFrame s (if first then op else 0) x.1 x.2 0 sync) false
    refine ⟨_, (sendFrame_Sends s _ x.1 x.2 0 sync 0).trans hd, fun y hy => ?_⟩
    rcases List.mem_append.mp hy with h | h
    · rw [mem_recorded h]; cases first <;> simp
    · exact k y h

/-- `sendMessage`: an exception, or the frames of one message -/
theorem sendMessage_Sends (s : S) (pl : Bytes) (binary : Bool) (fs : Option Nat) (sync : Bool) :
    ∃ d, Sends s (sendMessage s pl binary fs sync) d ∧ ∀ x ∈ d, x = 0 ∨ x = 1 ∨ x = 2 := by
  have hop : (if binary then 2 else 1) = 1 ∨ (if binary then 2 else 1) = 2 := by cases binary <;> simp
  have one : ∀ fin, ∃ d, Sends s (sendFrame s (if binary then 2 else 1) pl fin 0 sync) d ∧ ∀ x ∈ d, x = 0 ∨ x = 1 ∨ x = 2 :=
    fun fin => ⟨_, sendFrame_Sends s _ pl fin 0 sync 0, fun x hx => by rw [mem_recorded hx]; exact Or.inr hop⟩
  have raise : ∀ e, ∃ d, Sends s (s.emit (.raised e)) d ∧ ∀ x ∈ d, x = 0 ∨ x = 1 ∨ x = 2 :=
    fun e => ⟨[], Sends.emit s _ rfl, by simp⟩
  unfold sendMessage
  split
  · exact raise _
  · split
    · exact raise _
    · dsimp only
      split
      · exact one _
      · split
        · exact one _
        · split
          · exact raise _
          · obtain ⟨d, hd, k⟩ := sendFrags_Sends (if binary then 2 else 1) sync (fragments _ pl.length pl) s true
            exact ⟨d, hd, fun x hx => (k x hx).elim (fun h => Or.inr (h ▸ hop)) Or.inl⟩

theorem sendTick_SendEq (s : S) : SendEq s (sendTick s) := (sendTick_Sends s).eq
theorem sendData_SendEq (s : S) (d : Bytes) (sync : Bool) (chop : Nat) : SendEq s (sendData s d sync chop) :=
  (sendData_Sends s d sync chop).eq
theorem drawKey_SendEq (s : S) : SendEq s (drawKey s).1 := (drawKey_Sends s).eq
theorem sendFrame_SendEq (s : S) (opcode : Nat) (pl : Bytes) (fin : Bool) (rsv : Nat) (sync : Bool) (chop : Nat) :
    SendEq s (sendFrame s opcode pl fin rsv sync chop) := (sendFrame_Sends s opcode pl fin rsv sync chop).eq
theorem sendPing_SendEq (s : S) (pl : Bytes) : SendEq s (sendPing s pl) := (sendPing_Sends s pl).elim fun _ h => h.1.eq
theorem sendPong_SendEq (s : S) (pl : Bytes) : SendEq s (sendPong s pl) := (sendPong_Sends s pl).elim fun _ h => h.1.eq

theorem sendMessage_SendEq (s : S) (pl : Bytes) (binary : Bool) (fs : Option Nat) (sync : Bool) :
    SendEq s (sendMessage s pl binary fs sync) := (sendMessage_Sends s pl binary fs sync).elim fun _ h => h.1.eq

/-! ### closing: `sendCloseFrame`, `dropConnection`, `_fail_connection`, `afterCloseHandshake`, `_connectionLost` -/

/-- `sendCloseFrame` acts only when OPEN (while CONNECTING it raises): it sends the frame, records it and moves to
CLOSING, then arms the closing timer if the close is ours -/
theorem sendCloseFrame_of {R : S → S → Prop} (trans : ∀ {a b c}, R a b → R b c → R a c) (arm : ∀ t, R t (armCloseHs t))
    (s : S) (c : Option Nat) (r : Option Bytes) (i : Bool) (same : R s s) (raised : R s (s.emit (.raised .exception)))
    (sent : ∀ t, Sends s t (if (encodeFrame true 0 8 (drawKey s).2 s.cfg.applyMask (closePayload c r)).isSome then [8] else []) →
      s.st = .opened → R s { t with st := .closing, closedByMe := !i, localCloseCode := c,
                                    closeSent := s.closeSent ++ [(c, r)] }) :
    R s (sendCloseFrame s c r i) := by
  have h := sendFrame_Sends s 8 (closePayload c r) true 0 false 0
  unfold sendCloseFrame
  split
  · exact same
  · exact same
  · exact raised
  · rename_i ho
    dsimp only
    rw [h.eq.closeSent]
    split
    · exact trans (sent _ h ho) (arm _)
    · exact sent _ h ho

/-- `sendCloseFrame` while OPEN: the frame is sent and recorded, the connection CLOSING, and the closing-handshake timer
armed if the close is ours and the timeout configured -/
theorem sendCloseFrame_opened_eq (s : S) (c : Option Nat) (r : Option Bytes) (i : Bool) (ho : s.st = .opened) :
    ∃ t q, sendCloseFrame s c r i =
        { sendFrame s 8 (closePayload c r) with
            st := .closing, closedByMe := !i, localCloseCode := c, closeSent := s.closeSent ++ [(c, r)],
            tCloseHs := t, seq := q } ∧
      (i = false → s.cfg.closeHsTimeout > 0 → t.isSome = true) := by
  have e := sendFrame_SendEq s 8 (closePayload c r) true 0 false 0
  unfold sendCloseFrame
  rw [ho]
  dsimp only
  rw [e.closeSent]
  split
  · exact ⟨_, _, rfl, fun _ _ => rfl⟩
  · rename_i hn
    refine ⟨_, _, rfl, fun hi ht => ?_⟩
    rw [← e.cfg] at ht
    exact absurd (by simp [hi, ht]) hn

/-- `sendClose`: an exception for a code the API does not take or a reason without a code; otherwise the close frame with
the reason cut to 123 octets -/
theorem sendClose_of {R : S → S → Prop} (s : S) (c : Option Nat) (r : Option Bytes)
    (raised : R s (s.emit (.raised .exception)))
    (sent : sendCloseCodeBad c = false → R s (sendCloseFrame s c (r.map (encodeTruncate · 123)) false)) :
    R s (sendClose s c r) := by
  unfold sendClose
  split
  · exact raised
  · rename_i hbad
    split
    · exact raised
    · exact sent (by simpa using hbad)

/-- our reply to the peer's close frame: its code and (cut) reason echoed, or 1000 -/
theorem replyClose_of {R : S → S → Prop} (s : S)
    (echo : R s (sendCloseFrame s s.remoteCloseCode (s.remoteCloseReason.map (encodeTruncate · 123)) true))
    (plain : R s (sendCloseFrame s (some 1000) none true)) : R s (replyClose s) := by
  unfold replyClose
  split
  · exact echo
  · exact plain

/-- `dropConnection` on a connection not yet CLOSED: the queue is kept (abort) or flushed into the log, then come the
`is_closed` resolution and the transport's close -/
theorem dropConnection_eq (s : S) (a : Bool) (h : s.st ≠ .closed) :
    dropConnection s a =
      { s with sendQueue := (if a then s.sendQueue else []), droppedByMe := true, st := .closed,
               log := s.log ++ ((if a then [] else s.sendQueue.map Out.write) ++ [.closedResolved, .closeConn a]) } := by
  unfold dropConnection flushQueue
  rw [if_pos h]
  cases a <;> simp [S.emit]

theorem dropConnection_closed (s : S) (a : Bool) (h : s.st = .closed) : dropConnection s a = s := by
  unfold dropConnection; rw [if_neg (by simp [h])]

theorem dropConnection_cases (s : S) (a : Bool) :
    dropConnection s a = s ∨
      ∃ q l, dropConnection s a = { s with sendQueue := q, droppedByMe := true, st := .closed, log := l } := by
  by_cases h : s.st = .closed
  · exact Or.inl (dropConnection_closed s a h)
  · exact Or.inr ⟨_, _, dropConnection_eq s a h⟩

theorem dropConnection_st (s : S) (a : Bool) : (dropConnection s a).st = .closed := by
  by_cases h : s.st = .closed
  · rw [dropConnection_closed s a h]; exact h
  · rw [dropConnection_eq s a h]

/-- what `_fail_connection` leaves of a live connection on an endpoint that fails by dropping -/
def dropNow (s : S) : S :=
  { s with failedByMe := true, wasClean := false, notClean := some .iDropped, droppedByMe := true, st := .closed,
           log := s.log ++ [.closedResolved, .closeConn true] }

theorem failConnection_fbd (s : S) (code : Nat) (hf : s.cfg.failByDrop = true) (hst : s.st ≠ .closed) :
    failConnection s code = dropNow s := by
  unfold failConnection dropConnection
  simp [hst, hf, S.emit, dropNow]

/-- … and on one that fails by the closing handshake: the close frame with the code, or, when it is CLOSING already,
the orderly drop -/
theorem failConnection_fbc (s : S) (code : Nat) (hf : s.cfg.failByDrop = false) (hst : s.st ≠ .closed) :
    failConnection s code =
      if s.st ≠ .closing then sendCloseFrame { s with failedByMe := true } (some code) none false
      else dropConnection { s with failedByMe := true } false := by
  unfold failConnection
  rw [if_pos hst]
  dsimp only
  rw [if_neg (by simp [hf])]

theorem failConnection_closed (s : S) (code : Nat) (h : s.st = .closed) : failConnection s code = s := by
  unfold failConnection; rw [if_neg (by simp [h])]

/-- `b` equals `a` except in the fields the closing functions (`sendCloseFrame`, `dropConnection`, `_fail_connection`) may
touch: those of the send path, the connection state, the close bookkeeping and the closing-handshake timer -/
def CloseEq (a b : S) : Prop :=
  b = { a with log := b.log, seq := b.seq, tSendTick := b.tSendTick, sendQueue := b.sendQueue, triggered := b.triggered,
               keyCtr := b.keyCtr, sentOps := b.sentOps, st := b.st, closedByMe := b.closedByMe,
               failedByMe := b.failedByMe, droppedByMe := b.droppedByMe, wasClean := b.wasClean,
               notClean := b.notClean, localCloseCode := b.localCloseCode, closeSent := b.closeSent,
               tCloseHs := b.tCloseHs }

theorem CloseEq.trans {a b c : S} (h1 : CloseEq a b) (h2 : CloseEq b c) : CloseEq a c := by
  unfold CloseEq at *
  rw [h2, h1]

theorem CloseEq.remoteCloseCode {a b : S} (h : CloseEq a b) : b.remoteCloseCode = a.remoteCloseCode := h ▸ rfl
theorem CloseEq.remoteCloseReason {a b : S} (h : CloseEq a b) : b.remoteCloseReason = a.remoteCloseReason := h ▸ rfl
theorem CloseEq.data {a b : S} (h : CloseEq a b) : b.data = a.data := h ▸ rfl

theorem dropConnection_CloseEq (s : S) (a : Bool) : CloseEq s (dropConnection s a) := by
  rcases dropConnection_cases s a with e | ⟨q, l, e⟩ <;> rw [e] <;> rfl

theorem sendCloseFrame_CloseEq (s : S) (c : Option Nat) (r : Option Bytes) (i : Bool) :
    CloseEq s (sendCloseFrame s c r i) :=
  sendCloseFrame_of (R := CloseEq) CloseEq.trans (fun _ => rfl) s c r i rfl rfl fun _ h _ => h.eq ▸ rfl

theorem failConnection_CloseEq (s : S) (code : Nat) : CloseEq s (failConnection s code) := by
  by_cases hst : s.st = .closed
  · rw [failConnection_closed s code hst]; rfl
  · cases hf : s.cfg.failByDrop
    · rw [failConnection_fbc s code hf hst]
      split
      · exact CloseEq.trans (b := { s with failedByMe := true }) rfl (sendCloseFrame_CloseEq _ _ _ _)
      · exact CloseEq.trans (b := { s with failedByMe := true }) rfl (dropConnection_CloseEq _ _)
    · rw [failConnection_fbd s code hf hst]; rfl

/-- after both close frames travelled a server has dropped the connection, a client has armed the server-drop timer
(if that timeout is configured) and nothing else -/
theorem afterCloseHandshake_cases (s : S) (a : Bool) :
    (afterCloseHandshake s a).1 = dropConnection s a ∨
    (s.cfg.isServer = false ∧ ∃ t q, (afterCloseHandshake s a).1 = { s with tServerDrop := t, seq := q } ∧
      (s.cfg.serverDropTimeout > 0 → t.isSome = true)) := by
  unfold afterCloseHandshake
  split
  · exact Or.inl rfl
  · rename_i hs
    refine Or.inr ⟨by simpa using hs, ?_⟩
    split
    · exact ⟨_, _, rfl, fun _ => rfl⟩
    · rename_i hz
      exact ⟨s.tServerDrop, s.seq, rfl, fun h => absurd h hz⟩

theorem closeCodeStep_ok (s : S) (code : Option Nat) (hcv : ∀ cd, code = some cd → closeCodeInvalid cd = false) :
    closeCodeStep s code = ({ s with remoteCloseCode := code }, false) := by
  cases code with
  | none => rfl
  | some cd => simp only [closeCodeStep, hcv cd rfl, Bool.false_eq_true, if_false]

/-- a legal close frame passes the checks with code and reason recorded -/
theorem onCloseFrame_checked (z : S) (code : Option Nat) (reason : Option Bytes)
    (hcv : ∀ cd, code = some cd → closeCodeInvalid cd = false) (hrv : ∀ r, reason = some r → utf8Valid r = true) :
    onCloseFrame z code reason = closeStateStep { z with remoteCloseCode := code, remoteCloseReason := reason } := by
  unfold onCloseFrame
  dsimp only
  rw [closeCodeStep_ok _ _ hcv]
  cases reason with
  | none => rfl
  | some r => simp only [closeReasonStep, hrv r rfl, Bool.not_true, Bool.false_eq_true, if_false]

/-- `_connectionLost` the first time: timers cancelled, CLOSED, `wasClean` cleared when something is still queued, and one
`onClose` logged (behind the `is_closed` resolution, if the state was not CLOSED yet) -/
theorem connectionLost_eq (s : S) (h : s.lost = false) :
    ∃ n pre c r y, (∀ o ∈ pre, o = Out.closedResolved) ∧
      connectionLost s = { s with lost := true, tServerDrop := none, tPingNext := none, tPingTimeout := none,
                                  tOpenHs := none, st := .closed, wasClean := s.wasClean && s.sendQueue.isEmpty,
                                  notClean := n,
                                  log := s.log ++ pre ++ [.onClose (s.wasClean && s.sendQueue.isEmpty) c r y] } := by
  have hm : ∀ t : S, ∃ pre, (∀ o ∈ pre, o = Out.closedResolved) ∧ markClosed t = { t with st := .closed, log := t.log ++ pre } := by
    intro t
    unfold markClosed
    split
    · exact ⟨[.closedResolved], by simp, rfl⟩
    · rename_i hc
      have hc' : t.st = .closed := by simpa using hc
      exact ⟨[], by simp, by rw [← hc', List.append_nil]⟩
  have hu : ∀ t : S, unsentUnclean t = { t with wasClean := t.wasClean && t.sendQueue.isEmpty } := by
    intro t
    unfold unsentUnclean
    split
    · rename_i hc
      have e : (t.wasClean && t.sendQueue.isEmpty) = false := by
        cases h1 : t.wasClean <;> cases h2 : t.sendQueue.isEmpty <;> simp [h1, h2] at hc ⊢
      rw [e]
    · rename_i hc
      have e : (t.wasClean && t.sendQueue.isEmpty) = t.wasClean := by
        cases h1 : t.wasClean <;> cases h2 : t.sendQueue.isEmpty <;> simp [h1, h2] at hc ⊢
      rw [e]
  have hr : ∀ (t : S) (w : Bool), t.wasClean = w →
      ∃ n c r y, reportClose t = { t with notClean := n, log := t.log ++ [.onClose w c r y] } := by
    intro t w hw
    unfold reportClose
    cases w
    · split
      · split
        · exact ⟨_, _, _, _, rfl⟩
        · exact ⟨t.notClean, _, _, _, rfl⟩
      · rename_i hc; exact absurd hc (by simp [hw])
    · split
      · rename_i hc; exact absurd hc (by simp [hw])
      · exact ⟨t.notClean, _, _, _, rfl⟩
  unfold connectionLost
  rw [if_neg (by simp [h])]
  obtain ⟨pre, hp, e1⟩ := hm (cancelOnLost s)
  obtain ⟨n, c, r, y, e3⟩ := hr (unsentUnclean (markClosed (cancelOnLost s))) (s.wasClean && s.sendQueue.isEmpty)
    (by rw [hu, e1]; rfl)
  refine ⟨n, pre, c, r, y, hp, ?_⟩
  rw [e3, hu, e1]; rfl

theorem connectionLost_idem (s : S) (h : s.lost = true) : connectionLost s = s := by
  unfold connectionLost; rw [if_pos h]

theorem connectionLost_of {R : S → S → Prop} (refl : ∀ s, R s s) (s : S)
    (h : ∀ n l, R s { s with lost := true, tServerDrop := none, tPingNext := none, tPingTimeout := none,
                             tOpenHs := none, st := .closed, wasClean := s.wasClean && s.sendQueue.isEmpty,
                             notClean := n, log := l }) : R s (connectionLost s) := by
  cases hl : s.lost
  · obtain ⟨n, pre, c, r, y, _, e⟩ := connectionLost_eq s hl
    rw [e]; exact h n _
  · rw [connectionLost_idem s hl]; exact refl s

/-- `b` equals `a` except in the fields `_connectionLost` may touch (an equation, used as `connectionLost_LostEq s ▸ …`) -/
def LostEq (a b : S) : Prop :=
  b = { a with lost := b.lost, tServerDrop := b.tServerDrop, tPingNext := b.tPingNext, tPingTimeout := b.tPingTimeout,
               tOpenHs := b.tOpenHs, st := b.st, wasClean := b.wasClean, notClean := b.notClean, log := b.log }

theorem connectionLost_LostEq (s : S) : LostEq s (connectionLost s) :=
  connectionLost_of (R := LostEq) (fun _ => rfl) s fun _ _ => rfl

theorem connectionLost_cfg (s : S) : (connectionLost s).cfg = s.cfg := connectionLost_LostEq s ▸ rfl

theorem connectionLost_closeSent (s : S) : (connectionLost s).closeSent = s.closeSent :=
  connectionLost_LostEq s ▸ rfl

/-! ### automatic pings -/

/-- the state in which `_sendAutoPing` arms its timer: the bookkeeping done (`beginAutoPing`), the ping sent -/
def pinged (s : S) : S := sendPing (beginAutoPing s) ((beginAutoPing s).pingPending.getD [])

theorem pinged_SendEq (s : S) : SendEq (beginAutoPing s) (pinged s) := sendPing_SendEq _ _

/-- `t` against `s` the way the pinged state stands: connection state, configuration, clock, the deadline handles and the
pong deadline as in `s`, no next ping scheduled -/
structure Pinged (s t : S) : Prop where
  st : t.st = s.st
  cfg : t.cfg = s.cfg
  now : t.now = s.now
  tOpenHs : t.tOpenHs = s.tOpenHs
  tCloseHs : t.tCloseHs = s.tCloseHs
  tServerDrop : t.tServerDrop = s.tServerDrop
  tPingTimeout : t.tPingTimeout = s.tPingTimeout
  tPingNext : t.tPingNext = none

theorem pinged_of (s : S) : Pinged s (pinged s) :=
  have e := pinged_SendEq s
  ⟨e.st, e.cfg, e.now, e.tOpenHs, e.tCloseHs, e.tServerDrop, e.tPingTimeout, e.tPingNext⟩

theorem sendAutoPing_eq (s : S) : sendAutoPing s =
    if (pinged s).cfg.pingTimeout > 0 then armPingTimeout (pinged s)
    else if (pinged s).cfg.pingInterval > 0 && (pinged s).st = .opened then armPingNext (pinged s)
    else pinged s := rfl

/-- the automatic ping touches neither the connection state nor the three handshake timers -/
theorem sendAutoPing_frame (s : S) :
    (sendAutoPing s).st = s.st ∧ (sendAutoPing s).tOpenHs = s.tOpenHs ∧ (sendAutoPing s).tCloseHs = s.tCloseHs ∧
    (sendAutoPing s).tServerDrop = s.tServerDrop := by
  have p := pinged_of s
  have f : (pinged s).st = s.st ∧ (pinged s).tOpenHs = s.tOpenHs ∧ (pinged s).tCloseHs = s.tCloseHs ∧
      (pinged s).tServerDrop = s.tServerDrop := ⟨p.st, p.tOpenHs, p.tCloseHs, p.tServerDrop⟩
  rw [sendAutoPing_eq]
  split
  · exact f
  · split <;> exact f

/-- `_cancelAutoPingTimeoutCall` (any traffic counts): the ping bookkeeping cleared, then the next ping scheduled if pings
are configured -/
theorem cancelAutoPingTimeout_eq (s : S) : cancelAutoPingTimeout s =
    if s.cfg.pingInterval > 0 then armPingNext { s with tPingTimeout := none, pingPending := none, tPingNext := none }
    else { s with tPingTimeout := none, pingPending := none, tPingNext := none } := rfl

theorem onPongFrame_eq (s : S) (p : Bytes) : onPongFrame s p =
    if s.pingPending = some p then
      if s.cfg.pingInterval > 0 && s.tPingNext.isNone then armPingNext { s with tPingTimeout := none, pingPending := none }
      else { s with tPingTimeout := none, pingPending := none }
    else s := by
  unfold onPongFrame
  split
  · rename_i pp hp
    rw [hp]
    by_cases e : p = pp
    · subst e
      rw [if_pos rfl, if_pos rfl]
    · rw [if_neg e, if_neg (by simpa using Ne.symm e)]
  · rename_i hp
    rw [hp, if_neg (by simp)]

/-! ### receiving: the extended-length rules, the header step on the parsed fixed part of the header -/

section
open Abverif.WsSpec

/-- the model's header record for the parsed fixed part `h` and the octets behind the first two -/
def hdrRec (h : Hd) (rest2 : Bytes) : Hdr :=
  { opcode := h.opcode, fin := h.fin, rsv := h.rsv, length := h.plen rest2, mask := h.key rest2 }

theorem headerLen_hd (h : Hd) : headerLen h.masked h.len7 = 2 + h.extN + h.keyN := by
  unfold headerLen Hd.extN Hd.keyN; rfl

theorem maskOf_key (h : Hd) (buf : Bytes) :
    maskOf h.masked ((buf.drop (headerLen h.masked h.len7 - 4)).take 4) = h.key (buf.drop 2) := by
  show _ = maskOf h.masked (((buf.drop 2).drop h.extN).take 4)
  cases h.masked with
  | false => rfl
  | true => rw [List.drop_drop]; congr 1

/-- the two rules of the 64-bit form exclude each other, so at most one violation is raised: in every configuration -/
theorem extLenStep_eq (s : S) (l p : Nat) :
    extLenStep s l p = if extLenOk l p then (s, false) else violation s 1002 := by
  unfold extLenStep extLenOk
  by_cases h1 : l = 126
  · by_cases hp : p < 126
    · simp [h1, hp, Nat.not_le.mpr hp]
    · simp [h1, hp, Nat.le_of_not_lt hp]
  · by_cases h2 : l = 127
    · by_cases a : p > 0x7FFFFFFFFFFFFFFF
      · have b : ¬ p < 65536 := by omega
        simp only [h2, a, b, if_true, if_false, Nat.not_le.mpr a, decide_false, Bool.and_false]
        generalize violation s 1002 = r
        obtain ⟨x, stop⟩ := r
        cases stop <;> rfl
      · by_cases b : p < 65536
        · simp [h2, a, b, Nat.not_le.mpr b]
        · simp [h2, a, b, Nat.le_of_not_lt b, Nat.le_of_not_lt a]
    · simp [h1, h2]

/-- `processHeader` with the two header octets parsed: the buffer matters only through `hdrRec`, through whether
the whole header is there, and through what is behind the header -/
def headerStep (s : S) (h : Hd) (buf : Bytes) : S × Bytes × Bool :=
  let r0 := applyViolations s (headerViolations s.cfg s.insideMessage h.fin h.rsv h.opcode h.masked h.len7)
  if r0.2 then (r0.1, buf, false) else
  if headerLen h.masked h.len7 ≤ buf.length then
    let hdr := hdrRec h (buf.drop 2)
    let r1 := extLenStep r0.1 h.len7 hdr.length
    if r1.2 then (r1.1, buf, false) else
    (onFrameBegin { r1.1 with cur := some hdr, ptr := 0, unmask := h.masked && hdr.length > 0 && r1.1.cfg.applyMask } hdr,
      buf.drop (headerLen h.masked h.len7),
      hdr.length = 0 || (buf.drop (headerLen h.masked h.len7)).length > 0)
  else (r0.1, buf, false)

theorem processHeader_eq (s : S) (o0 o1 : UInt8) (buf : Bytes) :
    processHeader s o0 o1 buf = headerStep s (Hd.ofOctets o0 o1) buf := by
  unfold headerStep hdrRec
  rw [← maskOf_key]
  rfl

end

/-! ### the data-sending API: `ApiEq`, `DataStep` -/

/-- `b` equals `a` except in the fields of the send path (`SendEq`) and the state of the streaming API; an equation: a
relation that reads none of these fields is carried across by `h ▸ X.of_same rfl …` -/
def ApiEq (a b : S) : Prop :=
  b = { a with log := b.log, seq := b.seq, tSendTick := b.tSendTick, sendQueue := b.sendQueue,
               triggered := b.triggered, keyCtr := b.keyCtr, sentOps := b.sentOps, sendSt := b.sendSt,
               sendOpcode := b.sendOpcode, begun := b.begun, frameLen := b.frameLen, frameKey := b.frameKey,
               frameMasking := b.frameMasking, framePtr := b.framePtr }

theorem ApiEq.refl (a : S) : ApiEq a a := rfl

theorem ApiEq.trans {a b c : S} (h1 : ApiEq a b) (h2 : ApiEq b c) : ApiEq a c := by
  unfold ApiEq at *
  rw [h2, h1]

theorem SendEq.toApiEq {a b : S} (h : SendEq a b) : ApiEq a b := by
  unfold SendEq at h
  unfold ApiEq
  rw [h]

theorem ApiEq.st {a b : S} (h : ApiEq a b) : b.st = a.st := h ▸ rfl
theorem ApiEq.cfg {a b : S} (h : ApiEq a b) : b.cfg = a.cfg := h ▸ rfl
theorem ApiEq.lost {a b : S} (h : ApiEq a b) : b.lost = a.lost := h ▸ rfl
theorem ApiEq.closeSent {a b : S} (h : ApiEq a b) : b.closeSent = a.closeSent := h ▸ rfl

/-- a call of the data-sending API between `a` and `b`: only the send path and the state of the streaming API changed
(`ApiEq`); the streaming opcode is kept or set to a data opcode; the log grew by writes and raised exceptions; the
opcodes recorded are data opcodes or the streaming opcode -/
structure DataStep (a b : S) : Prop where
  eq : ApiEq a b
  opcode : b.sendOpcode = a.sendOpcode ∨ b.sendOpcode = 1 ∨ b.sendOpcode = 2
  log : LogGrows (·.isSent = true) a b
  ops : ∃ d, b.sentOps = a.sentOps ++ d ∧ ∀ x ∈ d, x = 0 ∨ x = 1 ∨ x = 2 ∨ x = a.sendOpcode

namespace DataStep

theorem quiet {a b : S} (h : ApiEq a b) (hop : b.sendOpcode = a.sendOpcode ∨ b.sendOpcode = 1 ∨ b.sendOpcode = 2)
    (hl : b.log = a.log) (ho : b.sentOps = a.sentOps) : DataStep a b :=
  ⟨h, hop, .of_eq hl, ⟨[], by simp [ho], by simp⟩⟩

theorem refl (a : S) : DataStep a a := quiet (ApiEq.refl a) (Or.inl rfl) rfl rfl

theorem trans {a b c : S} (h1 : DataStep a b) (h2 : DataStep b c) : DataStep a c := by
  obtain ⟨d1, f1, k1⟩ := h1.ops
  obtain ⟨d2, f2, k2⟩ := h2.ops
  have hop := h1.opcode
  refine ⟨h1.eq.trans h2.eq, ?_, h1.log.trans h2.log,
    ⟨d1 ++ d2, by rw [f2, f1, List.append_assoc], fun x hx => ?_⟩⟩
  · rcases h2.opcode with h | h | h
    · rw [h]; exact hop
    · exact Or.inr (Or.inl h)
    · exact Or.inr (Or.inr h)
  · rcases List.mem_append.mp hx with h | h
    · exact k1 x h
    -- what `b` records is a data opcode or `b`'s streaming opcode, which is `a`'s or a data opcode
    · have := k2 x h
      omega

theorem of_Sends {a b : S} {d : List Nat} (h : Sends a b d) (hd : ∀ x ∈ d, x = 0 ∨ x = 1 ∨ x = 2 ∨ x = a.sendOpcode) :
    DataStep a b := ⟨h.eq.toApiEq, Or.inl h.eq.sendOpcode, h.log, ⟨d, h.ops, hd⟩⟩

theorem raise (s : S) (e : Err) : DataStep s (s.emit (.raised e)) := of_Sends (Sends.emit s _ rfl) (by simp)

end DataStep

theorem sendFrame_DataStep (s : S) (op : Nat) (pl : Bytes) (fin : Bool) (rsv : Nat) (sync : Bool) (chop : Nat)
    (hop : op = 0 ∨ op = 1 ∨ op = 2 ∨ op = s.sendOpcode) : DataStep s (sendFrame s op pl fin rsv sync chop) :=
  DataStep.of_Sends (sendFrame_Sends s op pl fin rsv sync chop) fun _ hx => mem_recorded hx ▸ hop

theorem prepareKey_fst (s : S) : (prepareKey s).1 = { s with keyCtr := (prepareKey s).1.keyCtr } := by
  unfold prepareKey; split <;> rfl

theorem prepareKey_isSome (s : S) : (prepareKey s).2.isSome = !s.cfg.isServer := by
  cases h : s.cfg.isServer <;> simp [prepareKey, h]

theorem sendPrepared_DataStep (s : S) (pl : Bytes) (b : Bool) : DataStep s (sendPrepared s pl b) := by
  have hk : DataStep s (prepareKey s).1 := by rw [prepareKey_fst]; exact DataStep.quiet rfl (Or.inl rfl) rfl rfl
  unfold sendPrepared
  dsimp only
  split
  · exact hk.trans (DataStep.raise _ _)
  · split
    · exact hk.trans (DataStep.raise _ _)
    · exact hk.trans (DataStep.of_Sends ((recordOp_Sends _ _).trans (sendData_Sends _ _ _ _)) (by cases b <;> simp))

theorem beginMessage_DataStep (s : S) (b : Bool) : DataStep s (beginMessage s b) := by
  unfold beginMessage
  split
  · exact DataStep.refl s
  · split
    · exact DataStep.raise s _
    · exact DataStep.quiet rfl (by cases b <;> simp) rfl rfl

theorem setFrameState_DataStep (s : S) (n : Nat) (k : Option Xor.Key) (op : Nat) (hop : op = 0 ∨ op = s.sendOpcode) :
    DataStep s (setFrameState s n k op) :=
  ⟨rfl, Or.inl rfl, .of_eq rfl, ⟨[op], rfl, fun x hx => by
    rw [List.mem_singleton.mp hx]; omega⟩⟩

/-- header octets written by `beginMessageFrame` -/
def frameHeader (op : Nat) (key : Option Xor.Key) (l7 : Nat) (el : Bytes) : Bytes :=
  [b0 false 0 op, b1 key.isSome l7] ++ el ++ (match key with | some k => Key.bytes k | none => [])

/-- `beginMessageFrame(n)` goes through before or between the frames of a streamed message, for a length the encoder
takes: a key is drawn, the frame state set up with the opcode of the streaming API (the message's on its first frame,
0 afterwards), which is recorded, and the header sent -/
theorem beginMessageFrameCore_iff (s s' : S) (n : Nat) :
    beginMessageFrameCore s n = some s' ↔
      (s.sendSt = .messageBegin ∨ s.sendSt = .insideMessage) ∧
      ∃ l7 el, encodeLen n = some (l7, el) ∧
        s' = enterFrame (sendData (setFrameState (drawKey s).1 n (drawKey s).2
            (if s.sendSt = .messageBegin then s.sendOpcode else 0))
          (frameHeader (if s.sendSt = .messageBegin then s.sendOpcode else 0) (drawKey s).2 l7 el)) := by
  unfold beginMessageFrameCore
  simp only [(drawKey_SendEq s).sendSt, (drawKey_SendEq s).sendOpcode]
  constructor
  · intro h
    split at h
    · cases h
    · rename_i hs
      split at h
      · cases h
      · split at h
        · cases h
        · rename_i l7 el hel
          exact ⟨Decidable.or_iff_not_imp_left.mpr (by simpa using hs), l7, el, hel, (Option.some.inj h).symm⟩
  · rintro ⟨hs, l7, el, hel, rfl⟩
    -- a length the encoder takes is below 2^63
    have hn : ¬ n > 0x7FFFFFFFFFFFFFFF := fun hgt => by
      simp [encodeLen, show ¬ n ≤ 125 by omega, show ¬ n ≤ 0xFFFF by omega, show ¬ n ≤ 0x7FFFFFFFFFFFFFFF by omega] at hel
    rw [if_neg (by simpa using Decidable.or_iff_not_imp_left.mp hs), if_neg hn]
    simp only [hel]
    rfl

theorem beginMessageFrameCore_DataStep (s s' : S) (n : Nat) (h : beginMessageFrameCore s n = some s') : DataStep s s' := by
  obtain ⟨_, l7, el, _, rfl⟩ := (beginMessageFrameCore_iff s s' n).mp h
  have h1 := DataStep.of_Sends (drawKey_Sends s) (by simp)
  have h2 := setFrameState_DataStep (drawKey s).1 n (drawKey s).2 (if s.sendSt = .messageBegin then s.sendOpcode else 0)
    (by rw [(drawKey_SendEq s).sendOpcode]; split <;> simp)
  have h3 : ∀ t hdr, DataStep t (enterFrame (sendData t hdr)) := fun t hdr =>
    (DataStep.of_Sends (sendData_Sends t hdr false 0) (by simp)).trans (DataStep.quiet rfl (Or.inl rfl) rfl rfl)
  exact h1.trans (h2.trans (h3 _ _))

theorem sendMessageFrameData_DataStep (s : S) (pl : Bytes) (sync : Bool) : DataStep s (sendMessageFrameData s pl sync) := by
  unfold sendMessageFrameData
  split
  · exact DataStep.refl s
  · split
    · exact DataStep.raise s _
    · split
      · exact DataStep.raise s _
      · dsimp only
        have h1 : ∀ (t : S) n, DataStep t (advanceFramePtr t n) := fun _ _ => DataStep.quiet rfl (Or.inl rfl) rfl rfl
        have h2 : ∀ (t : S) d, DataStep t (sendData t d sync) := fun t d =>
          DataStep.of_Sends (sendData_Sends t d sync 0) (by simp)
        have h3 : ∀ t : S, DataStep t (leaveFrameIfDone t) := fun t => by
          unfold leaveFrameIfDone; split
          · exact DataStep.quiet rfl (Or.inl rfl) rfl rfl
          · exact DataStep.refl t
        exact ((h1 s _).trans (h2 _ _)).trans (h3 _)

/-- the calls of the data-sending API -/
def Op.isData : Op → Bool
  | .sendMessage .. | .sendPrepared .. | .beginMessage _ | .beginFrame _ | .frameData .. | .endMessage
  | .messageFrame .. => true
  | _ => false

theorem stepCore_DataStep (s : S) (op : Op) (h : op.isData = true) : DataStep s (stepCore s op) := by
  cases op <;> simp only [Op.isData, Bool.false_eq_true] at h <;> simp only [stepCore]
  case sendMessage pl b f sy =>
    obtain ⟨d, hd, k⟩ := sendMessage_Sends s pl b f sy
    exact DataStep.of_Sends hd fun x hx => by have := k x hx; omega
  case sendPrepared pl b => exact sendPrepared_DataStep s pl b
  case beginMessage b => exact beginMessage_DataStep s b
  case beginFrame n =>
    unfold beginMessageFrame
    split
    · exact DataStep.refl s
    · split
      · rename_i s' h; exact beginMessageFrameCore_DataStep s s' n h
      · exact DataStep.raise s _
  case frameData pl sy => exact sendMessageFrameData_DataStep s pl sy
  case endMessage =>
    unfold endMessage
    split
    · exact DataStep.refl s
    · split
      · exact DataStep.raise s _
      · exact (sendFrame_DataStep s 0 [] true 0 false 0 (Or.inl rfl)).trans (DataStep.quiet rfl (Or.inl rfl) rfl rfl)
  case messageFrame pl sy =>
    unfold sendMessageFrame
    split
    · exact DataStep.refl s
    · split
      · exact DataStep.raise s _
      · split
        · rename_i s' h
          exact (beginMessageFrameCore_DataStep s s' _ h).trans (sendMessageFrameData_DataStep s' pl sy)
        · exact DataStep.raise s _

/-- unless OPEN the data-sending API does nothing, or raises (a prepared message has drawn its key by then) -/
theorem stepCore_notOpen (s : S) (op : Op) (h : op.isData = true) (hst : s.st ≠ .opened) :
    ∃ l, (∀ o ∈ l, ∃ e, o = .raised e) ∧
      stepCore s op = { s with log := s.log ++ l, keyCtr := (stepCore s op).keyCtr } := by
  have same : ∃ l, (∀ o ∈ l, ∃ e, o = Out.raised e) ∧ s = { s with log := s.log ++ l, keyCtr := s.keyCtr } :=
    ⟨[], by simp, by simp⟩
  cases op <;> simp only [Op.isData, Bool.false_eq_true] at h <;> simp only [stepCore]
  case sendMessage pl b f sy => unfold sendMessage; rw [if_pos hst]; exact ⟨[.raised .disconnected], by simp, rfl⟩
  case sendPrepared pl b =>
    have hk : ∀ e, ∃ l, (∀ o ∈ l, ∃ e, o = Out.raised e) ∧ (prepareKey s).1.emit (.raised e) =
        { s with log := s.log ++ l, keyCtr := ((prepareKey s).1.emit (.raised e)).keyCtr } := fun e =>
      ⟨[.raised e], by simp, by rw [prepareKey_fst]; rfl⟩
    have hs : (prepareKey s).1.st = s.st := by rw [prepareKey_fst]
    unfold sendPrepared
    dsimp only
    split
    · exact hk _
    · rw [if_pos (by rw [hs]; exact hst)]; exact hk _
  case beginMessage b => unfold beginMessage; rw [if_pos hst]; exact same
  case beginFrame n => unfold beginMessageFrame; rw [if_pos hst]; exact same
  case frameData pl sy => unfold sendMessageFrameData; rw [if_pos hst]; exact same
  case endMessage => unfold endMessage; rw [if_pos hst]; exact same
  case messageFrame pl sy => unfold sendMessageFrame; rw [if_pos hst]; exact same

theorem stepCore_ApiEq (s : S) (op : Op) (h : op.isData = true) : ApiEq s (stepCore s op) := (stepCore_DataStep s op h).eq

/-! ### timers, the start states, histories -/

theorem advanceTo_rel {R : S → S → Prop} (refl : ∀ s, R s s) (trans : ∀ {a b c}, R a b → R b c → R a c)
    (tick : ∀ (s : S) d, R s { s with now := max s.now d })
    (fired : ∀ s k d q, nextTimer s = some (k, d, q) → R s (fire s k)) (target : Nat) :
    ∀ (fuel : Nat) (s : S), R s (advanceTo target fuel s) := by
  intro fuel
  induction fuel with
  | zero => intro s; exact refl s
  | succ n ih =>
    intro s
    unfold advanceTo
    split
    · rename_i k d q hn
      split
      -- the clock has moved when the callback runs; which timer is next does not depend on the clock
      · exact trans (tick s _) (trans (fired { s with now := max s.now d } k d q hn) (ih _))
      · exact tick s _
    · exact tick s _

/-- the handle of timer `k`: `(k, t) ∈ s.timers` exactly when `k.get s = some t` (used that way in `Quiescent.not_due`) -/
def TK.get : TK → S → Option (Nat × Nat)
  | .openHs => S.tOpenHs
  | .closeHs => S.tCloseHs
  | .serverDrop => S.tServerDrop
  | .pingTimeout => S.tPingTimeout
  | .pingNext => S.tPingNext
  | .sendTick => S.tSendTick

theorem pick_mem (l : List (TK × Nat × Nat)) :
    ∀ (acc : Option (TK × Nat × Nat)) (r : TK × Nat × Nat),
      l.foldl (fun acc t => match acc with
        | none => some t
        | some a => if earlier a t then some a else some t) acc = some r →
      r ∈ l ∨ acc = some r := by
  induction l with
  | nil => intro acc r h; exact Or.inr h
  | cons x xs ih =>
    intro acc r h
    simp only [List.foldl_cons] at h
    rcases ih _ r h with h1 | h1
    · exact Or.inl (List.mem_cons_of_mem _ h1)
    · cases acc with
      | none =>
        simp only [Option.some.injEq] at h1
        subst h1; exact Or.inl (List.mem_cons_self ..)
      | some a =>
        dsimp only at h1
        split at h1
        · exact Or.inr h1
        · simp only [Option.some.injEq] at h1
          subst h1; exact Or.inl (List.mem_cons_self ..)

theorem nextTimer_mem (s : S) (r : TK × Nat × Nat) (h : nextTimer s = some r) : r ∈ s.timers := by
  unfold nextTimer at h
  rcases pick_mem s.timers none r h with h1 | h1
  · exact h1
  · cases h1

/-- `b` equals `a` except in what a timer callback may touch on a CLOSED connection: the timer handles and their
sequence number, the ping bookkeeping and the send queue (an equation, used as `rw [fire_closed_eq s k h]`) -/
def IdleEq (a b : S) : Prop :=
  b = { a with tOpenHs := b.tOpenHs, tCloseHs := b.tCloseHs, tServerDrop := b.tServerDrop,
               tPingTimeout := b.tPingTimeout, tPingNext := b.tPingNext, tSendTick := b.tSendTick, seq := b.seq,
               pingPending := b.pingPending, pingSeq := b.pingSeq, sendQueue := b.sendQueue, triggered := b.triggered }

theorem fire_closed_eq (s : S) (k : TK) (h : s.st = .closed) : IdleEq s (fire s k) := by
  -- a deadline handler on a CLOSED connection only forgets its handle
  have idle : ∀ (s1 s2 : S) (c : Prop) [Decidable c], ¬ c → IdleEq s s1 → IdleEq s (if c then s2 else s1) :=
    fun _ _ _ _ hc e => by rw [if_neg hc]; exact e
  cases k
  · exact idle _ _ _ (by simp [h]) rfl
  · exact idle _ _ _ (by simp [h]) rfl
  · exact idle _ _ _ (by simp [h]) rfl
  · exact idle _ _ _ (by simp [h]) rfl
  · -- the next-ping timer: no ping goes out on a closed connection, only bookkeeping
    have hp : pinged s = beginAutoPing s := by
      unfold pinged sendPing
      rw [if_pos (by simp [beginAutoPing, h])]
    simp only [fire, sendAutoPing_eq, hp]
    split
    · rfl
    · split <;> rfl
  · simp only [fire, sendTick]
    split
    · rw [if_neg (by simp [h])]; rfl
    · rfl

/-- a fresh connection: the initial record with, if pings are configured, the first one scheduled within the interval -/
theorem start_eq (cfg : Cfg) : ∃ t q, start cfg = { cfg := cfg, tPingNext := t, seq := q } ∧
    (cfg.pingInterval > 0 → t.isSome = true) ∧ ∀ D q', t = some (D, q') → D ≤ cfg.pingInterval := by
  unfold start
  dsimp only
  split
  · refine ⟨_, _, rfl, fun _ => rfl, fun D q' h => ?_⟩
    cases h
    exact Nat.le_trans (batched_le _ _) (Nat.le_of_eq (Nat.zero_add _))
  · rename_i hc
    exact ⟨none, 0, rfl, fun h => absurd h hc, fun D q' h => by cases h⟩

/-- a connection in its opening handshake: CONNECTING, with at most the handshake timer armed -/
theorem startConnecting_eq (cfg : Cfg) :
    ∃ t q, startConnecting cfg = { cfg := cfg, st := .connecting, tOpenHs := t, seq := q } := by
  unfold startConnecting
  dsimp only
  split
  · exact ⟨_, _, rfl⟩
  · exact ⟨none, 0, rfl⟩

theorem start_cfg (cfg : Cfg) : (start cfg).cfg = cfg := by
  obtain ⟨t, q, e, _⟩ := start_eq cfg
  rw [e]

theorem handshakeDone_idle (s : S) (h : s.st ≠ .connecting) : handshakeDone s = s := by
  unfold handshakeDone; rw [if_pos h]

theorem handshakeDone_opens (s : S) (h : s.st = .connecting) :
    handshakeDone s = if s.cfg.pingInterval > 0 then armPingNext { s with st := .opened, tOpenHs := none }
      else { s with st := .opened, tOpenHs := none } := by
  unfold handshakeDone; rw [if_neg (by simp [h])]

theorem run_induction {Inv : S → Prop} {ok : Op → Prop} (h : ∀ s op, ok op → Inv s → Inv (step s op)) :
    ∀ (ops : List Op), (∀ op ∈ ops, ok op) → ∀ s, Inv s → Inv (run s ops) :=
  fun ops hok _ hs => List.foldlRecOn ops step hs fun s hs' op hop => h s op (hok op hop) hs'

end Abverif.Ws

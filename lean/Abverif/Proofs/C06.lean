import Abverif.Proofs.Lemmas.SessEnd
import Abverif.Proofs.Lemmas.SessInv
import Abverif.Proofs.Lemmas.SessOrderStep
/-
C06 — WAMP sessions end cleanly on every path and leave nothing pending.

Statements about `Model/Session.lean` (lifecycle part) for every state / every history `h : List SEv`, both scheduling
modes (`Sched.sync` = Twisted, `Sched.deferred` = asyncio) and every behaviour of the user hooks.
The reference notions are those of `Model/SessTrace.lean` (the property as predicates over a trace).
-/
namespace Abverif.Session
open Abverif.SessCodes Abverif.SessTrace

/-- messages a client session may legally get before it is established -/
def legalBefore : InMsg → Bool
  | .welcome _ | .abort | .challenge => true
  | _ => false

/-- handshake messages: never legal once the session is established (`other` stands for HELLO / AUTHENTICATE and every
other class a client never receives) -/
def handshake : InMsg → Bool
  | .welcome _ | .abort | .challenge | .other => true
  | _ => false

/-- Before the session is established anything but WELCOME / ABORT / CHALLENGE — afterwards every handshake message — and
once the session or the attempt to join is over (`onLeave` has been called, `join()` not again) EVERY message, WELCOME /
ABORT / CHALLENGE included — raises `ProtocolError` out of `onMessage` and changes *nothing*: no hook runs, nothing is
sent, no future is touched. For every state, both scheduling modes, whatever the hooks would do. -/
theorem pre_session_gate (s : Sess) (beh : List HAct) (m : InMsg) :
    (s.sessionId = none → legalBefore m = false → step s (.msg m beh) = (s, [.raise_ .protocolError])) ∧
    (s.sessionId.isSome = true → handshake m = true → step s (.msg m beh) = (s, [.raise_ .protocolError])) ∧
    (s.sessionId = none → s.ended = true → step s (.msg m beh) = (s, [.raise_ .protocolError])) := by
  refine ⟨fun hs hm => ?_, fun hs hm => ?_, fun hs he => step_over hs he m beh⟩
  · cases he : s.ended with
    | true => exact step_over hs he m beh
    | false => rw [step_pre hs he]; cases m <;> simp [legalBefore] at hm <;> rfl
  · obtain ⟨sid, hsid⟩ := Option.isSome_iff_exists.mp hs
    rw [step_est hsid]
    cases m <;> simp [handshake] at hm <;> rfl

/-- the Spec's notion of an illegal message agrees with the predicates above -/
theorem isIllegal_iff (welcomed ended : Bool) (m : InMsg) :
    isIllegal welcomed ended m =
      (if welcomed then handshake m else (!legalBefore m || m == .other || (ended && handshake m))) := by
  cases welcomed <;> cases ended <;> cases m <;> rfl

/-- Each of the three ways a session / an attempt to join ends inside `onMessage` — router ABORT, the GOODBYE that ends a
joined session, a failing `onChallenge` (own ABORT) — enters `onLeave` with the record set, and for ABORT and GOODBYE in a
state without session id (the closure behind a failing `onChallenge` is taken in any state with a transport; it runs
before a session is established only). What `onLeave` then does, e.g. a `join()` from inside it, is not part of the
statement. -/
theorem session_end_is_recorded (s : Sess) (beh : List HAct) (lact : HAct) :
    (s.sessionId = none → s.ended = false →
      step s (.msg .abort beh) = leaveHook { s with ended := true } 2 (beh.headD {})) ∧
    (∀ sid, s.sessionId = some sid → s.transport = true →
      (step s (.msg .goodbye beh)).1 = (leaveHook { s with sessionId := none, ended := true } 0 (beh.headD {})).1) ∧
    (s.transport = true →
      challengeFail s lact = ((leaveHook { s with ended := true } 3 lact).1,
        [.userError, .send { typ := .abort }] ++ (leaveHook { s with ended := true } 3 lact).2)) := by
  refine ⟨fun hs he => step_pre hs he .abort beh, ?_, ?_⟩
  · intro sid hs ht; simp [step_est hs, onEstablished, ht]
  · intro ht; simp [challengeFail, ht]

/-- an accepted `join()` clears the record (a new attempt); `leave()` and `disconnect()` leave it alone. (`onOpen` is not
part of the statement.) -/
theorem open_and_join_clear_the_record (s : Sess) (acts : List HAct) :
    (s.sessionId = none → s.transport = true → (apiJoin s).1.ended = false ∧ (apiJoin s).2 = [.send { typ := .hello }]) ∧
    (apiLeave s).1.ended = s.ended ∧ (apiDisconnect s).1.ended = s.ended := by
  refine ⟨?_, ?_, ?_⟩
  · intro hs ht; simp [apiJoin, hs, ht]
  · exact (apiLeave_calm true s).ended (Or.inl rfl)
  · exact (apiDisconnect_calm true s).ended (Or.inl rfl)

/-- non-vacuity: RESULT before WELCOME; a second WELCOME, a CHALLENGE and an ABORT inside the session -/
example : runOuts (init .sync) [.open_ [], .msg (.result 1 {} false) [], .msg (.welcome 5) [], .msg (.welcome 6) [],
      .msg .challenge [], .msg .abort [], .msg .other []] =
    [.fire .connect, .hook .onConnect 0, .send { typ := .hello }, .raise_ .protocolError,
     .hook .onWelcome 0, .fire .join, .hook .onJoin 0, .fire .ready,
     .raise_ .protocolError, .raise_ .protocolError, .raise_ .protocolError, .raise_ .protocolError] := by decide +kernel

/-- Without a transport every request API raises `TransportLost` at once — nothing is
recorded, no id is drawn, no future is created, nothing can hang. (`unsubscribe` / `unregister` on a handle that is no
longer active raise "no longer active" instead.) -/
theorem api_fails_fast_after_end (s : Sess) (ht : s.transport = false) :
    (∀ u a k o r, step s (.api (.call u a k o r)) = (s, [.raise_ .transportLost])) ∧
    (∀ u a k o r, step s (.api (.publish u a k o r)) = (s, [.raise_ .transportLost])) ∧
    (∀ h t o r, step s (.api (.subscribe h t o r)) = (s, [.raise_ .transportLost])) ∧
    (∀ h p o r, step s (.api (.register h p o r)) = (s, [.raise_ .transportLost])) ∧
    (∀ obj r, step s (.api (.unsubscribe obj r)) = (s, [.raise_ .transportLost]) ∨
              step s (.api (.unsubscribe obj r)) = (s, [.raise_ .exception])) ∧
    (∀ obj r, step s (.api (.unregister obj r)) = (s, [.raise_ .transportLost]) ∨
              step s (.api (.unregister obj r)) = (s, [.raise_ .exception])) := by
  refine ⟨?_, ?_, ?_, ?_, ?_, ?_⟩
  · intro u a k o r; simp [step, apiStep, apiCall, ht]
  · intro u a k o r; simp [step, apiStep, apiPublish, ht]
  · intro h t o r; simp [step, apiStep, apiSubscribe, ht]
  · intro h p o r; simp [step, apiStep, apiRegister, ht]
  · intro obj r
    simp only [step, apiStep, apiUnsubscribe]
    cases findSub obj s.subs <;> simp [ht]
  · intro obj r
    simp only [step, apiStep, apiUnregister]
    cases findReg obj s.regs <;> simp [ht]

/-- after `onClose` — whatever the hooks do, in both scheduling modes — the session holds no transport: from here on
(until the object is given a new transport) `api_fails_fast_after_end` applies -/
theorem closed_ends_everything (s : Sess) (acts : List HAct) :
    (step s (.closed acts)).1.transport = false :=
  step_transport s (.closed acts)

/-- no API call changes whether the session holds a transport: user code cannot bring it back (nor drop it) -/
theorem api_keeps_transport_down (s : Sess) (a : Api) : (step s (.api a)).1.transport = s.transport :=
  step_transport s (.api a)

/-- No other event — message of any kind, API call, loop iteration,
completion of an endpoint result, … with whatever user code runs inside — changes whether the session holds a
transport. So after `onClose` the API guard of `api_fails_fast_after_end` applies until the object is opened again. -/
theorem transport_written_only_by_onOpen_and_onClose (s : Sess) (e : SEv) (ho : ∀ acts, e ≠ .open_ acts) (hc : ∀ acts, e ≠ .closed acts) :
    (step s e).1.transport = s.transport := by
  rw [step_transport]
  cases e with
  | open_ acts => exact absurd rfl (ho acts)
  | closed acts => exact absurd rfl (hc acts)
  | _ => rfl

/-- `api_fails_fast_after_end`, over whole histories: after `onClose`, through any continuation that does not open the
object again, every `call()` raises `TransportLost` at once and changes nothing (likewise publish / subscribe /
register, see `api_fails_fast_after_end`) -/
theorem api_fails_fast_after_end_history (s : Sess) (acts : List HAct) (h2 : List SEv) (hno : ∀ e ∈ h2, ∀ a, e ≠ .open_ a)
    (u : Uri) (a : Args) (k : Kwargs) (o : Option CallOpts) (r : SendRes) :
    let s' := runState (step s (.closed acts)).1 h2
    step s' (.api (.call u a k o r)) = (s', [.raise_ .transportLost]) := by
  exact (api_fails_fast_after_end _ (runState_transport_down h2 (closed_ends_everything s acts) hno)).1 u a k o r

def isGoodbye : SOut → Bool
  | .send m => m.typ == .goodbye
  | _ => false

/-- In an established session (transport up) the peer's GOODBYE is answered with
a GOODBYE — the first thing the step does — exactly when this side has not sent one itself (`leave()` was not called
in this session); either way the session is over afterwards and `onLeave` is called, whatever it does. -/
theorem goodbye_answered_iff_not_initiator (s : Sess) (sid : Nat) (hs : s.sessionId = some sid) (ht : s.transport = true)
    (beh : List HAct) :
    let r := step s (.msg .goodbye beh)
    (s.goodbyeSent = false → r.2 = .send { typ := .goodbye } :: (leaveHook { s with sessionId := none, ended := true } 0 (beh.headD {})).2) ∧
    (s.goodbyeSent = true → r.2 = (leaveHook { s with sessionId := none, ended := true } 0 (beh.headD {})).2) ∧
    r.1 = (leaveHook { s with sessionId := none, ended := true } 0 (beh.headD {})).1 := by
  simp only [step_est hs, onEstablished, ht]
  refine ⟨fun h => by simp [h], fun h => by simp [h], by simp⟩

/-- what `leave()` outputs: GOODBYE in a joined session that has not sent one (and then it is recorded), an
`AttributeError` if that session has no transport, nothing otherwise; the session id stays -/
theorem leave_sends_iff (s : Sess) :
    (apiLeave s).2 = (if s.sessionId.isSome && !s.goodbyeSent && s.transport then [.send { typ := .goodbye }] else
                      if s.sessionId.isSome && !s.goodbyeSent then [.raise_ .attributeError] else []) ∧
    ((apiLeave s).2.any isGoodbye = true → (apiLeave s).1.goodbyeSent = true) ∧
    (apiLeave s).1.sessionId = s.sessionId := by
  unfold apiLeave
  cases h1 : s.sessionId <;> cases h2 : s.goodbyeSent <;> cases h3 : s.transport <;> simp [isGoodbye, h1, h2]

/-- `goodbye_at_most_once`, step by step: `leave()` sends GOODBYE only in a joined session that has not sent one, and
records it; a second `leave()` sends nothing; the reply to the peer's GOODBYE is sent only if none was sent and ends the
session; `join()` — the only thing that clears the record — is refused while a session is joined. -/
theorem goodbye_at_most_once_steps (s : Sess) :
    (s.goodbyeSent = true → (apiLeave s).2.any isGoodbye = false) ∧
    (s.sessionId = none → (apiLeave s).2 = []) ∧
    (s.sessionId.isSome = true → (apiJoin s) = (s, [.raise_ .exception])) ∧
    ((apiJoin s).1.sessionId = s.sessionId) := by
  refine ⟨?_, ?_, ?_, ?_⟩
  · intro h; unfold apiLeave; cases h1 : s.sessionId <;> simp [h]
  · intro h; simp [apiLeave, h]
  · intro h; simp [apiJoin, h]
  · unfold apiJoin; split <;> (try split) <;> rfl

/-- The default clean-up body (which `onLeave` runs when a session ends or the router aborts and `onDisconnect` runs as
the backstop when the transport goes): every request recorded in any of the six tables has its future completed, the
tables are empty, and every future that was completed before still is. -/
theorem nothing_pending_after_end (s : Sess) (hi : Inv s) (o : Outcome) :
    let s' := (rejectList s.clearTables o s.outstanding).1
    (∀ k, s'.tbl k = []) ∧ (∀ k, ∀ e ∈ s.tbl k, s'.called e.2.fut = true) ∧ (∀ g, s.called g = true → s'.called g = true) := by
  obtain ⟨h1, h2⟩ := rejectList_called s.clearTables o s.outstanding
  refine ⟨fun k => errback_outstanding_empties s o k, fun k e he => ?_, fun g hg => h1 g hg⟩
  refine h2 e.2.fut ?_ (hi.2.futb k e he)
  simp only [Sess.outstanding, List.mem_map, List.mem_flatMap]
  exact ⟨e, ⟨k, by cases k <;> simp [Kind.all], he⟩, rfl⟩

/-- the transport-loss path reaches that body: with the default `onDisconnect` (whatever `onLeave` did, raised or
replaced) the state right after the body — before the override's own calls, which can no longer record anything, see
`api_fails_fast_after_end` — has empty tables -/
theorem onDisconnect_is_backstop (s : Sess) (k : Kind) : (onDisconnectDefault s).1.tbl k = [] :=
  errback_outstanding_empties s (.closed 1) k

/-- `callbacks_ordered_once` and the other clauses of the property, as the trace Spec states them, for the model's own
trace of a history -/
def CleanEnd (mode : Sched) (h : List SEv) : Prop := check mode (traceOf (init mode) h) = []

instance (mode : Sched) (h : List SEv) : Decidable (CleanEnd mode h) := by unfold CleanEnd; infer_instance

/-- the full statement: for every history -/
def CallbacksOrderedOnce : Prop := ∀ (mode : Sched) (h : List SEv), CleanEnd mode h

/-- the pre-session branch keeps a record that the join attempt or the session of this connection is over: two ABORT
before WELCOME; WELCOME after the GOODBYE that ended the session; ABORT / WELCOME / a failing CHALLENGE after each of the
three endings — are clean: the late message is a protocol violation and nothing else happens -/
example : CleanEnd .sync [.open_ [], .msg .abort [], .msg .abort [], .closed []] := by decide +kernel
example : CleanEnd .sync [.open_ [], .msg (.welcome 7) [], .msg .goodbye [], .msg (.welcome 9) [], .closed []] := by decide +kernel
example : CleanEnd .sync [.open_ [], .msg .challenge [{ raises := true }], .msg (.welcome 9) [], .msg .abort [],
    .msg .challenge [{ raises := true }], .closed []] := by decide +kernel
example : CleanEnd .deferred [.open_ [], .pump, .msg .abort [], .pump, .msg (.welcome 9) [], .pump, .msg .abort [], .pump,
    .closed [], .pump] := by decide +kernel

/-- `callbacks_ordered_once` on Twisted. For EVERY history in which the
transport is used the way the transports use it (`wfHist`: `onOpen` only without a transport, `onClose` and messages only
with one) and user code — hooks, handlers, endpoints, the application — never calls `join()` itself, whatever else it
does (raises, overrides without `super()`, `leave()`, `disconnect()`, requests of every kind), whatever the router sends
(legal or not, any number of ABORT / WELCOME / CHALLENGE / GOODBYE at any position) and wherever the transport is lost:
the trace Spec finds in the model's own trace no callback or observer out of the order connect, join, (ready,) leave,
disconnect or a second time on one connection (`hookOrder`, `obsOrder`), no `onLeave` without a session end / aborted
join (`leaveUnexpected`) and none missing (`leaveMissing`), and no message that is illegal in its phase handled as
anything but a protocol violation (`gate`). The other clauses of the Spec have their own theorems above. -/
theorem callbacks_ordered_once_twisted (h : List SEv) (hw : wfHist false h = true) :
    ∀ iv ∈ check .sync (traceOf (init .sync) h), iv.2.isOrder = false :=
  order_trace (σ := {}) init_MInv rfl h hw 0

/-- non-vacuity: histories with late handshake messages, a conversation with raising hooks,
overrides, local `leave()` / `disconnect()`, outstanding requests and a re-opened object are well-formed -/
example : wfHist false [.open_ [], .msg .abort [], .msg .abort [], .closed []] = true := by decide +kernel
example : wfHist false [.open_ [], .msg (.welcome 7) [], .msg .goodbye [], .msg (.welcome 9) [], .closed []] = true := by decide +kernel
example : wfHist false [.open_ [{ raises := true }], .msg .challenge [{ ret := .val 1 }], .msg (.welcome 7) [{}, { raises := true }],
    .api (.call 1 [] [] none .ok), .api .leave, .msg .goodbye [{ dflt := false, calls := [.api .disconnect] }], .msg .abort [],
    .closed [{}, { raises := true }], .api (.call 1 [] [] none .ok), .open_ [], .msg .abort [{ raises := true }], .closed []] = true := by
  decide +kernel

/-- the hypothesis about `join()` is needed, and is the property's own: a session that joins again on the same transport
(`join()` from inside `onLeave`; the code supports it, the record is cleared) shows join and leave a second time on one
connection -/
example : ¬ CleanEnd .sync [.open_ [], .msg (.welcome 7) [], .msg .goodbye [{ calls := [.api .join] }], .msg (.welcome 9) [],
    .closed []] := by decide +kernel
example : wfHist false [.open_ [], .msg (.welcome 7) [], .msg .goodbye [{ calls := [.api .join] }]] = false := by decide +kernel

/-- what stays open is asyncio-only. GOODBYE one loop iteration after WELCOME — `onLeave` before `onJoin` -/
theorem callbacks_ordered_once_fails_asyncio_goodbye_before_onJoin : ¬ CallbacksOrderedOnce := by
  intro h
  have := h .deferred [.open_ [], .pump, .msg (.welcome 7) [], .tick, .msg .goodbye [], .pump, .closed [], .pump]
  revert this; decide +kernel

/-- … and on asyncio: GOODBYE in the same loop iteration as WELCOME is rejected as a protocol violation -/
theorem clean_end_fails_asyncio_goodbye_with_welcome : ¬ CallbacksOrderedOnce := by
  intro h
  have := h .deferred [.open_ [], .pump, .msg (.welcome 7) [], .msg .goodbye [], .pump, .closed [], .pump]
  revert this; decide +kernel

/-- non-vacuity: conversations of the session grammar with raising hooks, outstanding requests, local leave and
transport loss satisfy every clause, on both schedulings -/
example : CleanEnd .sync [.open_ [], .msg .challenge [{ ret := .val 1 }], .msg (.welcome 7) [{}, { raises := true }],
    .api (.call 1 [] [] none .ok), .api (.subscribe 1 2 none .ok), .api .leave, .msg .goodbye [{ raises := true }],
    .closed [{}, { raises := true }], .api (.call 1 [] [] none .ok)] := by decide +kernel
example : CleanEnd .deferred [.open_ [], .pump, .msg .challenge [{ raises := true }, {}], .pump, .closed [], .pump] := by decide +kernel
example : CleanEnd .deferred [.open_ [{ raises := true }], .pump, .msg (.welcome 7) [], .pump, .api (.call 1 [] [] none .ok),
    .api (.publish 2 [] [] (some { acknowledge := some true }) .ok), .msg .goodbye [{ dflt := false }], .pump,
    .closed [{ raises := true }, {}], .pump, .api (.subscribe 1 1 none .ok)] := by decide +kernel
example : CleanEnd .sync [.open_ [], .msg .abort [{ dflt := false, raises := true }], .closed []] := by decide +kernel

end Abverif.Session

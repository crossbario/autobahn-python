import Abverif.Proofs.Lemmas.WsWire
/-
C01 — messages arrive intact, exactly once and in order: the pure functions of the send side and the write queue.
The length codec (`beBytes`/`beNat`, `encodeLen` with its rows and `lenCodec_roundtrip`, `encodeFrame_some`), the fragment
loop of `sendMessage` and the chopping of writes (`fragments_concat`, `fragments_fin`, `chop_flatten`), the order of the
octets passed to `sendData` (`sendData_wire`, `queue_order`: instances of `Wrote`, Lemmas/WsWire), the default mask policy.
-/
namespace Abverif.Ws

theorem beBytes_length (k n : Nat) : (beBytes k n).length = k := by
  induction k generalizing n with
  | zero => rfl
  | succ k ih => simp [beBytes, ih]

theorem beNat_append_singleton (l : Bytes) (b : UInt8) : beNat (l ++ [b]) = beNat l * 256 + b.toNat := by
  simp [beNat, List.foldl_append]

theorem beNat_beBytes (k n : Nat) (h : n < 256 ^ k) : beNat (beBytes k n) = n := by
  induction k generalizing n with
  | zero => simp [beBytes, beNat] at *; omega
  | succ k ih =>
    simp only [beBytes, beNat_append_singleton]
    have h1 : n / 256 < 256 ^ k := by
      rw [Nat.pow_succ] at h
      exact Nat.div_lt_of_lt_mul (by omega)
    rw [ih _ h1]
    have : (UInt8.ofNat (n % 256)).toNat = n % 256 := by
      simp
    rw [this]
    omega

theorem encodeLen_7 (l : Nat) (h : l ≤ 125) : encodeLen l = some (l, []) := by simp [encodeLen, h]

theorem encodeLen_16 (l : Nat) (h1 : 125 < l) (h2 : l ≤ 65535) : encodeLen l = some (126, beBytes 2 l) := by
  unfold encodeLen
  rw [if_neg (by omega), if_pos (by omega)]

theorem encodeLen_64 (l : Nat) (h1 : 65535 < l) (h2 : l ≤ 2 ^ 63 - 1) : encodeLen l = some (127, beBytes 8 l) := by
  unfold encodeLen
  rw [if_neg (by omega), if_neg (by omega), if_pos (by omega)]

theorem encodeLen_none (l : Nat) (h : 2 ^ 63 - 1 < l) : encodeLen l = none := by
  unfold encodeLen
  rw [if_neg (by omega), if_neg (by omega), if_neg (by omega)]

/-- whatever `encodeLen` emits decodes to the same length and is accepted by the
minimal-encoding rule of the Spec — for every length below 2^63 (0, 125, 126, 65535, 65536 included) -/
theorem lenCodec_roundtrip (l l7 : Nat) (ext : Bytes) (h : encodeLen l = some (l7, ext)) :
    (if l7 < 126 then l7 else beNat ext) = l ∧ WsSpec.extLenOk l7 l = true ∧ l7 < 128 ∧
    ext.length = (if l7 = 126 then 2 else if l7 = 127 then 8 else 0) := by
  unfold encodeLen at h
  split at h
  · rename_i h125
    cases h
    have a : l ≠ 126 := by omega
    have b : l ≠ 127 := by omega
    have c : l < 126 := by omega
    simp [WsSpec.extLenOk, a, b, c]; omega
  · split at h
    · cases h
      refine ⟨?_, ?_, by omega, by simp [beBytes_length]⟩
      · simp; exact beNat_beBytes 2 l (by omega)
      · simp [WsSpec.extLenOk]; omega
    · split at h
      · cases h
        refine ⟨?_, ?_, by omega, by simp [beBytes_length]⟩
        · simp; exact beNat_beBytes 8 l (by omega)
        · simp [WsSpec.extLenOk]; omega
      · cases h

theorem encodeLen_some (n : Nat) (h : n < 2 ^ 63) : ∃ l7 el, encodeLen n = some (l7, el) := by
  by_cases a : n ≤ 125
  · exact ⟨_, _, encodeLen_7 n a⟩
  · by_cases b : n ≤ 65535
    · exact ⟨_, _, encodeLen_16 n (by omega) b⟩
    · exact ⟨_, _, encodeLen_64 n (by omega) (by omega)⟩

theorem encodeFrame_some (fin : Bool) (rsv op : Nat) (key : Option Abverif.Xor.Key) (am : Bool) (pl : Bytes)
    (h : pl.length < 2 ^ 63) : ∃ raw, encodeFrame fin rsv op key am pl = some raw := by
  obtain ⟨l7, el, hel⟩ := encodeLen_some pl.length h
  unfold encodeFrame
  rw [hel]
  cases key <;> exact ⟨_, rfl⟩

theorem fragments_concat (pfs : Nat) (hp : 1 ≤ pfs) :
    ∀ (fuel : Nat) (pl : Bytes), pl.length ≤ fuel → ((fragments pfs fuel pl).map (·.1)).flatten = pl := by
  intro fuel
  induction fuel with
  | zero => intro pl h; simp [fragments]
  | succ n ih =>
    intro pl h
    unfold fragments
    split
    · simp
    · rename_i hlt
      simp only [List.map_cons, List.flatten_cons]
      rw [ih (pl.drop pfs) (by simp; omega)]
      exact List.take_append_drop _ _

/-- the same for write-chopping (`sendData(…, chopsize)`): the chunks concatenate to the data -/
theorem chop_flatten (c : Nat) (hc : 1 ≤ c) :
    ∀ (fuel : Nat) (d : Bytes), d.length ≤ fuel → (chop c fuel d).flatten = d :=
  flatten_chop c hc

/-- exactly the last fragment carries FIN -/
theorem fragments_fin (pfs : Nat) :
    ∀ (fuel : Nat) (pl : Bytes), ∃ (init : List (Bytes × Bool)) (last : Bytes),
      fragments pfs fuel pl = init ++ [(last, true)] ∧ ∀ x ∈ init, x.2 = false ∧ x.1.length = pfs := by
  intro fuel
  induction fuel with
  | zero => intro pl; exact ⟨[], pl, by simp [fragments], by simp⟩
  | succ n ih =>
    intro pl
    unfold fragments
    split
    · exact ⟨[], pl, by simp, by simp⟩
    · rename_i hlt
      obtain ⟨init, last, e, hall⟩ := ih (pl.drop pfs)
      refine ⟨(pl.take pfs, false) :: init, last, by simp [e], ?_⟩
      intro x hx
      rcases List.mem_cons.mp hx with h | h
      · subst h; simp; omega
      · exact hall x h

/-- one call: whatever mode `sendData` uses — direct write, queued because earlier data is still
queued, synchronous, or chopped — the octets go out after everything passed to `sendData` before, unreordered -/
theorem sendData_wire (s : S) (d : Bytes) (sync : Bool) (chopsize : Nat) (h : s.st ≠ .closed)
    (hl : ¬ (s.lost = true ∧ s.cfg.asyncio = true)) :
    wire (sendData s d sync chopsize) = wire s ++ d :=
  (sendData_Wrote s d sync chopsize).wire_eq ⟨h, hl⟩

/-- any sequence of `sendData` calls with any mix of modes -/
theorem queue_order (ds : List (Bytes × Bool × Nat)) :
    ∀ (s : S), s.st ≠ .closed → ¬ (s.lost = true ∧ s.cfg.asyncio = true) →
      wire (ds.foldl (fun s d => sendData s d.1 d.2.1 d.2.2) s) = wire s ++ (ds.map (·.1)).flatten := by
  suffices h : ∀ s, Wrote s (ds.foldl (fun s d => sendData s d.1 d.2.1 d.2.2) s) (ds.map (·.1)).flatten from
    fun s hst hl => (h s).wire_eq ⟨hst, hl⟩
  induction ds with
  | nil => exact Wrote.refl
  | cons d ds ih => exact fun s => (sendData_Wrote s _ _ _).trans (ih _)

theorem wire_drained (s : S) (h : s.sendQueue = []) : wire s = written s := by simp [wire, h]

/-- by default a client masks every frame and a server none; the key is a fresh draw from the key stream per frame -/
theorem default_mask_policy (cfg : Cfg) (h1 : cfg.maskClient = true) (h2 : cfg.maskServer = false) (s : S)
    (hc : s.cfg = cfg) :
    (drawKey s).2 = (if cfg.isServer then none else some (keyOf s.keyCtr)) ∧
    (drawKey s).1.keyCtr = (if cfg.isServer then s.keyCtr else s.keyCtr + 1) := by
  unfold drawKey S.masksFrames
  rw [hc]
  cases hsrv : cfg.isServer <;> simp [h1, h2]

end Abverif.Ws

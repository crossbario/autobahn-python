import Abverif.Proofs.Lemmas.WsPing
import Abverif.Proofs.Lemmas.WsStep
/-
# C17: automatic pings keep being sent for as long as the connection is open

`pings_keep_coming`: in every state reachable from a fresh connection (or from one still in its opening handshake) by
any history of reads, API calls, clock advances and loss: if the connection is OPEN and a ping interval is configured,
then the next automatic ping is scheduled and due no later than now + interval, or a ping is outstanding and its pong
deadline is due no later than now + timeout.  What happens at those deadlines is local: `sendAutoPing_rearms`,
`pong_rearms`, `fire_pingTimeout_drops` (C17.lean).  With autoPingTimeout = 0 the next ping is
scheduled when the ping goes out (`sendAutoPing`, /repo cde7fa2e): otherwise nothing would be armed after one unanswered ping.
-/
namespace Abverif.Ws

theorem run_PK (ops : List Op) (s : S) (h : PK s) : PK (run s ops) :=
  PP.walk.history (ok := fun _ => True) id (fun s op hd => PP.of_ApiEq (stepCore_ApiEq s op hd))
    (fun s _ => connectionLost_PP s) (fun s c r _ => sendClose_PP s c r) ops (fun _ _ => trivial) s h

theorem start_PK (cfg : Cfg) : PK (start cfg) := by
  obtain ⟨t, q, e, h1, h2⟩ := start_eq cfg
  rw [e]
  exact ⟨fun _ hi => Or.inl (h1 hi), fun D q' h => Nat.le_trans (h2 D q' h) (Nat.le_of_eq (Nat.zero_add _).symm),
    fun D q' h => (by cases h)⟩

theorem startConnecting_PK (cfg : Cfg) : PK (startConnecting cfg) := by
  obtain ⟨t, q, e⟩ := startConnecting_eq cfg
  rw [e]
  exact ⟨fun h => (by cases h), fun D q' h => (by cases h), fun D q' h => (by cases h)⟩

/-- `PK` in every state reachable from a fresh connection: every configuration, every history -/
theorem pings_keep_coming (cfg : Cfg) (ops : List Op) : PK (run (start cfg) ops) := run_PK ops _ (start_PK cfg)

theorem pings_keep_coming_connecting (cfg : Cfg) (ops : List Op) : PK (run (startConnecting cfg) ops) :=
  run_PK ops _ (startConnecting_PK cfg)

/-- `pings_keep_coming` with `PK` written out for an OPEN connection -/
theorem open_connection_has_ping_or_pong_deadline (cfg : Cfg) (ops : List Op)
    (ho : (run (start cfg) ops).st = .opened) (hi : (run (start cfg) ops).cfg.pingInterval > 0) :
    (∃ D q, (run (start cfg) ops).tPingNext = some (D, q) ∧
        D ≤ (run (start cfg) ops).now + (run (start cfg) ops).cfg.pingInterval) ∨
    (∃ D q, (run (start cfg) ops).tPingTimeout = some (D, q) ∧
        D ≤ (run (start cfg) ops).now + (run (start cfg) ops).cfg.pingTimeout) := by
  have k := pings_keep_coming cfg ops
  generalize run (start cfg) ops = s at *
  rcases k.1 ho hi with h | h
  · cases hn : s.tPingNext with
    | none => rw [hn] at h; cases h
    | some t => obtain ⟨D, q⟩ := t; exact Or.inl ⟨D, q, rfl, k.2.1 D q hn⟩
  · cases hn : s.tPingTimeout with
    | none => rw [hn] at h; cases h
    | some t => obtain ⟨D, q⟩ := t; exact Or.inr ⟨D, q, rfl, k.2.2 D q hn⟩

/-- a history the theorem speaks about (the scenario of /repo cde7fa2e): ping interval 1 s, no pong
deadline configured, the peer never answers; three seconds later the connection is still OPEN, three pings have gone
out and the next one is scheduled -/
example : (run (start { pingInterval := 1048576, pingTimeout := 0 }) [.advance 3145728]).st = .opened ∧
    (run (start { pingInterval := 1048576, pingTimeout := 0 }) [.advance 3145728]).sentOps = [9, 9, 9] ∧
    (run (start { pingInterval := 1048576, pingTimeout := 0 }) [.advance 3145728]).tPingNext.isSome = true := by
  decide

end Abverif.Ws

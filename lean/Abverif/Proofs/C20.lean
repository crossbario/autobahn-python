import Abverif.Model.Cryptobox
/-!
C20 — End-to-end encrypted payloads are recovered exactly or rejected.

Level: proof RELATIVE to the AEAD hypotheses `BoxLaws` (correctness, ciphertext integrity, wrong key fails) and to
`InnerCodec.Laws` (the inner JSON envelope reads back what was written, on the values it can serialise). They are
hypotheses of the theorems; NaCl and the serializers are trusted, not verified. The tie to the code is harness/c20.py.

`WireHasNoClearPayload` holds without hypothesis: the success path of an
encrypted invocation sends a sealed YIELD or an ERROR with a fixed text (never the result), the error path sends a
sealed ERROR, or — when no key covers the ERROR URI — the ERROR URI with a fixed text instead of the exception's
arguments; when building the ERROR fails an ERROR with a fixed text is sent all the same (`error_reply_always_sent`).
-/
namespace Abverif.Cryptobox

variable {K N P C X Y : Type}

theorem decode_ok {b : Box K N P C} {codec : InnerCodec X Y P} {ring : KeyRing K} {o : Bool} {u : Uri}
    {m : AppPayload X Y C} {iu : Option Uri} {ia : Option X} {ik : Option Y}
    (h : decode b codec ring o u m = .ok iu ia ik) :
    ∃ k c p, getBox ring o u = some k ∧ m.payload = some c ∧ b.unlock k c = some p ∧
      codec.deser p = some { uri := iu, args := ia, kwargs := ik } := by
  unfold decode at h
  split at h
  · cases h  -- `enc_algo` is not cryptobox
  split at h
  · cases h  -- no key for the lookup
  rename_i k hk
  split at h
  · cases h  -- no payload
  rename_i c hc
  split at h
  · cases h  -- the box does not open
  rename_i p hp
  split at h
  · cases h  -- `enc_serializer` is not json
  split at h
  · cases h  -- the inner envelope does not parse
  rename_i i hi
  cases h
  exact ⟨k, c, p, hk, hc, hp, hi⟩

/-- only a message without `enc_algo` is taken as it is -/
theorem receive_plain {b : Box K N P C} {codec : InnerCodec X Y P} {s : Codec K} {o : Bool} {env : Uri}
    {m : AppPayload X Y C} {a : Option X} {kw : Option Y} (h : receive b codec s o env m = .plain a kw) :
    m.encAlgo = none := by
  unfold receive at h
  split at h
  · assumption
  · split at h
    · cases h
    · split at h
      · cases h
      · split at h <;> cases h

theorem receive_sealed {b : Box K N P C} {codec : InnerCodec X Y P} {ring : KeyRing K} {o : Bool} {u : Uri} {k : K}
    {c : C} (hk : getBox ring o u = some k) :
    receive b codec (some ring) o u (sealedMsg c) =
      match (b.unlock k c).bind codec.deser with
      | none => .rejected .decryptError
      | some i => if i.uri ≠ some u then .rejected .trustedUriMismatch else .decoded i.args i.kwargs := by
  cases hu : b.unlock k c with
  | none => simp [receive, decode, sealedMsg, hk, hu]
  | some p => cases hd : codec.deser p <;> simp [receive, decode, sealedMsg, hk, hu, hd]

/-- `decode dir' uri (encode dir uri a k) = (uri, a, k)` for matching key roles: the sender's box for its role and the
receiver's box for the opposite role hold the same shared key. -/
theorem decode_encode (b : Box K N P C) (hb : BoxLaws b) (codec : InnerCodec X Y P) (hc : codec.Laws)
    (ringS ringR : KeyRing K) (o : Bool) (u : Uri) (a : Option X) (kw : Option Y) (n : N) (k : K) (p : P)
    (hS : getBox ringS o u = some k) (hR : getBox ringR (!o) u = some k)
    (hser : codec.ser { uri := some u, args := a, kwargs := kw } = some p) :
    encode b codec ringS o u a kw n = .sealed (b.lock k n p) ∧
    decode b codec ringR (!o) u (sealedMsg (b.lock k n p)) = .ok (some u) a kw := by
  refine ⟨by simp [encode, hS, hser], ?_⟩
  simp [decode, sealedMsg, hR, hb.unlock_lock, hc _ _ hser]

theorem receive_sealed_ok {b : Box K N P C} (hb : BoxLaws b) {codec : InnerCodec X Y P} (hc : codec.Laws)
    {ring : KeyRing K} {o : Bool} {u : Uri} {a : Option X} {kw : Option Y} (n : N) {k : K} {p : P}
    (hR : getBox ring o u = some k) (hser : codec.ser { uri := some u, args := a, kwargs := kw } = some p) :
    receive b codec (some ring) o u (sealedMsg (b.lock k n p)) = .decoded a kw := by
  rw [receive_sealed hR, hb.unlock_lock, Option.bind_some, hc _ _ hser]
  exact if_neg (not_not_intro rfl)

/-- publish → EVENT: the handler receives exactly the published args/kwargs -/
theorem event_recovered (b : Box K N P C) (hb : BoxLaws b) (codec : InnerCodec X Y P) (hc : codec.Laws)
    (ringA ringB : KeyRing K) (topic : Uri) (a : Option X) (kw : Option Y) (n : N) (k : K) (p : P)
    (hA : getBox ringA true topic = some k) (hB : getBox ringB false topic = some k)
    (hser : codec.ser { uri := some topic, args := a, kwargs := kw } = some p) :
    ∃ m, originate b codec (some ringA) topic a kw n = .msg m ∧ m.args = none ∧ m.kwargs = none ∧
      onEvent b codec (some ringB) topic m = .invoked a kw true := by
  refine ⟨sealedMsg (b.lock k n p), by simp [originate, encode, hA, hser], rfl, rfl, ?_⟩
  simp [onEvent, receive_sealed_ok hb hc n hB hser]

/-- call → INVOCATION: the endpoint receives exactly the call's args/kwargs -/
theorem invocation_recovered (b : Box K N P C) (hb : BoxLaws b) (codec : InnerCodec X Y P) (hc : codec.Laws)
    (ringA ringB : KeyRing K) (proc : Uri) (a : Option X) (kw : Option Y) (n : N) (k : K) (p : P)
    (hA : getBox ringA true proc = some k) (hB : getBox ringB false proc = some k)
    (hser : codec.ser { uri := some proc, args := a, kwargs := kw } = some p) :
    ∃ m, originate b codec (some ringA) proc a kw n = .msg m ∧ m.args = none ∧ m.kwargs = none ∧
      onInvocation b codec (some ringB) proc m = .invoked a kw true := by
  refine ⟨sealedMsg (b.lock k n p), by simp [originate, encode, hA, hser], rfl, rfl, ?_⟩
  simp [onInvocation, receive_sealed_ok hb hc n hB hser]

/-- YIELD → RESULT: the caller receives exactly the endpoint's result -/
theorem result_recovered (b : Box K N P C) (hb : BoxLaws b) (codec : InnerCodec X Y P) (hc : codec.Laws) (t : Notes X)
    (ringA ringB : KeyRing K) (proc : Uri) (a : Option X) (kw : Option Y) (n : N) (k : K) (p : P)
    (hB : getBox ringB false proc = some k) (hA : getBox ringA true proc = some k)
    (hser : codec.ser { uri := some proc, args := a, kwargs := kw } = some p) :
    ∃ m, yieldReply b codec t (some ringB) true proc a kw n = .yield m ∧
      m.args = none ∧ m.kwargs = none ∧ onResult b codec (some ringA) proc m = .result a kw := by
  refine ⟨sealedMsg (b.lock k n p), by simp [yieldReply, encode, hB, hser], rfl, rfl, ?_⟩
  simp [onResult, receive_sealed_ok hb hc n hA hser]

/-- ERROR → caller: the error's args/kwargs arrive exactly (when a key covers the error URI on both sides), whether or
not the invocation was encrypted -/
theorem error_recovered (b : Box K N P C) (hb : BoxLaws b) (codec : InnerCodec X Y P) (hc : codec.Laws) (t : Notes X)
    (ringA ringB : KeyRing K) (enc : Bool) (eu : Uri) (a : Option X) (kw : Option Y) (n : N) (k : K) (p : P)
    (hB : getBox ringB false eu = some k) (hA : getBox ringA true eu = some k)
    (hser : codec.ser { uri := some eu, args := a, kwargs := kw } = some p) :
    ∃ m, invocationErrorReply b codec t (some ringB) enc eu a kw n = .error eu m ∧ m.args = none ∧ m.kwargs = none ∧
      onError b codec (some ringA) eu m = .appError eu a kw := by
  refine ⟨sealedMsg (b.lock k n p), by simp [invocationErrorReply, errorMsg, encode, hB, hser], rfl, rfl, ?_⟩
  simp [onError, receive_sealed_ok hb hc n hA hser]

/-- non-vacuity: the toy box satisfies the laws -/
theorem toy_laws (K N P : Type) [DecidableEq K] : BoxLaws (Toy.box K N P) where
  unlock_lock := by intro k n p; simp [Toy.box]
  integrity := by
    intro k c p h
    cases c with
    | sealed k' n p' =>
      simp only [Toy.box] at h
      split at h
      · rename_i hk; cases h; exact ⟨n, by subst hk; rfl⟩
      · cases h
    | garbage t => simp [Toy.box] at h
  wrong_key := by intro k k' n p h; simp [Toy.box, Ne.symm h]

theorem toy_codec_laws (X Y : Type) (bad : Option X → Option Y → Bool) : (Toy.codec X Y bad).Laws := by
  intro i p h
  simp only [Toy.codec] at h ⊢
  split at h
  · cases h
  · cases h; rfl

def ringDefault : KeyRing Nat := { keys := [], default := some { originatorBox := some 5, responderBox := some 5 } }

/-- non-vacuity of the recovery theorems: a ring with a matching default key -/
example : originate (Toy.box Nat Nat (Inner Nat Nat)) (Toy.codec Nat Nat (fun _ _ => false)) (some ringDefault)
    "com.a.b".toList (some 1) (some 2) 77 = .msg (sealedMsg (.sealed 5 77 ⟨some "com.a.b".toList, some 1, some 2⟩)) :=
  rfl

example : onEvent (Toy.box Nat Nat (Inner Nat Nat)) (Toy.codec Nat Nat (fun _ _ => false)) (some ringDefault)
    "com.a.b".toList (sealedMsg (.sealed 5 77 ⟨some "com.a.b".toList, some 1, some 2⟩)) = .invoked (some 1) (some 2) true :=
  rfl

/-- what a sealed message looks like: `args`/`kwargs` absent, payload = the ciphertext of the inner envelope -/
theorem sealed_shape (b : Box K N P C) (codec : InnerCodec X Y P) (s : Codec K) (u : Uri) (a : Option X) (kw : Option Y)
    (n : N) (m : AppPayload X Y C) (h : originate b codec s u a kw n = .msg m) (hp : m.payload ≠ none) :
    m.args = none ∧ m.kwargs = none ∧ m.encAlgo = some .cryptobox ∧
    ∃ ring k p, s = some ring ∧ getBox ring true u = some k ∧
      codec.ser { uri := some u, args := a, kwargs := kw } = some p ∧ m.payload = some (b.lock k n p) := by
  unfold originate at h
  cases s with
  | none => simp only [Sent.msg.injEq] at h; subst h; simp [clearMsg] at hp
  | some ring =>
    simp only [encode] at h
    cases hk : getBox ring true u with
    | none => rw [hk] at h; simp only [Sent.msg.injEq] at h; subst h; simp [clearMsg] at hp
    | some k =>
      rw [hk] at h
      cases hs : codec.ser { uri := some u, args := a, kwargs := kw } with
      | none => rw [hs] at h; cases h
      | some p =>
        rw [hs] at h; simp only [Sent.msg.injEq] at h; subst h
        exact ⟨rfl, rfl, rfl, ring, k, p, rfl, hk, rfl, rfl⟩

/-- No clear payload on the wire, as one proposition:
 (1) publish/call to a URI for which the ring holds an originator box never put args/kwargs on the wire;
 (2) the reply of the success path to an encrypted INVOCATION is a sealed YIELD without args/kwargs, or an ERROR whose
     only content is the fixed text — for every payload codec state (key ring present or not, key found or not) and
     every result, serialisable by the inner envelope or not;
 (3) the reply of the error path to an encrypted INVOCATION is a sealed ERROR without args/kwargs, or an ERROR whose
     only content is one of the two fixed texts — likewise for every codec state, ERROR URI and exception payload. -/
def WireHasNoClearPayload (b : Box K N P C) (codec : InnerCodec X Y P) : Prop :=
  (∀ (ring : KeyRing K) u a kw n m, getBox ring true u ≠ none →
      originate b codec (some ring) u a kw n = .msg m → m.args = none ∧ m.kwargs = none) ∧
  (∀ (t : Notes X) (s : Codec K) proc a kw n,
      (∃ c, yieldReply b codec t s true proc a kw n = .yield (sealedMsg c)) ∨
      yieldReply b codec t s true proc a kw n = .error invalidPayloadUri (clearMsg (some t.resultNotEncrypted) none)) ∧
  (∀ (t : Notes X) (s : Codec K) eu a kw n,
      (∃ c, invocationErrorReply b codec t s true eu a kw n = .error eu (sealedMsg c)) ∨
      invocationErrorReply b codec t s true eu a kw n = .error eu (clearMsg (some t.errorArgsNotSent) none) ∨
      invocationErrorReply b codec t s true eu a kw n = .error invalidPayloadUri (clearMsg (some t.errorNotEncodable) none))

/-- part (1), and more: with a box for the URI, publish/call send a message without args/kwargs that carries a
ciphertext, or raise -/
theorem wire_has_no_clear_payload_originator {b : Box K N P C} {codec : InnerCodec X Y P} {ring : KeyRing K} {u : Uri}
    {a : Option X} {kw : Option Y} {n : N} {m : AppPayload X Y C}
    (hk : getBox ring true u ≠ none) (h : originate b codec (some ring) u a kw n = .msg m) :
    m.args = none ∧ m.kwargs = none ∧ m.payload ≠ none := by
  simp only [originate, encode] at h
  cases hg : getBox ring true u with
  | none => exact absurd hg hk
  | some k =>
    rw [hg] at h
    cases hs : codec.ser { uri := some u, args := a, kwargs := kw } with
    | none => rw [hs] at h; cases h
    | some p => rw [hs] at h; simp only [Sent.msg.injEq] at h; subst h; simp [sealedMsg]

/-- part (2): the result of an encrypted invocation leaves sealed or not at all -/
theorem yield_reply_sealed_or_refused (b : Box K N P C) (codec : InnerCodec X Y P) (t : Notes X) (s : Codec K) (proc : Uri)
    (a : Option X) (kw : Option Y) (n : N) :
    (∃ c, yieldReply b codec t s true proc a kw n = .yield (sealedMsg c)) ∨
    yieldReply b codec t s true proc a kw n = .error invalidPayloadUri (clearMsg (some t.resultNotEncrypted) none) := by
  unfold yieldReply
  cases s with
  | none => right; rfl
  | some ring =>
    cases he : encode b codec ring false proc a kw n with
    | sealed c => left; exact ⟨c, by simp [he]⟩
    | clear => right; simp [he]
    | raised => right; simp [he]

/-- part (3): the ERROR answering an encrypted invocation is sealed, or carries a fixed text -/
theorem error_reply_sealed_or_withheld (b : Box K N P C) (codec : InnerCodec X Y P) (t : Notes X) (s : Codec K) (eu : Uri)
    (a : Option X) (kw : Option Y) (n : N) :
    (∃ c, invocationErrorReply b codec t s true eu a kw n = .error eu (sealedMsg c)) ∨
    invocationErrorReply b codec t s true eu a kw n = .error eu (clearMsg (some t.errorArgsNotSent) none) ∨
    invocationErrorReply b codec t s true eu a kw n = .error invalidPayloadUri (clearMsg (some t.errorNotEncodable) none) := by
  unfold invocationErrorReply errorMsg
  cases s with
  | none => right; left; rfl
  | some ring =>
    cases he : encode b codec ring false eu a kw n with
    | sealed c => left; exact ⟨c, by simp [he]⟩
    | clear => right; left; simp [he]
    | raised => right; right; simp [he]

/-- **No clear payload on the wire**, for every box, inner codec, key ring and payload -/
theorem wire_has_no_clear_payload (b : Box K N P C) (codec : InnerCodec X Y P) : WireHasNoClearPayload b codec :=
  ⟨fun ring u a kw n m hk h => by
      have := wire_has_no_clear_payload_originator hk h
      exact ⟨this.1, this.2.1⟩,
   fun t s proc a kw n => yield_reply_sealed_or_refused b codec t s proc a kw n,
   fun t s eu a kw n => error_reply_sealed_or_withheld b codec t s eu a kw n⟩

/-- in the vocabulary of the message fields: what an encrypted invocation is answered with has no `kwargs`, and its
`args` are absent (then a ciphertext is present) or one of the three fixed texts — which are parameters of the reply
functions, not functions of the result / exception payload -/
theorem reply_fields_carry_no_payload (b : Box K N P C) (codec : InnerCodec X Y P) (t : Notes X) (s : Codec K) (u : Uri)
    (a : Option X) (kw : Option Y) (n : N) (r : Reply X Y C)
    (hr : r = yieldReply b codec t s true u a kw n ∨ r = invocationErrorReply b codec t s true u a kw n) :
    r.msg.kwargs = none ∧
    ((r.msg.args = none ∧ r.msg.payload ≠ none) ∨
     (r.msg.payload = none ∧ (r.msg.args = some t.resultNotEncrypted ∨ r.msg.args = some t.errorArgsNotSent ∨
        r.msg.args = some t.errorNotEncodable))) := by
  rcases hr with hr | hr
  · rcases yield_reply_sealed_or_refused b codec t s u a kw n with ⟨c, h⟩ | h <;> rw [hr, h] <;>
      simp [Reply.msg, sealedMsg, clearMsg]
  · rcases error_reply_sealed_or_withheld b codec t s u a kw n with ⟨c, h⟩ | h | h <;> rw [hr, h] <;>
      simp [Reply.msg, sealedMsg, clearMsg]

/-- the error path always produces an ERROR (the last-resort reply when `_message_from_exception` raises) -/
theorem error_reply_always_sent (b : Box K N P C) (codec : InnerCodec X Y P) (t : Notes X) (s : Codec K) (enc : Bool)
    (eu : Uri) (a : Option X) (kw : Option Y) (n : N) :
    ∃ u m, invocationErrorReply b codec t s enc eu a kw n = .error u m ∧
      (u = eu ∨ (u = invalidPayloadUri ∧ errorMsg b codec t s enc eu a kw n = .raised)) := by
  unfold invocationErrorReply
  cases h : errorMsg b codec t s enc eu a kw n with
  | msg m => exact ⟨eu, m, rfl, Or.inl rfl⟩
  | raised => exact ⟨invalidPayloadUri, _, rfl, Or.inr ⟨rfl, rfl⟩⟩

/-- an invocation that was not encrypted is answered as if there were no encryption: plain YIELD; ERROR keyed by the error URI,
clear with the exception's arguments when no key covers it -/
theorem unencrypted_invocation_unchanged (b : Box K N P C) (codec : InnerCodec X Y P) (t : Notes X) (s : Codec K) (u : Uri)
    (a : Option X) (kw : Option Y) (n : N) :
    yieldReply b codec t s false u a kw n = .yield (clearMsg a kw) ∧
    (s = none → invocationErrorReply b codec t s false u a kw n = .error u (clearMsg a kw)) ∧
    (∀ ring, s = some ring → getBox ring false u = none →
        invocationErrorReply b codec t s false u a kw n = .error u (clearMsg a kw)) := by
  refine ⟨by simp [yieldReply], fun h => by subst h; rfl, fun ring h hk => ?_⟩
  subst h
  simp [invocationErrorReply, errorMsg, encode, hk]

/-- when a key covers the URI used for the lookup and the inner envelope can hold the payload, both replies are the
sealed ones -/
theorem reply_sealed_when_encodable (b : Box K N P C) (codec : InnerCodec X Y P) (t : Notes X) (ring : KeyRing K)
    (enc : Bool) (u : Uri) (a : Option X) (kw : Option Y) (n : N) (k : K) (p : P)
    (hk : getBox ring false u = some k)
    (hser : codec.ser { uri := some u, args := a, kwargs := kw } = some p) :
    yieldReply b codec t (some ring) true u a kw n = .yield (sealedMsg (b.lock k n p)) ∧
    invocationErrorReply b codec t (some ring) enc u a kw n = .error u (sealedMsg (b.lock k n p)) := by
  simp [yieldReply, invocationErrorReply, errorMsg, encode, hk, hser]

/-- an ERROR that stands in for a result / for an exception's arguments reaches the caller as a failed call carrying
the fixed text (as the generic application error or as the class mapped to the URI — `wamp.error.invalid_payload` is
mapped to `SerializationError` by default): the call never resolves, and never with something other than that text -/
theorem refusal_fails_the_call (b : Box K N P C) (codec : InnerCodec X Y P) (sA : Codec K) (mapped : Uri → Option String)
    (ctorOk : String → Option X → Option Y → Bool) (u : Uri) (x : X) :
    onErrorMapped b codec sA mapped ctorOk u (clearMsg (some x) none) = .appError u (some x) none ∨
    ∃ c, onErrorMapped b codec sA mapped ctorOk u (clearMsg (some x) none) = .userError c (some x) none := by
  simp only [onErrorMapped, receive, clearMsg]
  cases mapped u with
  | none => left; rfl
  | some c =>
    simp only
    split
    · right; exact ⟨c, rfl⟩
    · left; rfl

/-- per-prefix key ring: one key for `com.secret`, no default -/
def ringPrefix : KeyRing Nat :=
  { keys := [("com.secret".toList, { originatorBox := some 5, responderBox := some 5 })], default := none }

def toyNotes : Notes Nat := { resultNotEncrypted := 100, errorArgsNotSent := 101, errorNotEncodable := 102 }

/-- regression input: the endpoint's result (13) cannot be serialised by the inner codec → an ERROR with the fixed
text, the 13 is nowhere in it -/
example : yieldReply (Toy.box Nat Nat (Inner Nat Nat)) (Toy.codec Nat Nat (fun a _ => a == some 13)) toyNotes
    (some ringPrefix) true "com.secret.proc".toList (some 13) none 0 =
    .error invalidPayloadUri (clearMsg (some 100) none) := rfl

/-- regression input: the ERROR URI `wamp.error.runtime_error` is not under `com.secret` → the ERROR URI with the
fixed text, the 42 is nowhere in it; for an invocation that was not encrypted the same exception travels with its
arguments -/
example : invocationErrorReply (Toy.box Nat Nat (Inner Nat Nat)) (Toy.codec Nat Nat (fun _ _ => false)) toyNotes
    (some ringPrefix) true "wamp.error.runtime_error".toList (some 42) none 0 =
    .error "wamp.error.runtime_error".toList (clearMsg (some 101) none) := rfl

example : invocationErrorReply (Toy.box Nat Nat (Inner Nat Nat)) (Toy.codec Nat Nat (fun _ _ => false)) toyNotes
    (some ringPrefix) false "wamp.error.runtime_error".toList (some 42) none 0 =
    .error "wamp.error.runtime_error".toList (clearMsg (some 42) none) := rfl

/-- regression input (harness case `error-path:encode-raises:no-reply`): a covered ERROR URI, arguments the inner
codec cannot serialise → the last-resort ERROR -/
example : invocationErrorReply (Toy.box Nat Nat (Inner Nat Nat)) (Toy.codec Nat Nat (fun a _ => a == some 13)) toyNotes
    (some ringPrefix) true "com.secret.error.bad".toList (some 13) none 0 =
    .error invalidPayloadUri (clearMsg (some 102) none) := rfl

/-- non-vacuity of `reply_sealed_when_encodable`: the same ring, an ERROR URI under the prefix -/
example : getBox ringPrefix false "com.secret.error.bad".toList = some 5 := rfl

/-- A payload that is not a ciphertext sealed under the receiver's key for this lookup (any alteration of nonce, tag or
body — by ciphertext integrity) is rejected with `ENC_DECRYPT_ERROR`; so is any payload when the receiver has no key. -/
theorem tamper_rejected (b : Box K N P C) (hb : BoxLaws b) (codec : InnerCodec X Y P) (ring : KeyRing K) (o : Bool)
    (env : Uri) (m : AppPayload X Y C) (halgo : m.encAlgo ≠ none)
    (hforged : ∀ k c, getBox ring o env = some k → m.payload = some c → ∀ n p, c ≠ b.lock k n p) :
    receive b codec (some ring) o env m = .rejected .decryptError := by
  unfold receive
  cases ha : m.encAlgo with
  | none => exact absurd ha halgo
  | some al =>
    simp only
    cases hd : decode b codec ring o env m with
    | raised => rfl
    | ok iu ia ik =>
      obtain ⟨k, c, p, hk, hp, hu, _⟩ := decode_ok hd
      obtain ⟨n, hn⟩ := hb.integrity k c p hu
      exact absurd hn (hforged k c hk hp n p)

/-- consequences at the four receiving branches -/
theorem tamper_rejected_branches (b : Box K N P C) (hb : BoxLaws b) (codec : InnerCodec X Y P) (ring : KeyRing K)
    (env : Uri) (m : AppPayload X Y C) (halgo : m.encAlgo ≠ none) :
    ((∀ k c, getBox ring false env = some k → m.payload = some c → ∀ n p, c ≠ b.lock k n p) →
        onEvent b codec (some ring) env m = .ignored .decryptError ∧
        onInvocation b codec (some ring) env m = .encError .decryptError) ∧
    ((∀ k c, getBox ring true env = some k → m.payload = some c → ∀ n p, c ≠ b.lock k n p) →
        onResult b codec (some ring) env m = .encFailed .decryptError ∧
        onError b codec (some ring) env m = .encFailed .decryptError) := by
  refine ⟨fun h => ?_, fun h => ?_⟩
  · have := tamper_rejected b hb codec ring false env m halgo h
    simp [onEvent, onInvocation, this]
  · have := tamper_rejected b hb codec ring true env m halgo h
    simp [onResult, onError, this]

/-- non-vacuity: a garbage ciphertext is not sealed under any key -/
example : ∀ (k : Nat) (n : Nat) (p : Inner Nat Nat), (Toy.Ct.garbage 3 : Toy.Ct Nat Nat (Inner Nat Nat)) ≠
    (Toy.box Nat Nat (Inner Nat Nat)).lock k n p := by
  intro k n p h; cases h

/-- a genuine ciphertext whose inner URI differs from the envelope URI is rejected with `ENC_TRUSTED_URI_MISMATCH` -/
theorem uri_mismatch_rejected (b : Box K N P C) (hb : BoxLaws b) (codec : InnerCodec X Y P) (hc : codec.Laws)
    (ring : KeyRing K) (o : Bool) (env : Uri) (k : K) (n : N) (i : Inner X Y) (p : P)
    (hk : getBox ring o env = some k) (hser : codec.ser i = some p) (hne : i.uri ≠ some env) :
    receive b codec (some ring) o env (sealedMsg (b.lock k n p)) = .rejected .trustedUriMismatch := by
  rw [receive_sealed hk, hb.unlock_lock, Option.bind_some, hc _ _ hser]
  exact if_pos hne

/-- in particular: a payload encoded for URI `u'` delivered under envelope `u ≠ u'` (swapped envelopes, same key) -/
theorem swapped_envelope_rejected (b : Box K N P C) (hb : BoxLaws b) (codec : InnerCodec X Y P) (hc : codec.Laws)
    (ringS ringR : KeyRing K) (o : Bool) (u u' : Uri) (a : Option X) (kw : Option Y) (n : N) (k : K) (c : C)
    (hS : getBox ringS o u' = some k) (hR : getBox ringR (!o) u = some k) (hne : u' ≠ u)
    (henc : encode b codec ringS o u' a kw n = .sealed c) :
    receive b codec (some ringR) (!o) u (sealedMsg c) = .rejected .trustedUriMismatch := by
  simp only [encode, hS] at henc
  cases hs : codec.ser { uri := some u', args := a, kwargs := kw } with
  | none => rw [hs] at henc; cases henc
  | some p =>
    rw [hs] at henc; simp only [Enc.sealed.injEq] at henc; subst henc
    exact uri_mismatch_rejected b hb codec hc ringR (!o) u k n _ p hR hs (by simp [hne])

/-- a ciphertext sealed under another key is rejected with `ENC_DECRYPT_ERROR` -/
theorem wrong_key_rejected (b : Box K N P C) (hb : BoxLaws b) (codec : InnerCodec X Y P) (ring : KeyRing K) (o : Bool)
    (env : Uri) (k k' : K) (n : N) (p : P) (hk : getBox ring o env = some k') (hne : k' ≠ k) :
    receive b codec (some ring) o env (sealedMsg (b.lock k n p)) = .rejected .decryptError := by
  rw [receive_sealed hk, hb.wrong_key k k' n p hne]
  rfl

/-- no key for the lookup (e.g. an originator-only key used by a responder): rejected; no codec at all:
`ENC_NO_PAYLOAD_CODEC` -/
theorem no_key_rejected (b : Box K N P C) (codec : InnerCodec X Y P) (ring : KeyRing K) (o : Bool) (env : Uri)
    (m : AppPayload X Y C) (halgo : m.encAlgo ≠ none) (hk : getBox ring o env = none) :
    receive b codec (some ring) o env m = .rejected .decryptError ∧
    receive b codec none o env m = .rejected .noPayloadCodec := by
  cases ha : m.encAlgo with
  | none => exact absurd ha halgo
  | some al =>
    refine ⟨?_, by simp [receive, ha]⟩
    have hd : decode b codec ring o env m = .raised := by
      unfold decode; split
      · rfl
      · simp [hk]
    simp [receive, ha, hd]

/-- non-vacuity of the three rejection theorems on the toy box: inner URI ≠ envelope; key 6 ≠ 5; no key; no codec -/
example : receive (Toy.box Nat Nat (Inner Nat Nat)) (Toy.codec Nat Nat (fun _ _ => false)) (some ringDefault) false
    "com.x".toList (sealedMsg (.sealed 5 1 ⟨some "com.y".toList, some 1, none⟩)) = .rejected .trustedUriMismatch := rfl

example : receive (Toy.box Nat Nat (Inner Nat Nat)) (Toy.codec Nat Nat (fun _ _ => false)) (some ringDefault) false
    "com.x".toList (sealedMsg (.sealed 6 1 ⟨some "com.x".toList, some 1, none⟩)) = .rejected .decryptError := rfl

example : receive (Toy.box Nat Nat (Inner Nat Nat)) (Toy.codec Nat Nat (fun _ _ => false)) (some ringPrefix) false
    "com.public.x".toList (sealedMsg (.sealed 5 1 ⟨some "com.public.x".toList, some 1, none⟩)) = .rejected .decryptError := rfl

example : receive (Toy.box Nat Nat (Inner Nat Nat)) (Toy.codec Nat Nat (fun _ _ => false)) none false
    "com.x".toList (sealedMsg (.sealed 5 1 ⟨some "com.x".toList, some 1, none⟩)) = .rejected .noPayloadCodec := rfl

/-- Safety, all inputs: whenever a handler / endpoint / pending call is given a *decoded* payload, that payload is the
content of a ciphertext sealed under the receiver's key for this envelope URI, and its inner URI is the envelope's.
(An altered payload is never delivered.) -/
theorem invoked_only_authentic {b : Box K N P C} (hb : BoxLaws b) {codec : InnerCodec X Y P} {s : Codec K} {o : Bool}
    {env : Uri} {m : AppPayload X Y C} {a : Option X} {kw : Option Y}
    (h : receive b codec s o env m = .decoded a kw) :
    ∃ ring k c n p, s = some ring ∧ getBox ring o env = some k ∧ m.payload = some c ∧ c = b.lock k n p ∧
      codec.deser p = some { uri := some env, args := a, kwargs := kw } := by
  unfold receive at h
  split at h
  · cases h
  · split at h
    · cases h
    · next ring =>
      split at h
      · cases h
      · next iu ia ik hd =>
        split at h
        · cases h
        · next hi =>
          cases h
          obtain ⟨k, c, p, hk, hp, hu, hdes⟩ := decode_ok hd
          obtain ⟨n, hn⟩ := hb.integrity k c p hu
          exact ⟨ring, k, c, n, p, rfl, hk, hp, hn, by rw [hdes, Decidable.not_not.mp hi]⟩

/-! ### the ERROR branch with a caller-side URI → class registry (mapped error URIs) -/

theorem onError_eq_unmapped (b : Box K N P C) (codec : InnerCodec X Y P) (s : Codec K)
    (ctorOk : String → Option X → Option Y → Bool) (eu : Uri) (m : AppPayload X Y C) :
    onErrorMapped b codec s (fun _ => none) ctorOk eu m = onError b codec s eu m := by
  unfold onErrorMapped onError; cases receive b codec s true eu m <;> rfl

/-- whatever the caller registered for the envelope error URI and whatever its constructor accepts: a rejected
payload surfaces as the explicit encryption error, never as the mapped class -/
theorem rejected_is_enc_error_mapped {b : Box K N P C} {codec : InnerCodec X Y P} {s : Codec K}
    (mapped : Uri → Option String) (ctorOk : String → Option X → Option Y → Bool) {eu : Uri} {m : AppPayload X Y C}
    {e : EncErr} (h : receive b codec s true eu m = .rejected e) :
    onErrorMapped b codec s mapped ctorOk eu m = .encFailed e := by
  simp [onErrorMapped, h]

theorem tamper_rejected_mapped (b : Box K N P C) (hb : BoxLaws b) (codec : InnerCodec X Y P) (ring : KeyRing K)
    (mapped : Uri → Option String) (ctorOk : String → Option X → Option Y → Bool)
    (env : Uri) (m : AppPayload X Y C) (halgo : m.encAlgo ≠ none)
    (hforged : ∀ k c, getBox ring true env = some k → m.payload = some c → ∀ n p, c ≠ b.lock k n p) :
    onErrorMapped b codec (some ring) mapped ctorOk env m = .encFailed .decryptError :=
  rejected_is_enc_error_mapped mapped ctorOk (tamper_rejected b hb codec ring true env m halgo hforged)

theorem uri_mismatch_rejected_mapped (b : Box K N P C) (hb : BoxLaws b) (codec : InnerCodec X Y P) (hc : codec.Laws)
    (ring : KeyRing K) (mapped : Uri → Option String) (ctorOk : String → Option X → Option Y → Bool)
    (env : Uri) (k : K) (n : N) (i : Inner X Y) (p : P)
    (hk : getBox ring true env = some k) (hser : codec.ser i = some p) (hne : i.uri ≠ some env) :
    onErrorMapped b codec (some ring) mapped ctorOk env (sealedMsg (b.lock k n p)) = .encFailed .trustedUriMismatch :=
  rejected_is_enc_error_mapped mapped ctorOk (uri_mismatch_rejected b hb codec hc ring true env k n i p hk hser hne)

theorem wrong_key_rejected_mapped (b : Box K N P C) (hb : BoxLaws b) (codec : InnerCodec X Y P) (ring : KeyRing K)
    (mapped : Uri → Option String) (ctorOk : String → Option X → Option Y → Bool)
    (env : Uri) (k k' : K) (n : N) (p : P) (hk : getBox ring true env = some k') (hne : k' ≠ k) :
    onErrorMapped b codec (some ring) mapped ctorOk env (sealedMsg (b.lock k n p)) = .encFailed .decryptError :=
  rejected_is_enc_error_mapped mapped ctorOk (wrong_key_rejected b hb codec ring true env k k' n p hk hne)

/-- conversely the mapped class is only ever built from an authentic payload sealed for this very error URI (or from a
clear ERROR) -/
theorem mapped_class_only_authentic (b : Box K N P C) (hb : BoxLaws b) (codec : InnerCodec X Y P) (s : Codec K)
    (mapped : Uri → Option String) (ctorOk : String → Option X → Option Y → Bool) (eu : Uri) (m : AppPayload X Y C)
    (c : String) (a : Option X) (kw : Option Y)
    (h : onErrorMapped b codec s mapped ctorOk eu m = .userError c a kw) (henc : m.encAlgo ≠ none) :
    mapped eu = some c ∧ ∃ ring k ct n p, s = some ring ∧ getBox ring true eu = some k ∧ m.payload = some ct ∧
      ct = b.lock k n p ∧ codec.deser p = some { uri := some eu, args := a, kwargs := kw } := by
  unfold onErrorMapped at h
  cases hr : receive b codec s true eu m with
  | rejected e => rw [hr] at h; cases h
  | plain a' kw' =>
    exact absurd (receive_plain hr) henc
  | decoded a' kw' =>
    rw [hr] at h; simp only at h
    cases hm : mapped eu with
    | none => rw [hm] at h; cases h
    | some c' =>
      rw [hm] at h; simp only at h
      split at h
      · simp only [CallOut.userError.injEq] at h
        obtain ⟨h1, h2, h3⟩ := h
        subst h1 h2 h3
        exact ⟨rfl, invoked_only_authentic hb hr⟩
      · cases h

/-- non-vacuity: mapped URI, garbage payload → explicit encryption error; genuine payload → the mapped class -/
example : onErrorMapped (Toy.box Nat Nat (Inner Nat Nat)) (Toy.codec Nat Nat (fun _ _ => false)) (some ringDefault)
    (fun _ => some "MyError") (fun _ _ _ => true) "com.err".toList (sealedMsg (.garbage 1)) = .encFailed .decryptError :=
  rfl

example : onErrorMapped (Toy.box Nat Nat (Inner Nat Nat)) (Toy.codec Nat Nat (fun _ _ => false)) (some ringDefault)
    (fun _ => some "MyError") (fun _ _ _ => true) "com.err".toList
    (sealedMsg (.sealed 5 1 ⟨some "com.err".toList, some 1, none⟩)) = .userError "MyError" (some 1) none :=
  rfl

/-- What the laws do NOT give (noted, not part of the property): a ciphertext is accepted from whoever holds the
shared key, in either direction — the CALL's own ciphertext reflected as RESULT payload is accepted by the caller,
because `Box(a_priv, b_pub)` and `Box(b_priv, a_pub)` are the same key and the inner envelope has no direction. -/
example : onResult (Toy.box Nat Nat (Inner Nat Nat)) (Toy.codec Nat Nat (fun _ _ => false)) (some ringDefault)
    "com.a.b".toList (sealedMsg (.sealed 5 77 ⟨some "com.a.b".toList, some 1, some 2⟩)) = .result (some 1) (some 2) :=
  rfl

/-- `StringTrie.longest_prefix_value`: the entry found is a registered prefix of the URI, and no registered prefix of
the URI is longer; nothing is found only when no registered prefix matches -/
theorem longestPrefix_spec {A : Type} (keys : List (Uri × A)) (u : Uri) :
    match longestPrefix keys u with
    | some best => best ∈ keys ∧ best.1 <+: u ∧ ∀ x ∈ keys, x.1 <+: u → x.1.length ≤ best.1.length
    | none => ∀ x ∈ keys, ¬ x.1 <+: u := by
  induction keys with
  | nil => simp [longestPrefix]
  | cons hd r ih =>
    obtain ⟨p, a⟩ := hd
    simp only [longestPrefix, List.forall_mem_cons]
    cases hr : longestPrefix r u with
    | none =>
      rw [hr] at ih; simp only at ih ⊢
      by_cases hp : p.isPrefixOf u = true
      · rw [if_pos hp]
        exact ⟨by simp, List.isPrefixOf_iff_prefix.mp hp, fun _ => Nat.le_refl _, fun x h hxu => absurd hxu (ih x h)⟩
      · rw [if_neg hp]
        exact ⟨fun hpu => hp (List.isPrefixOf_iff_prefix.mpr hpu), ih⟩
    | some best =>
      rw [hr] at ih; simp only at ih ⊢
      obtain ⟨hmem, hpre, hmax⟩ := ih
      by_cases hc : p.isPrefixOf u = true ∧ best.1.length < p.length
      · rw [if_pos hc]
        exact ⟨by simp, List.isPrefixOf_iff_prefix.mp hc.1, fun _ => Nat.le_refl _,
          fun x h hxu => Nat.le_trans (hmax x h hxu) (Nat.le_of_lt hc.2)⟩
      · rw [if_neg hc]
        exact ⟨by simp [hmem], hpre,
          fun hpu => Nat.le_of_not_lt fun hlt => hc ⟨List.isPrefixOf_iff_prefix.mpr hpu, hlt⟩, hmax⟩

theorem prefix_unique (p q u : Uri) (hp : p <+: u) (hq : q <+: u) (hl : p.length = q.length) : p = q := by
  obtain ⟨s, hs⟩ := hp
  obtain ⟨t, ht⟩ := hq
  have := List.append_inj (hs.trans ht.symm) hl
  exact this.1

/-- Which key a URI selects: the key registered for the LONGEST registered prefix of the URI; the default key only if
no registered prefix matches; the originator / responder box of that key according to the role — and nothing else
(a matching key without a box for the role gives `none`, it does not fall back to the default key). -/
theorem longest_prefix_key (ring : KeyRing K) (o : Bool) (u : Uri) :
    (∀ p key, longestPrefix ring.keys u = some (p, key) →
        (p, key) ∈ ring.keys ∧ p <+: u ∧
        (∀ q kq, (q, kq) ∈ ring.keys → q <+: u → q.length ≤ p.length) ∧
        getBox ring o u = if o then key.originatorBox else key.responderBox) ∧
    (longestPrefix ring.keys u = none →
        (∀ q kq, (q, kq) ∈ ring.keys → ¬ q <+: u) ∧
        getBox ring o u = match ring.default with
          | some key => if o then key.originatorBox else key.responderBox
          | none => none) := by
  have hs := longestPrefix_spec ring.keys u
  refine ⟨fun p key h => ?_, fun h => ?_⟩
  · rw [h] at hs; simp only at hs
    refine ⟨hs.1, hs.2.1, fun q kq h => hs.2.2 (q, kq) h, ?_⟩
    simp [getBox, h]
  · rw [h] at hs; simp only at hs
    refine ⟨fun q kq h => hs (q, kq) h, ?_⟩
    simp only [getBox, h]
    cases ring.default <;> simp

def ringLayers : KeyRing Nat :=
  { keys := [("com.secret".toList, { originatorBox := some 1, responderBox := some 1 }),
             ("com.secret.deep".toList, { originatorBox := some 2, responderBox := none })],
    default := some { originatorBox := some 9, responderBox := some 9 } }

/-- non-vacuity: `com.secret.deep.x` selects the deeper key, `com.secretive` the shallower one (character prefix),
`com.public` the default -/
example : getBox ringLayers true "com.secret.deep.x".toList = some 2 ∧
    getBox ringLayers false "com.secret.deep.x".toList = none ∧
    getBox ringLayers true "com.secretive".toList = some 1 ∧
    getBox ringLayers false "com.public".toList = some 9 := ⟨rfl, rfl, rfl, rfl⟩

end Abverif.Cryptobox

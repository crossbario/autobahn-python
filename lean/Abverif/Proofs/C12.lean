import Abverif.Model.Pmce
import Abverif.Proofs.Lemmas.PmceData
import Abverif.Proofs.Lemmas.PmceHeader
/-
C12 — per-message compression is lossless and negotiated soundly: the property theorems for permessage-deflate.
In this order: the render → parse round trips and the negotiation of one offer, for every object that passes its
constructor guard (window bits 0 or in the generated table); the client's handshake in closed form and what makes it
fail (`client_rejects_bad_response`, with the `entry_*` readings of `Response.entryOk`); the RSV1 rules of the frame
header; the data path, relative to the codec contract `Codec.Lawful` (H1/H2, hypotheses: Proofs/Lemmas/PmceData.lean,
which also gives a lawful instance). permessage-bzip2 and permessage-brotli (round trips at every point of their
lattices, the level and context-takeover facts) are in Proofs/C12Codecs.lean, the two whole handshakes in
Proofs/C12Handshake.lean.
-/
namespace Abverif.Pmce
open Abverif.DeflateConsts

theorem winOk_iff (n : Nat) : winOk n = true ↔ n ∈ windowSizePermissible := by
  simp [winOk]

/-- "every window size 9–15", "out-of-range parameters": the permissible set is exactly 9..15 -/
theorem window_range (n : Nat) : winOk n = true ↔ 9 ≤ n ∧ n ≤ 15 := by
  rw [winOk_iff]; simp [windowSizePermissible]; omega

theorem window_le_default : ∀ w ∈ windowSizePermissible, 0 < w ∧ w ≤ defaultWindowBits := by decide

/-- the default (parameter absent, `0 ↦ 15`) is the largest window: an end that knows nothing more can
inflate whatever a guard-passing peer deflates -/
theorem default_window_is_max (n : Nat) (h : winOk n = true) : n ≤ defaultWindowBits :=
  (window_le_default n ((winOk_iff n).1 h)).2

/-- `int(True) == 1` is not a window size, so a valueless `*_max_window_bits` is rejected where an integer
is required -/
theorem one_not_permissible : intInV windowSizePermissible none = none := by decide

/-! ### round trips over the whole lattice

A rendered offer or response is `permessage-deflate` followed by up to four items, so by
`parseExtensionsHeader_render` the header parser returns them as one entry; `Offer.parse` / `Response.parse` then
read one field from each item. The two `parse_header` follow the render piece by piece (`Reads`). -/

theorem window_table : SmallTable windowSizePermissible := by decide

/-- `h` is how both constructors check a requested window: all of `Offer.guard` (so `h : o.guard = true` fits as it
stands), and the second check of `OfferAccept.guard` -/
theorem mem_winVals {w : Nat} (h : (w == 0 || winOk w) = true) : w ∈ winVals := by
  simpa [winVals, winOk] using h

/-- the permessage-deflate parameter names, in the order a response lists them -/
theorem deflate_keys : Keys [sServerNct, sServerMwb, sClientNct, sClientMwb] := by decide +kernel

theorem offer_keys : Keys [sClientNct, sClientMwb, sServerNct, sServerMwb] :=
  deflate_keys.perm (List.perm_append_comm (l₁ := [sServerNct, sServerMwb]))

/-- each parameter name differs from those `parseStep` tests before it (`client_max_window_bits`,
`client_no_context_takeover`, `server_max_window_bits`, `server_no_context_takeover`, in this order) -/
theorem keys_distinct : (sServerNct ≠ sServerMwb ∧ sServerNct ≠ sClientNct ∧ sServerNct ≠ sClientMwb)
    ∧ (sServerMwb ≠ sClientNct ∧ sServerMwb ≠ sClientMwb) ∧ sClientNct ≠ sClientMwb := by
  simpa [List.nodup_cons, not_or] using deflate_keys.1

theorem Offer.parse_header (o : Offer) (h : o.guard = true) :
    ∃ ps, parseExtensionsHeader o.render = [(extensionName, ps)] ∧ Offer.parse ps = some o.normalize := by
  -- `accept_no_context_takeover` is the field the parser starts at `True` and the flag can only confirm: its setter
  -- ignores the flag, and that is where `normalize` comes from
  obtain ⟨ps, h1, h2⟩ := Reads.nil (f := Offer.parseStep)
    |>.flag (fun _ => Offer.mk true false false 0) (by simp [Offer.parseStep, keys_distinct]) o.acceptNct
    |>.flag (fun b => Offer.mk true b false 0) (by simp [Offer.parseStep]) o.acceptMwb
    |>.flag (fun b => Offer.mk true o.acceptMwb b 0) (by simp [Offer.parseStep, keys_distinct]) o.reqNct
    |>.kv window_table (fun n => Offer.mk true o.acceptMwb o.reqNct n)
      (fun v => by simp [Offer.parseStep, keys_distinct]) (mem_winVals h)
    |>.parses extension_names.1 offer_keys
  -- `Offer.parse` ends by the guard of what it has read; that guard looks at `reqMwb` only, so it is `o.guard`
  exact ⟨ps, h1, by rw [Offer.parse, h2]; exact if_pos (c := o.normalize.guard = true) h⟩

/-- **round trip, offers (whole lattice).** The three transmitted fields survive render → header parser →
`Offer.parse` exactly; the fourth comes back as the parser's default. -/
theorem parse_render_offer (o : Offer) (h : o.guard = true) : o.reparse = some o.normalize := by
  obtain ⟨ps, h1, h2⟩ := o.parse_header h
  rw [Offer.reparse, h1]
  simpa [findDeflate] using h2

/-- literal round trip `parse (render o) = o`: holds for the offers that accept no-context-takeover … -/
theorem parse_render_offer_partial (o : Offer) (h : o.guard = true) (hn : o.acceptNct = true) :
    o.reparse = some o := by
  rw [parse_render_offer o h]; cases o; simp_all [Offer.normalize]

/-- … and fails for the others (the flag has no wire representation when false; RFC 7692 §7.1.1.2 lets a
server send `client_no_context_takeover` regardless, so this is not a defect). -/
theorem parse_render_offer_literal_fails :
    ∃ o : Offer, o.guard = true ∧ o.reparse ≠ some o :=
  ⟨⟨false, false, false, 0⟩, rfl, by rw [parse_render_offer _ rfl]; decide⟩

theorem OfferAccept.parse_header (a : OfferAccept) (ho : a.offer.guard = true) (ha : a.guard = true) :
    ∃ rps, parseExtensionsHeader a.render = [(extensionName, rps)] ∧ Response.parse rps = some a.response := by
  simp only [OfferAccept.guard, Bool.and_eq_true, and_assoc] at ha
  obtain ⟨-, reqMwb, -⟩ := ha
  exact Reads.nil
    |>.flag (fun b => Response.mk 0 false 0 b) (by simp [Response.parseStep, keys_distinct]) _
    |>.kv window_table (fun n => Response.mk 0 false n a.offer.reqNct)
      (fun v => by simp [Response.parseStep, keys_distinct]) (mem_winVals ho)
    |>.flag (fun b => Response.mk 0 b a.offer.reqMwb a.offer.reqNct) (by simp [Response.parseStep, keys_distinct]) _
    |>.kv window_table (fun n => Response.mk n a.reqNct a.offer.reqMwb a.offer.reqNct)
      (fun v => by simp [Response.parseStep]) (mem_winVals reqMwb)
    |>.parses extension_names.1 deflate_keys

/-- **round trip, responses (whole lattice).** For every guard-passing accept of every guard-passing offer the
client's parser recovers exactly the four parameters the server rendered. -/
theorem parse_render_response (a : OfferAccept) (ho : a.offer.guard = true) (ha : a.guard = true) :
    a.reparse = some a.response := by
  obtain ⟨rps, h1, h2⟩ := a.parse_header ho ha
  rw [OfferAccept.reparse, h1]
  simpa [findDeflate] using h2

/-! ### the negotiation of one offer -/

theorem negotiate_eq (o : Offer) (x : AcceptArgs) (y : RAcceptArgs) :
    negotiate o x y =
      if o.guard = true ∧ (x.on o.normalize).guard = true ∧ (y.on (x.on o.normalize).response).guard = true then
        some ⟨o.render, (x.on o.normalize).render, Pmce.fromOfferAccept true (x.on o.normalize),
              Pmce.fromResponseAccept false (y.on (x.on o.normalize).response)⟩
      else none := by
  unfold negotiate
  by_cases ho : o.guard = true
  · obtain ⟨ps, ho1, ho2⟩ := o.parse_header ho
    by_cases ha : (x.on o.normalize).guard = true
    · obtain ⟨rps, h1, h2⟩ := (x.on o.normalize).parse_header ho ha
      cases hy : (y.on (x.on o.normalize).response).guard <;>
        simp [ho, ha, hy, ho1, ho2, findDeflate, h1, h2]
    · simp [ho, ha, ho1, ho2, findDeflate]
  · simp [ho]

theorem OfferAccept.response_permitted (a : OfferAccept) (ha : a.guard = true) : permittedBy a.offer a.response := by
  obtain ⟨⟨oa, ob, oc, ow⟩, rn, rw, n, w, m⟩ := a
  simp only [OfferAccept.guard, Bool.and_eq_true, and_assoc, Bool.or_eq_true, Bool.not_eq_true', beq_iff_eq,
    Bool.and_eq_false_imp, bne_iff_ne, Bool.not_eq_false'] at ha
  obtain ⟨-, reqMwb, acceptMwb, -⟩ := ha
  -- only `client_max_window_bits` needs the guard: it is permissible, and sent only if the offer carried it
  exact ⟨Iff.rfl, fun _ => Nat.le_refl _, fun h => h, fun h => ⟨acceptMwb h, reqMwb.resolve_left h⟩⟩

/-- **the server's answer contains only parameters compatible with the client's offer** — for every offer,
every accept the constructor lets through; the response is the one the client parses from the rendered header
(`parse_render_response`). -/
theorem response_subset_of_offer (o : Offer) (x : AcceptArgs) (_ho : o.guard = true)
    (ha : (x.on o.normalize).guard = true) :
    (x.on o.normalize).reparse = some (x.on o.normalize).response
    ∧ permittedBy o (x.on o.normalize).response :=
  ⟨parse_render_response _ _ho ha, OfferAccept.response_permitted _ ha⟩

/-- Each accept constructor has checked its own overrides against what the response says, and compatibility needs no
more: the server's guard gives the server→client direction, the client's the other. For every accept that passes,
whether or not it came from a rendered and re-parsed offer; `negotiation_compatible` and `handshake_compatible` are this
at the objects the two ends build. -/
theorem compat_core (a : OfferAccept) (y : RAcceptArgs) (ha : a.guard = true)
    (hy : (y.on a.response).guard = true) :
    dirCompatible (Pmce.fromOfferAccept true a) (Pmce.fromResponseAccept false (y.on a.response))
    ∧ dirCompatible (Pmce.fromResponseAccept false (y.on a.response)) (Pmce.fromOfferAccept true a) := by
  simp only [OfferAccept.guard, ResponseAccept.guard, Bool.and_eq_true, and_assoc] at ha hy
  obtain ⟨-, -, -, nct, wbits, -⟩ := ha
  obtain ⟨nct', wbits', -⟩ := hy
  exact ⟨⟨override_le window_le_default _ _ wbits, nct_override _ _ nct⟩,
    ⟨override_le window_le_default _ _ wbits', nct_override _ _ nct'⟩⟩

/-- **both ends run each direction compatibly** — for EVERY offer, accept and response-accept that pass the
guards (all lattice points, any mem level): in the server→client direction the client's inflater window is at
least the server's deflater window and the client forgets context only if the server does; likewise
client→server. This is what losslessness needs (`lossless` takes exactly `dirCompatible`). -/
theorem negotiation_compatible (o : Offer) (x : AcceptArgs) (y : RAcceptArgs) (r : Negotiated)
    (h : negotiate o x y = some r) :
    dirCompatible r.server r.client ∧ dirCompatible r.client r.server := by
  rw [negotiate_eq] at h
  split at h
  · rename_i hg
    cases h
    exact compat_core _ y hg.2.1 hg.2.2
  · cases h

/-- the hypotheses of `negotiation_compatible` are satisfiable by non-trivial lattice points: the U3 input (server
override), a client override, and a fully parameterised negotiation all pass the guards; an accept whose
`no_context_takeover=False` contradicts the offer's request does not -/
example : (negotiate ⟨true, true, false, 0⟩ ⟨false, 0, some true, some 10, none⟩ ⟨none, none, none⟩).isSome = true
    ∧ (negotiate ⟨true, true, false, 0⟩ ⟨false, 12, none, none, none⟩ ⟨some true, some 9, some 1⟩).isSome = true
    ∧ (negotiate ⟨false, true, true, 11⟩ ⟨true, 10, some true, some 9, some 9⟩ ⟨some true, some 10, none⟩).isSome = true
    ∧ (negotiate ⟨true, false, true, 11⟩ ⟨false, 0, some false, none, none⟩ ⟨none, none, none⟩).isSome = false := by
  simp only [negotiate_eq]
  decide

/-- **same parameters on both ends when no override is given** (`window_bits`/`no_context_takeover` left `None`
on both sides) -/
theorem negotiation_equal_of_no_override (o : Offer) (x : AcceptArgs) (y : RAcceptArgs) (r : Negotiated)
    (h : negotiate o x y = some r)
    (hx : x.nct = none ∧ x.wbits = none) (hy : y.nct = none ∧ y.wbits = none) :
    r.server.params = r.client.params := by
  rw [negotiate_eq] at h
  split at h
  · cases h
    simp only [Pmce.params, Pmce.fromOfferAccept, Pmce.fromResponseAccept, AcceptArgs.on, RAcceptArgs.on,
      OfferAccept.response, Offer.normalize, hx.1, hx.2, hy.1, hy.2, Option.getD_none]
    rfl
  · cases h

/-- the property's literal wording "both ends run each direction with the same effective window size and
context-takeover mode", provable part (U3) -/
theorem negotiation_same_parameters_partial (o : Offer) (x : AcceptArgs) (y : RAcceptArgs) (r : Negotiated)
    (h : negotiate o x y = some r)
    (hx : x.nct = none ∧ x.wbits = none) (hy : y.nct = none ∧ y.wbits = none) :
    r.server.params = r.client.params :=
  negotiation_equal_of_no_override o x y r h hx hy

/-- … and its failure with an override (U3): `OfferAccept(offer, window_bits=10, no_context_takeover=True)` on the
default offer — the server deflates with (no-context-takeover, 2^10), the client inflates with (takeover, 2^15).
Compatible (`negotiation_compatible`), lossless, but not "the same": the server's own override is not written
into its response. -/
theorem negotiation_same_parameters_fails_with_override :
    (negotiate ⟨true, true, false, 0⟩ ⟨false, 0, some true, some 10, none⟩ ⟨none, none, none⟩).map
        (fun r => (r.server.params, r.client.params))
      = some ((true, false, 10, 15), (false, false, 15, 15)) := by
  rw [negotiate_eq]
  decide

/-! ### the client's handshake -/

/-- names registered in `PERMESSAGE_COMPRESSION_EXTENSION` -/
def knownExt (n : List Char) : Bool :=
  n == extensionName || n == bzip2ExtensionName || n == brotliExtensionName

theorem acceptResponse_none_iff (pol : ClientPolicy) (n : List Char) (ps : Params) :
    acceptResponse pol n ps = none ↔ knownExt n = false := by
  simp only [knownExt, Bool.or_eq_false_iff, beq_eq_false_iff_ne, ne_eq, acceptResponse]
  split
  · simp [*]
  · split
    · simp [*]
    · split <;> simp [*]

/-- the client's handshake in closed form: it completes on the empty header and on exactly one extension, which its
policy accepts; a second entry fails the loop whatever it is (an extension it does not know, or a compression extension
after the first) -/
theorem clientHandshake_eq (pol : ClientPolicy) (hdr : List Char) :
    clientHandshake pol hdr =
      match parseExtensionsHeader hdr with
      | [] => .ok none none
      | [(n, ps)] =>
        match acceptResponse pol n ps with
        | some (some p) => .ok none (some p)
        | _ => .fail
      | _ => .fail := by
  unfold clientHandshake
  match parseExtensionsHeader hdr with
  | [] => rfl
  | [(n, ps)] =>
    simp only [clientLoop]
    cases acceptResponse pol n ps with
    | none => rfl
    | some r => cases r <;> rfl
  | (n, ps) :: (n', ps') :: rest =>
    simp only [clientLoop]
    cases acceptResponse pol n ps with
    | none => rfl
    | some r =>
      cases r with
      | none => rfl
      | some p => cases acceptResponse pol n' ps' <;> rfl

/-- is this (key, values) entry acceptable to `PerMessageDeflateResponse.parse`? -/
def Response.entryOk (kvs : List Char × List Val) : Bool :=
  match kvs.2 with
  | [v] =>
    if kvs.1 = sClientMwb ∨ kvs.1 = sServerMwb then (intInV windowSizePermissible v).isSome
    else if kvs.1 = sClientNct ∨ kvs.1 = sServerNct then v.isNone
    else false
  | _ => false

theorem Response.parseStep_none (kvs) : Response.parseStep none kvs = none := rfl

theorem Response.parseStep_isSome (r : Response) (kvs : List Char × List Val) :
    (Response.parseStep (some r) kvs).isSome = Response.entryOk kvs := by
  obtain ⟨⟨sn_sm, sn_cn, sn_cm⟩, ⟨sm_cn, sm_cm⟩, cn_cm⟩ := keys_distinct
  obtain ⟨k, vs⟩ := kvs
  match vs with
  | [] | _ :: _ :: _ => rfl
  | [v] =>
    simp only [Response.parseStep, Response.entryOk]
    by_cases h1 : k = sClientMwb
    · simp [h1]
    · by_cases h2 : k = sClientNct
      · subst h2; cases v <;> simp [cn_cm, sm_cn.symm]
      · by_cases h3 : k = sServerMwb
        · simp [h3, sm_cm, sm_cn]
        · by_cases h4 : k = sServerNct
          · subst h4; cases v <;> simp [sn_cm, sn_cn, sn_sm]
          · simp [h1, h2, h3, h4]

theorem Response.foldl_isSome (ps : Params) (acc : Option Response) :
    (ps.foldl Response.parseStep acc).isSome = (acc.isSome && ps.all Response.entryOk) := by
  induction ps generalizing acc with
  | nil => simp
  | cons p ps ih =>
    rw [List.foldl_cons, ih, List.all_cons, ← Bool.and_assoc]
    cases acc with
    | none => rfl
    | some r => rw [Response.parseStep_isSome]; rfl

/-- `PerMessageDeflateResponse.parse` is strict: it returns a response exactly when every entry is acceptable -/
theorem Response.parse_isSome (ps : Params) : (Response.parse ps).isSome = ps.all Response.entryOk :=
  Response.foldl_isSome ps _

theorem Response.parse_bad_entry (ps : Params) (kvs : List Char × List Val) (hm : kvs ∈ ps)
    (h : Response.entryOk kvs = false) : Response.parse ps = none := by
  rw [← Option.not_isSome_iff_eq_none, Response.parse_isSome, Bool.not_eq_true, List.all_eq_false]
  exact ⟨kvs, hm, by simp [h]⟩

theorem entry_unknown_key (k : List Char) (vs : List Val)
    (h : k ≠ sClientMwb ∧ k ≠ sServerMwb ∧ k ≠ sClientNct ∧ k ≠ sServerNct) :
    Response.entryOk (k, vs) = false := by
  unfold Response.entryOk
  split <;> simp [h.1, h.2.1, h.2.2.1, h.2.2.2]

theorem entry_duplicated (k : List Char) (v1 v2 : Val) (vs : List Val) :
    Response.entryOk (k, v1 :: v2 :: vs) = false := rfl

theorem entry_out_of_range (k : List Char) (s : List Char) (n : Nat)
    (hk : k = sClientMwb ∨ k = sServerMwb) (hs : pyInt s = some (Int.ofNat n)) (hr : n < 9 ∨ 15 < n) :
    Response.entryOk (k, [some s]) = false := by
  have : n ∉ windowSizePermissible := fun hm => by
    have := (window_range n).1 ((winOk_iff n).2 hm); omega
  unfold Response.entryOk
  simp [hk, intInV, intIn, hs, this]

theorem entry_not_integer (k : List Char) (s : List Char)
    (hk : k = sClientMwb ∨ k = sServerMwb) (hs : pyInt s = none) :
    Response.entryOk (k, [some s]) = false := by
  unfold Response.entryOk
  simp [hk, intInV, intIn, hs]

/-- **client fails the handshake** on a response that names an extension unknown to it, repeats a compression extension
(any two of them, also of different kinds), carries an unknown, duplicated or out-of-range parameter in the deflate
response, or carries permessage-deflate while the policy has no accept for it (`pol.deflate = none`; the default policy
`lambda _: None` declines everything).
`entryOk` is false for: a key other than the four parameter names (`entry_unknown_key`); a key that occurred more than
once (`_parseExtensionsHeader` collects the values in a list, `len > 1`: `entry_duplicated`); `*_max_window_bits` whose
value is missing (`one_not_permissible`), not an integer for `int()` (`entry_not_integer`), or outside 9..15
(`entry_out_of_range`, `window_range`); `*_no_context_takeover` with a value. -/
theorem client_rejects_bad_response (pol : ClientPolicy) (hdr : List Char)
    (h : (∃ e ∈ parseExtensionsHeader hdr, knownExt e.1 = false)
       ∨ 2 ≤ ((parseExtensionsHeader hdr).filter (fun e => knownExt e.1)).length
       ∨ (∃ e ∈ parseExtensionsHeader hdr, e.1 = extensionName ∧ ∃ kvs ∈ e.2, Response.entryOk kvs = false)
       ∨ (pol.deflate = none ∧ ∃ e ∈ parseExtensionsHeader hdr, e.1 = extensionName)) :
    clientHandshake pol hdr = .fail := by
  rw [clientHandshake_eq]
  split
  · -- no entry at all, and every hypothesis exhibits one
    rename_i h0
    simp [h0] at h
  · rename_i n ps h1
    split
    · -- the case in which the loop completes, `hp : acceptResponse pol n ps = some (some p)`; no hypothesis allows it
      rename_i p hp
      simp only [h1, List.mem_singleton, exists_eq_left] at h
      rcases h with h | h | ⟨rfl, kvs, hk, hbad⟩ | ⟨hd, rfl⟩
      · simp [(acceptResponse_none_iff pol n ps).2 h] at hp
      · simp only [List.filter] at h
        split at h <;> simp at h
      · simp [acceptResponse, Response.parse_bad_entry ps kvs hk hbad] at hp
      · simp [acceptResponse, hd] at hp
    · rfl
  · rfl

/-- concrete instances of every hypothesis class (headers as the harness sends them) -/
example : clientHandshake ⟨some ⟨none, none, none⟩, none, none⟩ "x-webkit-foo".toList = .fail := by decide +kernel
example : clientHandshake ⟨some ⟨none, none, none⟩, none, none⟩
    "permessage-deflate, permessage-deflate".toList = .fail := by decide +kernel
example : clientHandshake ⟨some ⟨none, none, none⟩, none, none⟩
    "permessage-deflate; server_max_window_bits=8".toList = .fail := by decide +kernel
example : clientHandshake ⟨some ⟨none, none, none⟩, none, none⟩
    "permessage-deflate; server_no_context_takeover; server_no_context_takeover".toList = .fail := by decide +kernel
example : clientHandshake ⟨some ⟨none, none, none⟩, none, none⟩
    "permessage-deflate; foo=1".toList = .fail := by decide +kernel
example : clientHandshake ⟨none, none, none⟩ "permessage-deflate".toList = .fail := by decide +kernel
example : clientHandshake ⟨some ⟨none, none, none⟩, none, none⟩
    "permessage-deflate; server_max_window_bits=12".toList
      = .ok none (some (.deflate ⟨false, false, false, 12, 15, 8⟩)) := by decide +kernel

/-! ### RSV1 in the frame header -/

/-- **compressed control frames are rejected** (any RSV bit on a control frame, extension negotiated or not) -/
theorem compressed_control_rejected (pmce inside fin : Bool) (rsv opcode : Nat) (hc : opcode > 7) (hr : rsv ≠ 0) :
    headerOk pmce inside fin rsv opcode = false := by
  unfold headerOk
  -- with `rsv ≠ 0` the RSV check passes only as `pmce && rsv == 4`, which is what the control branch ends by refusing
  by_cases h : (pmce && rsv == 4) = true
  · simp [hc, h]
  · simp [hr, h]

/-- inside a fragmented message (`inside = true`) a frame with any RSV bit set is rejected, whatever its opcode: a
continuation frame must not carry the compression bit, and neither may a control frame -/
theorem rsv1_on_continuation_rejected (pmce fin : Bool) (rsv opcode : Nat) (hr : rsv ≠ 0) :
    headerOk pmce true fin rsv opcode = false := by
  unfold headerOk
  -- with `rsv ≠ 0` the RSV check passes only as `pmce && rsv == 4`; inside a message both branches end by refusing that
  by_cases h : (pmce && rsv == 4) = true
  · by_cases hc : 7 < opcode <;> simp [hc, h]
  · simp [hr, h]

/-- RSV1 on the first frame of a data message is accepted exactly when an extension was negotiated; the other
RSV bits never -/
theorem rsv_on_first_frame (pmce fin : Bool) (rsv opcode : Nat) (ho : opcode = 1 ∨ opcode = 2) :
    headerOk pmce false fin rsv opcode = true ↔ (rsv = 0 ∨ (pmce = true ∧ rsv = 4)) := by
  -- for the first frame of a data message every other conjunct of `headerOk` is true: the RSV check is what is left
  unfold headerOk
  rcases ho with rfl | rfl <;> cases pmce <;> simp

/-- and at the level of the receiver: such frames fail the connection whatever the state -/
theorem rxFrame_compressed_control {K : Codec} (r : Rx K) (wf : WireFrame) (hc : wf.opcode > 7) (hr : wf.rsv ≠ 0) :
    rxFrame r wf = none := by
  unfold rxFrame
  simp [compressed_control_rejected _ _ _ _ _ hc hr]

theorem rxFrame_rsv1_continuation {K : Codec} (r : Rx K) (wf : WireFrame) (hi : r.inside = true) (hr : wf.rsv ≠ 0) :
    rxFrame r wf = none := by
  unfold rxFrame
  rw [hi]
  simp [rsv1_on_continuation_rejected _ _ _ _ hr]

/-! ### the data path -/

/-- initial halves of a connection on which the extension `p` is in use -/
def Tx.init (K : Codec) (p : Pmce) : Tx K := ⟨some p, none⟩
def Rx.init (K : Codec) (p : Pmce) : Rx K := ⟨some p, none, false, false, false, []⟩

/-- **lossless with a send limit**: with `maxMessagePayloadSize = maxPayload` (any value), context takeover or
not, exactly the messages whose send was not refused are delivered, intact and in order. A send refused AFTER
compression cannot hurt: the sender drops its compression context, and a fresh deflater is in sync with whatever
the peer's inflater holds (`enc_reset`). (Finding F17, repaired in 93aa9965: a refused message left in the shared
deflater made later messages undecodable under context takeover.) -/
theorem lossless_with_send_limit {K : Codec} (L : K.Lawful) (a b : Pmce) (hc : dirCompatible a b)
    (maxPayload : Nat) (msgs : List Msg) (hwf : ∀ m ∈ msgs, m.wf) (wire : List WireFrame)
    (hw : wire.map WireFrame.toFrame = (sendAll (Tx.init K a) maxPayload msgs).2.1) :
    ∃ r', rxAll (Rx.init K b) wire = some (r', (sendAll (Tx.init K a) maxPayload msgs).2.2) :=
  send_recv_all L a b hc maxPayload msgs (Tx.init K a) (Rx.init K b) ⟨rfl, rfl, rfl, L.fresh _ _ _ hc.1⟩ hwf wire hw

/-- the F17 scenario (toy codec, context takeover, limit 10): `[1,2,3]` is delivered, the
8-octet message is refused, `[9]` arrives as `[9]` -/
example :
    (rxAll (Rx.init toy ⟨false, false, false, 15, 15, 8⟩)
      (((sendAll (Tx.init toy ⟨true, false, false, 15, 15, 8⟩) 10
        [.whole true false none [1, 2, 3], .whole true false none [0, 0, 0, 0, 0, 0, 0, 0], .whole true false none [9]]).2.1).map
          fun f => ⟨f.fin, f.rsv, f.opcode, [f.payload]⟩)).map (·.2)
      = some [(true, [1, 2, 3]), (true, [9])] := by
  decide +kernel

/-- the hypotheses are satisfiable together with a refusal actually happening: toy codec, no context takeover,
limit 10 — the 8-octet message is refused, the other two arrive intact -/
example :
    (rxAll (Rx.init toy ⟨false, true, false, 15, 15, 8⟩)
      (((sendAll (Tx.init toy ⟨true, true, false, 15, 15, 8⟩) 10
        [.whole true false none [1, 2, 3], .whole true false none [0, 0, 0, 0, 0, 0, 0, 0], .whole true false none [9]]).2.1).map
          fun f => ⟨f.fin, f.rsv, f.opcode, [f.payload]⟩)).map (·.2)
      = some [(true, [1, 2, 3]), (true, [9])] := by
  decide +kernel

/-- **lossless, one direction.** `a` is the sending end's extension object, `b` the receiving end's, the direction
is compatible (`negotiation_compatible` provides this for every negotiated pair, both ways). Then ANY sequence of
messages — text or binary, compressed or flagged do-not-compress, sent whole with any fragment size or streamed
frame by frame in any pieces, so that the 2nd and later messages run on the kept or reset context — whose frames
reach the receiver cut into ANY chunks, is delivered exactly as sent, in order, and nothing else is delivered.
(No send limit, `maxMessagePayloadSize = 0`, the default: the case of `lossless_with_send_limit` in which nothing is
refused.)
The two directions of a connection use disjoint state (`Tx` is only the deflater, `Rx` only the inflater),
so they compose. Byte-level framing/masking of the frames is C01/C02/C15. -/
theorem lossless {K : Codec} (L : K.Lawful) (a b : Pmce) (hc : dirCompatible a b) (msgs : List Msg)
    (hwf : ∀ m ∈ msgs, m.wf) (wire : List WireFrame)
    (hw : wire.map WireFrame.toFrame = (sendAll (Tx.init K a) 0 msgs).2.1) :
    (sendAll (Tx.init K a) 0 msgs).2.2 = msgs.map (fun m => (m.bin, m.data)) ∧
    ∃ r', rxAll (Rx.init K b) wire = some (r', msgs.map (fun m => (m.bin, m.data))) := by
  have hs := sendAll_zero msgs hwf (Tx.init K a)
  exact ⟨hs, hs ▸ lossless_with_send_limit L a b hc 0 msgs hwf wire hw⟩

/-- **lossless, both directions of every negotiated connection**: whatever offer / accept / response-accept pass
the guards (overrides included — U3 is harmless for the data), server→client and client→server are lossless. -/
theorem lossless_negotiated {K : Codec} (L : K.Lawful) (o : Offer) (x : AcceptArgs) (y : RAcceptArgs)
    (n : Negotiated) (hn : negotiate o x y = some n) (msgs : List Msg) (hwf : ∀ m ∈ msgs, m.wf)
    (wire : List WireFrame) :
    (wire.map WireFrame.toFrame = (sendAll (Tx.init K n.server) 0 msgs).2.1 →
      ∃ r', rxAll (Rx.init K n.client) wire = some (r', msgs.map (fun m => (m.bin, m.data))))
    ∧ (wire.map WireFrame.toFrame = (sendAll (Tx.init K n.client) 0 msgs).2.1 →
      ∃ r', rxAll (Rx.init K n.server) wire = some (r', msgs.map (fun m => (m.bin, m.data)))) := by
  obtain ⟨h1, h2⟩ := negotiation_compatible o x y n hn
  exact ⟨fun hw => (lossless L _ _ h1 msgs hwf wire hw).2, fun hw => (lossless L _ _ h2 msgs hwf wire hw).2⟩

theorem wire_of_frames (fs : List Frame) :
    (fs.map fun f => (⟨f.fin, f.rsv, f.opcode, [f.payload]⟩ : WireFrame)).map WireFrame.toFrame = fs := by
  induction fs with
  | nil => rfl
  | cons f fs ih => simp [WireFrame.toFrame, ih]

/-- the contract is satisfiable and the theorem applies to a concrete run: the toy codec, the U3 negotiation,
three messages (whole + fragmented, do-not-compress, streamed), delivered intact -/
example :
    (rxAll (Rx.init toy ⟨false, false, false, 15, 15, 8⟩)
      (((sendAll (Tx.init toy ⟨true, true, false, 10, 15, 8⟩) 0
        [.whole true false (some 3) [1, 2, 3, 4, 5], .whole false true none [7], .stream true false [[8], [9, 10]]]).2.1).map
          fun f => ⟨f.fin, f.rsv, f.opcode, [f.payload]⟩)).map (·.2)
      = some [(true, [1, 2, 3, 4, 5]), (false, [7]), (true, [8, 9, 10])] := by
  have hc : dirCompatible ⟨true, true, false, 10, 15, 8⟩ ⟨false, false, false, 15, 15, 8⟩ := by decide
  have := lossless toyLawful _ _ hc
    [.whole true false (some 3) [1, 2, 3, 4, 5], .whole false true none [7], .stream true false [[8], [9, 10]]]
    (by intro m hm; simp at hm; rcases hm with rfl | rfl | rfl <;> simp [Msg.wf])
    _ (wire_of_frames _)
  obtain ⟨r', h⟩ := this.2
  rw [h]; rfl

/-- the requirement `dirCompatible` of `lossless` is necessary: an inflater that forgets its context
while the deflater keeps it loses the second message (toy codec; `decNct` without `encNct`) -/
theorem incompatible_context_loses_data :
    (rxAll (Rx.init toy ⟨false, true, false, 15, 15, 8⟩)
      (((sendAll (Tx.init toy ⟨true, false, false, 15, 15, 8⟩) 0
        [.whole true false none [1, 2], .whole true false none [3]]).2.1).map
          fun f => ⟨f.fin, f.rsv, f.opcode, [f.payload]⟩)).map (·.2)
      = some [(true, [1, 2]), (true, [2])] := by
  decide +kernel

/-- **do-not-compress**: the message travels verbatim with RSV1 clear on every frame, and the deflater is not
touched (so it cannot disturb the context of compressed messages around it) -/
theorem doNotCompress_verbatim {K : Codec} (t : Tx K) (maxPayload : Nat) (bin : Bool) (frag : Option Nat)
    (payload : Bytes) (fs : List Frame) (t' : Tx K)
    (h : sendMessage t maxPayload bin true frag payload = (t', .sent fs)) :
    t' = t ∧ payloads fs = payload ∧ (∀ f ∈ fs, f.rsv = 0) ∧ ∃ f rest, fs = f :: rest ∧ f.opcode = opcodeOf bin := by
  have : t' = t ∧ fragment frag (opcodeOf bin) 0 payload = some fs := by
    unfold sendMessage at h
    split at h
    · rename_i hd; cases hd
    · split at h
      · cases h
      · split at h
        · cases h
        · rename_i fs' hfs'
          simp only [Prod.mk.injEq, SendRes.sent.injEq] at h
          exact ⟨h.1.symm, by rw [hfs', h.2]⟩
  obtain ⟨ht, hf⟩ := this
  obtain ⟨htr, hpl⟩ := fragment_train _ _ _ _ _ hf
  obtain ⟨f, rest, rfl, h1, h2, h3⟩ := htr.shape
  refine ⟨ht, hpl, ?_, f, rest, rfl, h2⟩
  intro g hg
  rcases List.mem_cons.1 hg with rfl | hg
  · exact h1
  · exact (h3 g hg).1

/-- **RSV1 on the first frame only**: a compressed `sendMessage` puts RSV1 (and the opcode) on the first frame and
on no other, for every fragment size; the frames carry exactly deflater output ++ stripped flush output -/
theorem rsv1_first_frame_only {K : Codec} (t : Tx K) (p : Pmce) (hp : t.pmce = some p) (maxPayload : Nat) (bin : Bool)
    (frag : Option Nat) (payload : Bytes) (fs : List Frame) (t' : Tx K)
    (h : sendMessage t maxPayload bin false frag payload = (t', .sent fs)) :
    ∃ f rest, fs = f :: rest ∧ f.rsv = 4 ∧ f.opcode = opcodeOf bin ∧ (∀ g ∈ rest, g.rsv = 0 ∧ g.opcode = 0)
      ∧ payloads fs = (K.compress (startCompress p t.comp) payload).2
          ++ (endCompress (K.compress (startCompress p t.comp) payload).1).2 := by
  unfold sendMessage at h
  simp only [hp] at h
  split at h
  · cases h
  · split at h
    · cases h
    · rename_i fs' hfs'
      simp only [Prod.mk.injEq, SendRes.sent.injEq] at h
      obtain ⟨_, rfl⟩ := h
      obtain ⟨htr, hpl⟩ := fragment_train _ _ _ _ _ hfs'
      obtain ⟨f, rest, rfl, h1, h2, h3⟩ := htr.shape
      exact ⟨f, rest, rfl, h1, h2, h3, hpl⟩

/-- the same for the streaming API (`beginMessage` / `sendMessageFrame`* / `endMessage`) -/
theorem rsv1_first_frame_only_stream {K : Codec} (t : Tx K) (p : Pmce) (hp : t.pmce = some p) (bin : Bool)
    (pieces : List Bytes) (hne : pieces ≠ []) :
    ∃ f rest, (sendStream t bin false pieces).2 = f :: rest ∧ f.rsv = 4 ∧ f.opcode = opcodeOf bin
      ∧ (∀ g ∈ rest, g.rsv = 0 ∧ g.opcode = 0) := by
  obtain ⟨o, os, hout⟩ := compressAll_ne_nil (startCompress p t.comp) hne
  simp only [sendStream, hp, hout]
  exact (stream_train (opcodeOf bin) 4 o os _).1.shape

end Abverif.Pmce

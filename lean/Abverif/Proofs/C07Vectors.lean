import Abverif.Model.Crypto7.Sha1
import Abverif.Model.Crypto7.Base64
/-!
C07 — published test vectors for the SHA-1 and Base64 reference oracles, checked by kernel
evaluation (`decide +kernel`): RFC 3174 §7.3, RFC 4648 §10, RFC 6455 §1.3.

These are TESTS OF THE REFERENCE implementations `Abverif.Crypto7.Sha1.hash` / `Base64.encode` that `acceptDigest` is
built from — not statements of the property.  (The reference is additionally compared with hashlib / base64 on random
inputs of every length 0..129 and on every digest the harness uses.)
-/
namespace Abverif.C07.Vectors

open Abverif.Crypto7
open Abverif.Crypto7.Base64 (asc)

/-! ## `asc` is what it looks like -/

theorem asc_abc : asc "abc" = [0x61, 0x62, 0x63] := by decide +kernel

/-! ## SHA-1 (RFC 3174 §7.3; FIPS 180 examples) -/

theorem sha1_empty :
    Sha1.hash [] =
      [0xda, 0x39, 0xa3, 0xee, 0x5e, 0x6b, 0x4b, 0x0d, 0x32, 0x55,
       0xbf, 0xef, 0x95, 0x60, 0x18, 0x90, 0xaf, 0xd8, 0x07, 0x09] := by decide +kernel

theorem sha1_abc :
    Sha1.hash (asc "abc") =
      [0xa9, 0x99, 0x3e, 0x36, 0x47, 0x06, 0x81, 0x6a, 0xba, 0x3e,
       0x25, 0x71, 0x78, 0x50, 0xc2, 0x6c, 0x9c, 0xd0, 0xd8, 0x9d] := by decide +kernel

/-- 56 bytes: the padding spills into a second block. -/
theorem sha1_two_blocks :
    Sha1.hash (asc "abcdbcdecdefdefgefghfghighijhijkijkljklmklmnlmnomnopnopq") =
      [0x84, 0x98, 0x3e, 0x44, 0x1c, 0x3b, 0xd2, 0x6e, 0xba, 0xae,
       0x4a, 0xa1, 0xf9, 0x51, 0x29, 0xe5, 0xe5, 0x46, 0x70, 0xf1] := by decide +kernel

theorem sha1_abc_hex :
    Hex.encode (Sha1.hash (asc "abc")) = "a9993e364706816aba3e25717850c26c9cd0d89d" := by
  rw [sha1_abc]
  decide +kernel

/-! ## Base64 (RFC 4648 §10) -/

theorem b64_0 : Base64.encode (asc "") = asc "" := by decide +kernel
theorem b64_1 : Base64.encode (asc "f") = asc "Zg==" := by decide +kernel
theorem b64_2 : Base64.encode (asc "fo") = asc "Zm8=" := by decide +kernel
theorem b64_3 : Base64.encode (asc "foo") = asc "Zm9v" := by decide +kernel
theorem b64_4 : Base64.encode (asc "foob") = asc "Zm9vYg==" := by decide +kernel
theorem b64_5 : Base64.encode (asc "fooba") = asc "Zm9vYmE=" := by decide +kernel
theorem b64_6 : Base64.encode (asc "foobar") = asc "Zm9vYmFy" := by decide +kernel

theorem b64d_0 : Base64.decode (asc "") = some (asc "") := by decide +kernel
theorem b64d_1 : Base64.decode (asc "Zg==") = some (asc "f") := by decide +kernel
theorem b64d_2 : Base64.decode (asc "Zm8=") = some (asc "fo") := by decide +kernel
theorem b64d_3 : Base64.decode (asc "Zm9v") = some (asc "foo") := by decide +kernel
theorem b64d_4 : Base64.decode (asc "Zm9vYg==") = some (asc "foob") := by decide +kernel
theorem b64d_5 : Base64.decode (asc "Zm9vYmE=") = some (asc "fooba") := by decide +kernel
theorem b64d_6 : Base64.decode (asc "Zm9vYmFy") = some (asc "foobar") := by decide +kernel

/-- Strictness: bad length, interior padding, a non-alphabet character, data after padding. -/
theorem b64d_reject :
    Base64.decode (asc "Zm9") = none ∧ Base64.decode (asc "Zg=v") = none ∧
    Base64.decode (asc "Zm9*") = none ∧ Base64.decode (asc "Zg==Zm9v") = none ∧
    Base64.decode (asc "=g==") = none ∧ Base64.decode (asc "Z===") = none := by decide +kernel

/-- Non-canonical trailing bits are accepted (`Zh==` also decodes to `f`). -/
theorem b64d_noncanonical : Base64.decode (asc "Zh==") = some (asc "f") := by decide +kernel

/-! ## RFC 6455 §1.3: `Sec-WebSocket-Accept` of the sample nonce -/

theorem ws_accept_sample :
    Base64.encode
        (Sha1.hash (asc "dGhlIHNhbXBsZSBub25jZQ==" ++ asc "258EAFA5-E914-47DA-95CA-C5AB0DC85B11")) =
      asc "s3pPLMBiTxaQ9kYGzzhZRbK+xOo=" := by decide +kernel

/-- The intermediate digest quoted in RFC 6455 §1.3. -/
theorem ws_accept_sample_digest :
    Sha1.hash (asc "dGhlIHNhbXBsZSBub25jZQ==258EAFA5-E914-47DA-95CA-C5AB0DC85B11") =
      [0xb3, 0x7a, 0x4f, 0x2c, 0xc0, 0x62, 0x4f, 0x16, 0x90, 0xf6,
       0x46, 0x06, 0xcf, 0x38, 0x59, 0x45, 0xb2, 0xbe, 0xc4, 0xea] := by decide +kernel

end Abverif.C07.Vectors

import Abverif.Proofs.Lemmas.C13Conn
import Abverif.Model.WsSub
/-!
C13 — WAMP transports attach a session only after valid negotiation and fail closed.

The model reads the source through generated constants (`Abverif.Gen.WampTransport`), so a change in /repo that
re-introduces one of the defects named below (F12, F13, F14, N1, N2) changes a constant and the theorem stops checking.

RawSocket: the handshake, the send guards, the two framings (asyncio, Twisted) against the whole-stream Spec, the connection
as a whole, the transport-gone notification; then WebSocket subprotocol selection. The theory of the receive loop for an
arbitrary framing is in `Lemmas/C13Framing`, that of the handshake accumulator in `Lemmas/C13Conn`.
-/
namespace Abverif.RawSocket
open Abverif.Gen

theorem and15 (x : Nat) : x &&& 15 = x % 16 := Nat.and_two_pow_sub_one_eq_mod x 4
theorem shr4 (x : Nat) : x >>> 4 = x / 16 := by rw [Nat.shiftRight_eq_div_pow]

theorem toNat_ne_7f (o : UInt8) : o.toNat ≠ 127 ↔ ¬ o = 0x7F := by
  rw [← UInt8.toNat_inj]; rfl

theorem toNat_ne_zero (o : UInt8) : o.toNat ≠ 0 ↔ ¬ o = 0 := by
  rw [← UInt8.toNat_inj]; rfl

theorem nibble_pack (e : Nat) {s : Nat} (hs : s < 16) : e <<< 4 ||| s = e * 16 + s := by
  rw [← Nat.shiftLeft_add_eq_or_of_lt (show s < 2 ^ 4 from hs), Nat.shiftLeft_eq]

theorem replyOctet_cases (exp : Nat) {ser : Nat} (hs : ser < 16) :
    (∃ r, replyOctet exp ser = some r ∧ r.toNat % 16 = ser ∧ r.toNat / 16 = exp ∧ exp ≤ 15) ∨
    (replyOctet exp ser = none ∧ ¬ exp ≤ 15) := by
  simp only [replyOctet, nibble_pack exp hs]
  split
  · rename_i hlt
    exact Or.inl ⟨_, rfl, by rw [UInt8.toNat_ofNat_of_lt' hlt]; omega⟩
  · exact Or.inr ⟨rfl, by omega⟩

/-- the error reply of the asyncio server: `7F 10 00 00` (ERR_SERIALIZER_UNSUPPORTED in the high nibble) -/
theorem errReply : replyOctet WampTransport.aioErrSerUnsupported (0 &&& 0x0F) = some 0x10 := by decide
theorem aioParseHandshake_eq (o1 o2 o3 o4 : UInt8) : aioParseHandshake o1 o2 o3 o4 =
    if o1 = 0x7F then
      if o3 = 0 ∧ o4 = 0 then (.ok (loNibble o2, hiNibble o2), some (maxLenOfExp (hiNibble o2)))
      else (.error (), some (maxLenOfExp (hiNibble o2)))
    else (.error (), none) := by
  simp only [aioParseHandshake, WampTransport.aioMagic, WampTransport.aioSerMask, WampTransport.aioShift,
    WampTransport.aioPowBase, WampTransport.aioExpAdd, and15, shr4, toNat_ne_7f, toNat_ne_zero, loNibble, hiNibble,
    maxLenOfExp, Nat.add_comm 9]
  by_cases h1 : o1 = 0x7F <;> by_cases h3 : o3 = 0 <;> by_cases h4 : o4 = 0 <;> simp [h1, h3, h4]

/-- the test the four routines apply to the octets: the Spec's, except that a client compares the serializer nibble
with its own id instead of looking it up in a list, and an asyncio client reads nibble 0 as the server's error reply -/
def Acceptable (c : Cfg) (o1 o2 o3 o4 : UInt8) : Prop :=
  o1 = 0x7F ∧
    (match c.role with
     | .server => loNibble o2 ∈ c.supported
     | .client => c.mySer = loNibble o2 ∧ (c.variant = .asyncio → loNibble o2 ≠ 0)) ∧
    (c.variant = .asyncio → o3 = 0 ∧ o4 = 0)

theorem acceptable_iff_spec (c : Cfg) (o1 o2 o3 o4 : UInt8)
    (hcl : c.role = .client → ∃ m, c.supported = [m] ∧ (c.variant = .asyncio → m ≠ 0)) :
    Acceptable c o1 o2 o3 o4 ↔ acceptSpec c.variant c.supported o1 o2 o3 o4 := by
  obtain ⟨v, r, sup, exp, mr⟩ := c
  cases r
  · exact Iff.rfl
  · obtain ⟨m, rfl, hz⟩ := hcl rfl
    simp only [Acceptable, acceptSpec, Cfg.mySer, List.headD, List.mem_singleton]
    constructor
    · rintro ⟨h1, ⟨h2, _⟩, h3⟩; exact ⟨h1, h2.symm, h3⟩
    · rintro ⟨h1, h2, h3⟩; exact ⟨h1, ⟨h2.symm, fun hv => h2 ▸ hz hv⟩, h3⟩

/-- normal form of an accepted handshake: serializer = low nibble of octet 2, send limit = `2^(9 + high
nibble)`, nothing closed, nothing raised; a server has written `7F (exp<<4|ser) 00 00`, a client nothing -/
def AcceptedForm (c : Cfg) (o2 : UInt8) (out : HsOut) : Prop :=
  ∃ w, out = { accepted := true, ser := loNibble o2, maxSend := some (maxLenOfExp (hiNibble o2)), written := w,
               tclose := .none, exc := none } ∧
    (c.role = .client → w = []) ∧
    (c.role = .server → ∃ r : UInt8, w = [0x7F, r, 0, 0] ∧ r.toNat % 16 = loNibble o2 ∧
        r.toNat / 16 = c.exp ∧ c.exp ≤ 15)

/-- **every handshake ends in one of two ways**: accepted, in the normal form, on octets that pass the test; or
refused, and then — provided the endpoint's own exponent fits a nibble, else building the server's reply octet raises
`ValueError` — by closing the transport without an exception, on octets that fail the test -/
theorem hsEval_cases (c : Cfg) (o1 o2 o3 o4 : UInt8) :
    (AcceptedForm c o2 (hsEval c o1 o2 o3 o4) ∧ Acceptable c o1 o2 o3 o4) ∨
    ((hsEval c o1 o2 o3 o4).accepted = false ∧
      (c.exp ≤ 15 → (hsEval c o1 o2 o3 o4).exc = none ∧ (hsEval c o1 o2 o3 o4).tclose ≠ .none ∧
        ¬ Acceptable c o1 o2 o3 o4)) := by
  obtain ⟨v, r, sup, exp, mr⟩ := c
  have hlo : loNibble o2 < 16 := Nat.mod_lt _ (by decide)
  cases v <;> cases r
  · -- twisted server
    simp only [hsEval, AcceptedForm, Acceptable, twServerHs, WampTransport.twServerMagic, WampTransport.twServerSerMask,
      WampTransport.twServerPowBase, WampTransport.twServerExpAdd, WampTransport.twServerShift,
      and15, shr4, toNat_ne_7f, List.contains_iff_mem, ← loNibble.eq_1, ← hiNibble.eq_1, ← maxLenOfExp.eq_1]
    by_cases hm : o1 = 0x7F
    · by_cases hs : loNibble o2 ∈ sup
      · rcases replyOctet_cases exp hlo with ⟨q, hr, hq⟩ | ⟨hr, hbig⟩
        · exact Or.inl ⟨⟨_, by simp [hm, hs, hr], nofun, fun _ => ⟨q, rfl, hq⟩⟩, by simp [hm, hs]⟩
        · exact Or.inr ⟨by simp [hm, hs, hr], fun he => absurd he hbig⟩  -- `exp` does not fit the reply octet
      · exact Or.inr (by simp [hm, hs])  -- serializer not supported
    · exact Or.inr (by simp [hm])  -- wrong magic octet
  · -- twisted client
    simp only [hsEval, AcceptedForm, Acceptable, twClientHs, WampTransport.twClientMagic, WampTransport.twClientSerMask,
      WampTransport.twClientPowBase, WampTransport.twClientExpAdd, WampTransport.twClientShift,
      and15, shr4, toNat_ne_7f, ← loNibble.eq_1, ← hiNibble.eq_1, ← maxLenOfExp.eq_1]
    generalize Cfg.mySer _ = my
    by_cases hm : o1 = 0x7F
    · by_cases hs : my = loNibble o2
      · exact Or.inl ⟨⟨[], by simp [hm, hs], fun _ => rfl, nofun⟩, by simp [hm, hs]⟩
      · exact Or.inr (by simp [hm, hs, Ne.symm hs])  -- not the serializer asked for
    · exact Or.inr (by simp [hm])  -- wrong magic octet
  · -- asyncio server
    simp only [hsEval, AcceptedForm, Acceptable, aioServerHs, aioParseHandshake_eq, List.contains_iff_mem, errReply]
    by_cases hm : o1 = 0x7F
    · by_cases h3 : o3 = 0 ∧ o4 = 0
      · by_cases hs : loNibble o2 ∈ sup
        · have h15 : loNibble o2 &&& 0x0F = loNibble o2 := by rw [and15]; exact Nat.mod_eq_of_lt hlo
          rcases replyOctet_cases exp hlo with ⟨q, hr, hq⟩ | ⟨hr, hbig⟩
          · exact Or.inl ⟨⟨_, by simp [hm, h3, hs, h15, hr, aioMaxSend, WampTransport.aioMagic], nofun,
              fun _ => ⟨q, rfl, hq⟩⟩, by simp [hm, h3, hs]⟩
          · exact Or.inr ⟨by simp [hm, h3, hs, h15, hr], fun he => absurd he hbig⟩  -- `exp` does not fit the reply octet
        -- serializer not supported: the error reply `errReply` is written, then the transport is closed
        · exact Or.inr (by simp [hm, h3, hs, WampTransport.aioServerAbortsOnUnsupported])
      · exact Or.inr (by simp [hm, h3])  -- reserved octets not zero
    · exact Or.inr (by simp [hm])  -- wrong magic octet
  · -- asyncio client
    simp only [hsEval, AcceptedForm, Acceptable, aioClientHs, aioParseHandshake_eq]
    generalize Cfg.mySer _ = my
    by_cases hm : o1 = 0x7F
    · by_cases h3 : o3 = 0 ∧ o4 = 0
      · by_cases h0 : loNibble o2 = 0
        · exact Or.inr (by simp [hm, h3, h0])  -- nibble 0: the server's error reply
        · by_cases hs : my = loNibble o2
          · exact Or.inl ⟨⟨[], by simp [hm, h3, h0, hs, aioMaxSend], fun _ => rfl, nofun⟩, by simp [hm, h3, h0, hs]⟩
          · exact Or.inr (by simp [hm, h3, h0, hs])  -- not the serializer asked for
      · exact Or.inr (by simp [hm, h3])  -- reserved octets not zero
    · exact Or.inr (by simp [hm])  -- wrong magic octet

/-- **A RawSocket handshake is accepted iff** the first octet is 0x7F and the serializer nibble is one
the endpoint supports (and, on asyncio, the reserved octets are zero) — for all 2^32 handshakes and both frameworks; for a
server with any list of serializers, and for a client whose list is the one serializer it asked for (`hcl`; on asyncio not
id 0, which a client reads as the server's error reply). `hexp`: the endpoint's own exponent fits its nibble; a server
with a larger one raises `ValueError` where it should accept. -/
theorem rs_accept_iff (c : Cfg) (o1 o2 o3 o4 : UInt8) (hexp : c.exp ≤ 15)
    (hcl : c.role = .client → ∃ m, c.supported = [m] ∧ (c.variant = .asyncio → m ≠ 0)) :
    (hsEval c o1 o2 o3 o4).accepted = true ↔ acceptSpec c.variant c.supported o1 o2 o3 o4 := by
  rw [← acceptable_iff_spec c o1 o2 o3 o4 hcl]
  rcases hsEval_cases c o1 o2 o3 o4 with ⟨⟨w, e, _⟩, hA⟩ | ⟨hf, hR⟩
  · exact ⟨fun _ => hA, fun _ => by rw [e]⟩
  · exact ⟨fun h => absurd (hf ▸ h) Bool.false_ne_true, fun h => absurd h (hR hexp).2.2⟩

/-- the handshake reads octets 3 and 4 only through "both are zero" -/
theorem rs_reserved_symbolic (c : Cfg) (o1 o2 o3 o4 p3 p4 : UInt8)
    (h : (o3 = 0 ∧ o4 = 0) ↔ (p3 = 0 ∧ p4 = 0)) : hsEval c o1 o2 o3 o4 = hsEval c o1 o2 p3 p4 := by
  obtain ⟨v, r, sup, exp, mr⟩ := c
  cases v <;> cases r
  · rfl
  · rfl
  · simp only [hsEval, aioServerHs, aioParseHandshake_eq, h]
  · simp only [hsEval, aioClientHs, aioParseHandshake_eq, h]

theorem tw_ignores_reserved (r : Role) (sup : List Nat) (exp mr : Nat) (o1 o2 o3 o4 : UInt8) :
    hsEval ⟨.twisted, r, sup, exp, mr⟩ o1 o2 o3 o4 = hsEval ⟨.twisted, r, sup, exp, mr⟩ o1 o2 0 0 := by
  cases r <;> rfl

theorem accepted_form (c : Cfg) (o1 o2 o3 o4 : UInt8) (h : (hsEval c o1 o2 o3 o4).accepted = true) :
    AcceptedForm c o2 (hsEval c o1 o2 o3 o4) := by
  rcases hsEval_cases c o1 o2 o3 o4 with ⟨hF, _⟩ | ⟨hf, _⟩
  · exact hF
  · rw [hf] at h; cases h

def RsRefuseCleanFull : Prop :=
  ∀ (c : Cfg) (o1 o2 o3 o4 : UInt8), c.exp ≤ 15 → (hsEval c o1 o2 o3 o4).accepted = false →
    (hsEval c o1 o2 o3 o4).exc = none ∧ (hsEval c o1 o2 o3 o4).tclose ≠ .none

/-- **every refused handshake is refused by closing the transport, and no exception leaves
`dataReceived` / `data_received`** — both roles, both frameworks, all 2^32 handshakes, every serializer list.
(F12: an asyncio server whose `supports_serializer` calls `self.abort()` on an unsupported serializer raises
`TransportLost` instead; the model reads whether that call is there into `aioServerAbortsOnUnsupported`.) -/
theorem rs_refuse_clean (c : Cfg) (o1 o2 o3 o4 : UInt8) (hexp : c.exp ≤ 15)
    (h : (hsEval c o1 o2 o3 o4).accepted = false) :
    (hsEval c o1 o2 o3 o4).exc = none ∧ (hsEval c o1 o2 o3 o4).tclose ≠ .none := by
  rcases hsEval_cases c o1 o2 o3 o4 with ⟨⟨w, e, _⟩, _⟩ | ⟨_, hR⟩
  · rw [e] at h; cases h
  · exact ⟨(hR hexp).1, (hR hexp).2.1⟩

theorem rs_refuse_clean_full : RsRefuseCleanFull := fun c o1 o2 o3 o4 he h => rs_refuse_clean c o1 o2 o3 o4 he h

/-- the F12 input: asyncio server, serializers = [json], handshake `7f f2 00 00` — the error reply
`7f 10 00 00` is written and the transport is closed -/
example : hsEval ⟨.asyncio, .server, [1], 15, 16777216⟩ 0x7F 0xF2 0 0 =
    { accepted := false, ser := 2, maxSend := some 16777216, written := [0x7F, 0x10, 0, 0], tclose := .close,
      exc := none } := by decide

/-- **Both ends use the same serializer, and each learns the other's length limit**: whatever a client
(either framework) requests, if a server (either framework) accepts it, the client accepts the server's
reply, both have the requested serializer, the server may send up to `2^(9+expC)`, the client up to `2^(9+expS)`. -/
theorem rs_same_serializer (vc vs : Variant) (sup : List Nat) (mySer expC expS mrC mrS : Nat)
    (hs : mySer < 16) (h0 : mySer ≠ 0) (hc : expC ≤ 15)
    (a b c d : UInt8) (hreq : clientRequest vc expC mySer = some [a, b, c, d])
    (hacc : (hsEval ⟨vs, .server, sup, expS, mrS⟩ a b c d).accepted = true) :
    ∃ r1 r2 r3 r4 : UInt8,
      (hsEval ⟨vs, .server, sup, expS, mrS⟩ a b c d).written = [r1, r2, r3, r4] ∧
      (hsEval ⟨vs, .server, sup, expS, mrS⟩ a b c d).ser = mySer ∧ mySer ∈ sup ∧
      (hsEval ⟨vs, .server, sup, expS, mrS⟩ a b c d).maxSend = some (maxLenOfExp expC) ∧
      (hsEval ⟨vc, .client, [mySer], expC, mrC⟩ r1 r2 r3 r4).accepted = true ∧
      (hsEval ⟨vc, .client, [mySer], expC, mrC⟩ r1 r2 r3 r4).ser = mySer ∧
      (hsEval ⟨vc, .client, [mySer], expC, mrC⟩ r1 r2 r3 r4).maxSend = some (maxLenOfExp expS) := by
  obtain ⟨q, hq, hlo, hhi, -⟩ := (replyOctet_cases expC hs).resolve_right fun h => h.2 hc
  obtain ⟨rfl, rfl, rfl, rfl⟩ : 0x7F = a ∧ q = b ∧ 0 = c ∧ 0 = d := by
    cases vc <;> simpa [clientRequest, hq, WampTransport.aioMagic] using hreq
  obtain ⟨w, hw, -, hsrv⟩ := accepted_form _ _ _ _ _ hacc
  obtain ⟨r, rfl, hr1, hr2, hexpS⟩ := hsrv rfl
  have hspec := (rs_accept_iff ⟨vs, .server, sup, expS, mrS⟩ _ _ _ _ hexpS nofun).mp hacc
  have hcacc : (hsEval ⟨vc, .client, [mySer], expC, mrC⟩ 0x7F r 0 0).accepted = true :=
    (rs_accept_iff ⟨vc, .client, [mySer], expC, mrC⟩ _ _ _ _ hc fun _ => ⟨mySer, rfl, fun _ => h0⟩).mpr
      ⟨rfl, List.mem_singleton.mpr (hr1.trans hlo), fun _ => ⟨rfl, rfl⟩⟩
  obtain ⟨w', hw', -⟩ := accepted_form _ _ _ _ _ hcacc
  refine ⟨0x7F, r, 0, 0, ?_⟩
  rw [hw, hw']
  exact ⟨rfl, hlo, hlo ▸ hspec.2.1, congrArg (fun n => some (maxLenOfExp n)) hhi, rfl, hr1.trans hlo,
    congrArg (fun n => some (maxLenOfExp n)) hr2⟩

theorem clog2_spec (n : Nat) (h : 2 ≤ n) : n ≤ 2 ^ clog2 n ∧ 2 ^ (clog2 n - 1) < n := by
  have h1 : ¬ n ≤ 1 := by omega
  simp only [clog2, h1, if_false, Nat.add_sub_cancel]
  have hne : n - 1 ≠ 0 := by omega
  constructor
  · have := Nat.lt_log2_self (n := n - 1)
    omega
  · have := Nat.log2_self_le hne
    omega

/-- a Twisted endpoint configured with `512 ≤ size ≤ 2^24` announces an exponent nibble `e ≤ 15` with
`size ≤ 2^(9+e) = MAX_LENGTH`, and no smaller exponent would do -/
theorem rs_announce (size : Nat) (h1 : 512 ≤ size) (h2 : size ≤ 16777216) :
    twAnnounceExp size ≤ 15 ∧ twMaxRecv size = maxLenOfExp (twAnnounceExp size) ∧ size ≤ twMaxRecv size ∧
    (twAnnounceExp size = 0 ∨ maxLenOfExp (twAnnounceExp size - 1) < size) := by
  obtain ⟨hle, hlt⟩ := clog2_spec size (by omega)
  have h9 : 9 ≤ clog2 size := (Nat.pow_le_pow_iff_right (by decide)).mp (by omega : 2 ^ 9 ≤ 2 ^ clog2 size)
  have h24 : clog2 size - 1 < 24 :=
    (Nat.pow_lt_pow_iff_right (by decide)).mp (by omega : 2 ^ (clog2 size - 1) < 2 ^ 24)
  simp only [twAnnounceExp, twMaxRecv, maxLenOfExp]
  refine ⟨by omega, by rw [show 9 + (clog2 size - 9) = clog2 size by omega], hle, ?_⟩
  by_cases h0 : clog2 size - 9 = 0
  · exact Or.inl h0
  · exact Or.inr (by rw [show 9 + (clog2 size - 9 - 1) = clog2 size - 1 by omega]; exact hlt)

namespace Table

/-- RAWSOCKET_SERIALIZER_IDs of every serializer class in wamp/serializer.py (regenerated from the source) -/
def genIds : List Nat := WampTransport.serializers.map (fun r => r.2.1)

def o1 (n : Nat) : UInt8 := UInt8.ofNat (n / 256)
def o2 (n : Nat) : UInt8 := UInt8.ofNat (n % 256)

/-- the Spec on naturals, reserved octets zero: magic 0x7F and a supported serializer nibble -/
def specB (ids : List Nat) (n : Nat) : Bool := Nat.beq (n / 256) 127 && ids.contains (n % 16)

/-- `rs_accept_iff` on octets 1–2 taken from `n`, reserved octets zero -/
theorem accepted_eq_specB (c : Cfg) (hexp : c.exp ≤ 15)
    (hcl : c.role = .client → ∃ m, c.supported = [m] ∧ (c.variant = .asyncio → m ≠ 0)) (n : Nat) (hn : n < 65536) :
    (hsEval c (o1 n) (o2 n) 0 0).accepted = specB c.supported n := by
  have h1 : o1 n = 0x7F ↔ n / 256 = 127 := by
    rw [← UInt8.toNat_inj, o1, UInt8.toNat_ofNat_of_lt' (show n / 256 < 256 by omega)]; rfl
  have h2 : loNibble (o2 n) = n % 16 := by
    rw [loNibble, o2, UInt8.toNat_ofNat_of_lt' (show n % 256 < 256 by omega)]; omega
  rw [Bool.eq_iff_iff, rs_accept_iff c _ _ _ _ hexp hcl]
  simp [acceptSpec, specB, h1, h2]

end Table

open Table in
/-- all 2^16 values of octets 1–2 (reserved octets zero), both roles, both frameworks, with the
server supporting every RAWSOCKET_SERIALIZER_ID that wamp/serializer.py defines and the client asking
for JSON: the model accepts exactly when octet 1 is 0x7F and the serializer nibble is supported.
These are four instances of `rs_accept_iff`. The two Twisted rows hold for every value of the reserved octets
(`tw_ignores_reserved`); on asyncio all handshakes with a non-zero reserved octet fare alike (`rs_reserved_symbolic`), and
`rs_accept_iff` says that they are refused. -/
theorem rs_accept_table (n : Nat) (hn : n < 65536) :
    (twServerHs genIds 15 (o1 n) (o2 n) 0 0).accepted = specB genIds n ∧
    (twClientHs 1 (o1 n) (o2 n) 0 0).accepted = specB [1] n ∧
    (aioServerHs genIds 15 (o1 n) (o2 n) 0 0).accepted = specB genIds n ∧
    (aioClientHs 1 (o1 n) (o2 n) 0 0).accepted = specB [1] n := by
  have client (v : Variant) : (⟨v, .client, [1], 15, 0⟩ : Cfg).role = .client →
      ∃ m, [1] = [m] ∧ (v = .asyncio → m ≠ 0) := fun _ => ⟨1, rfl, fun _ => by decide⟩
  exact ⟨accepted_eq_specB ⟨.twisted, .server, genIds, 15, 0⟩ (Nat.le_refl _) nofun n hn,
    accepted_eq_specB ⟨.twisted, .client, [1], 15, 0⟩ (Nat.le_refl _) (client _) n hn,
    accepted_eq_specB ⟨.asyncio, .server, genIds, 15, 0⟩ (Nat.le_refl _) nofun n hn,
    accepted_eq_specB ⟨.asyncio, .client, [1], 15, 0⟩ (Nat.le_refl _) (client _) n hn⟩

/-- the ids the table ranges over -/
example : Table.genIds = [1, 2, 3, 4, 5] := by decide

/-- the 4-octet prefix `struct.pack("!L"/"!I", n)` of a payload that fits the 24-bit length field is the header of a
data frame: type octet 0, then the length -/
theorem be32enc_data_header (n : Nat) (h : n ≤ frameMax) : be32enc n = frameHeader 0 n := by
  simp only [frameMax] at h
  have h0 : n / 16777216 % 256 = 0 := by omega
  simp [be32enc, frameHeader, h0]

/-- `len > min(limit, 2**24 - 1)`, the comparison all three guards make -/
theorem capped_lt_iff (m len : Nat) : capped m 16777215 < len ↔ ¬ (len ≤ m ∧ len ≤ frameMax) := by
  simp only [capped, frameMax, show ¬ (16777215 = 0) by decide, if_false]
  omega

/-- both send guards are the Spec's: refuse with `PayloadExceededError` unless the payload is within the peer's announced
maximum *and* fits the length field (the caps and the class raised are read from the source) -/
theorem sendGuard_eq_spec (v : Variant) (m len : Nat) (hm : 0 < m) : sendGuard v m len = sendGuardSpec m len := by
  have hpos : 0 < capped m 16777215 := by
    simp only [capped, show ¬ (16777215 = 0) by decide, if_false]; omega
  cases v <;>
    simp only [sendGuard, sendGuardSpec, WampTransport.twSendFrameCap, WampTransport.aioSendFrameCap,
      WampTransport.aioSendOverLimitExc, excOfCode, gt_iff_lt, hpos, true_and, capped_lt_iff, ite_not]

theorem sendGuard_none_iff (v : Variant) (m len : Nat) (hm : 0 < m) :
    sendGuard v m len = none ↔ len ≤ m ∧ len ≤ frameMax := by
  rw [sendGuard_eq_spec v m len hm, sendGuardSpec]
  split <;> simp [*]

def RsLimitsErrorClassFull : Prop := ∀ (v : Variant) (m : Nat) (p : Bytes), 0 < m → send v m p = sendSpec m p

/-- **the send side is exactly the Spec** — a payload within the announced maximum that fits the length field goes out as
one data frame; any other is refused with `PayloadExceededError` (which the WAMP session layer catches to send its fallback
ERROR) and nothing is written. (F14: an asyncio transport that raises `ValueError` here; the class raised is read from
the source into `aioSendOverLimitExc`. N2: guards without the 24-bit cap misframe exactly 2^24 octets.) -/
theorem rs_limits_error_class (v : Variant) (m : Nat) (p : Bytes) (hm : 0 < m) : send v m p = sendSpec m p := by
  simp only [send, sendSpec, sendGuard_eq_spec v m p.length hm, sendGuardSpec]
  by_cases hb : p.length ≤ m ∧ p.length ≤ frameMax
  · simp only [if_pos hb, be32enc_data_header _ hb.2, encodeFrame]
  · simp only [if_neg hb]

theorem rs_limits_error_class_full : RsLimitsErrorClassFull := rs_limits_error_class

/-- **A sender never emits a message longer than the maximum the peer announced, nor one that does not fit the 24-bit
length field; it gets an error instead** — and what it emits is exactly one data frame: type octet 0, the 24-bit
length, the payload. (N2: exponent 15 nominally admits a payload of exactly 2^24 octets, which without the cap goes out
with prefix `01 00 00 00`; the caps are read from the source, `twSendFrameCap`, `aioSendFrameCap`.) -/
theorem rs_limits (v : Variant) (m : Nat) (p : Bytes) (hm : 0 < m) :
    (∀ w, send v m p = .sent w → p.length ≤ m ∧ p.length ≤ frameMax ∧ w = encodeFrame 0 p) ∧
    (∀ e, send v m p = .error e → m < p.length ∨ frameMax < p.length) := by
  rw [rs_limits_error_class v m p hm, sendSpec, sendGuardSpec]
  by_cases hb : p.length ≤ m ∧ p.length ≤ frameMax
  · rw [if_pos hb]
    exact ⟨fun w hw => ⟨hb.1, hb.2, (SendOut.sent.inj hw).symm⟩, fun e he => nomatch he⟩
  · rw [if_neg hb]
    exact ⟨fun w hw => (nomatch hw), fun e _ => by omega⟩

/-- the same one level down: asyncio `PrefixProtocol.sendString` called directly never writes a frame longer than the
peer's announced maximum, nor one whose length does not fit the length field (it raises) -/
theorem send_string_limits (m len : Nat) : aioSendStringGuard m len = none ↔ len ≤ m ∧ len ≤ frameMax := by
  simp only [aioSendStringGuard, WampTransport.aioSendStringFrameCap, gt_iff_lt, capped_lt_iff, ite_not]
  split <;> simp [*]

/-- the limit in force after a handshake is the one the peer announced -/
theorem rs_limits_after_handshake (c : Cfg) (o1 o2 o3 o4 : UInt8) (p : Bytes) (m : Nat)
    (h : (hsEval c o1 o2 o3 o4).accepted = true) (hm : (hsEval c o1 o2 o3 o4).maxSend = some m) :
    ∀ w, send c.variant m p = .sent w → p.length ≤ 2 ^ (9 + hiNibble o2) ∧ p.length < 2 ^ 24 := by
  obtain ⟨w', hw', -⟩ := accepted_form c o1 o2 o3 o4 h
  rw [hw'] at hm
  simp only [Option.some.injEq, maxLenOfExp] at hm
  intro w hw
  have hpos : 0 < m := by rw [← hm]; exact Nat.two_pow_pos _
  have := (rs_limits c.variant m p hpos).1 w hw
  simp only [frameMax] at this
  omega

/-- the F14 input: asyncio, peer maximum 2^9, 513 octets: `PayloadExceededError` -/
example : sendGuard .asyncio 512 513 = some .payloadExceeded ∧ sendGuardSpec 512 513 = some .payloadExceeded := by decide

/-- the N2 input: the peer announced 2^24 (exponent 15): 2^24 - 1 octets go out, exactly 2^24 are refused, by both
frameworks and by `sendString` as well -/
example : sendGuard .twisted 16777216 16777215 = none ∧ sendGuard .twisted 16777216 16777216 = some .payloadExceeded ∧
    sendGuard .asyncio 16777216 16777215 = none ∧ sendGuard .asyncio 16777216 16777216 = some .payloadExceeded ∧
    aioSendStringGuard 16777216 16777216 = some .valueError ∧ sendGuardSpec 16777216 16777216 = some .payloadExceeded := by decide

/-- **For every chunking, the frames delivered are those of the whole-stream length-prefix parse** (both framings). -/
theorem prefix_refines_spec (F : Framing) (cs : List Bytes) :
    feedAll F (some PSt.init) cs = canon F (parseStream F cs.flatten) :=
  feedAll_eq_parse F cs PSt.init (inv_init F)

theorem prefix_chunking_irrelevant (F : Framing) (cs cs' : List Bytes) (h : cs.flatten = cs'.flatten) :
    feedAll F (some PSt.init) cs = feedAll F (some PSt.init) cs' := by
  rw [prefix_refines_spec, prefix_refines_spec, h]

/-- **every chunking of a framed stream delivers exactly its frames, in order** -/
theorem framed_delivery (F : Framing) (cs : List Bytes) (evs : List Ev) (r : Option Bytes)
    (h : Framed F cs.flatten evs r) :
    (feedAll F (some PSt.init) cs).2 = evs ∧
    ((feedAll F (some PSt.init) cs).1 = none ↔ r = none) := by
  rw [feedAll_framed F cs h]
  cases r <;> simp [canon_none, canon_some]

/-- the three length octets `struct.pack("!L", n)[1:]` read back as `n` modulo 2^24 -/
theorem be24_enc (n : Nat) :
    be24 (UInt8.ofNat (n / 65536 % 256)) (UInt8.ofNat (n / 256 % 256)) (UInt8.ofNat (n % 256)) = n % 16777216 := by
  have small (x : Nat) : (UInt8.ofNat (x % 256)).toNat = x % 256 :=
    UInt8.toNat_ofNat_of_lt' (show x % 256 < 256 by omega)
  rw [be24, small, small, small]
  omega

/-- asyncio: a header with a known type (`header[0] & 7 ≤ PONG`) and a 24-bit length within the limit announces a frame;
every other header closes the transport -/
theorem aio_judge_eq (max : Nat) (b0 b1 b2 b3 : UInt8) : (aioFraming max).judge b0 b1 b2 b3 =
    if b0.toNat &&& 7 ≤ 2 ∧ be24 b1 b2 b3 ≤ max then .frame (b0.toNat &&& 7) (be24 b1 b2 b3)
    else .reject [.tclose .close] := by
  simp only [aioFraming, WampTransport.aioTypeMask, WampTransport.aioTypePong, gt_iff_lt, ← Nat.not_le]
  by_cases ht : b0.toNat &&& 7 ≤ 2 <;> by_cases hl : be24 b1 b2 b3 ≤ max <;> simp [ht, hl]

/-- Twisted: a 32-bit length within `MAX_LENGTH` announces a string; a longer one aborts the transport
(what `lengthLimitExceeded` does is read from the source into `twLengthLimitAction`) -/
theorem tw_judge_eq (max : Nat) (b0 b1 b2 b3 : UInt8) : (twFraming max).judge b0 b1 b2 b3 =
    if be32 b0 b1 b2 b3 ≤ max then .frame 0 (be32 b0 b1 b2 b3) else .reject [.tclose .abort] := by
  have : twLimitEvents = [.tclose .abort] := by decide
  simp only [twFraming, this, gt_iff_lt, ← Nat.not_le, ite_not]

/-- asyncio: the header of a frame of type `t ≤ 2` that fits is judged "frame of type `t` and that length" -/
theorem aio_judge_frame (max t : Nat) (ht : t ≤ 2) (p : Bytes) (h1 : p.length ≤ max) (h2 : p.length < 16777216) :
    (aioFraming max).judge (UInt8.ofNat t) (UInt8.ofNat (p.length / 65536 % 256))
      (UInt8.ofNat (p.length / 256 % 256)) (UInt8.ofNat (p.length % 256)) = .frame t p.length := by
  have : t = 0 ∨ t = 1 ∨ t = 2 := by omega
  rcases this with rfl | rfl | rfl <;> simp [aio_judge_eq, be24_enc, Nat.mod_eq_of_lt h2, h1]

/-- Twisted: the 32-bit header of a string that fits -/
theorem tw_judge_data (max : Nat) (p : Bytes) (h1 : p.length ≤ max) (h2 : p.length < 4294967296) :
    (twFraming max).judge (UInt8.ofNat (p.length / 16777216 % 256)) (UInt8.ofNat (p.length / 65536 % 256))
      (UInt8.ofNat (p.length / 256 % 256)) (UInt8.ofNat (p.length % 256)) = .frame 0 p.length := by
  have e : be32 (UInt8.ofNat (p.length / 16777216 % 256)) (UInt8.ofNat (p.length / 65536 % 256))
      (UInt8.ofNat (p.length / 256 % 256)) (UInt8.ofNat (p.length % 256)) = p.length := by
    rw [be32, be24_enc, UInt8.toNat_ofNat_of_lt' (show p.length / 16777216 % 256 < 256 by omega)]
    omega
  rw [tw_judge_eq, e, if_pos h1]

/-- what the WAMP RawSocket Spec asks of the receiver of one complete frame `(type, payload)`: a regular message (type 0)
is handed on, a PING (type 1) is answered with exactly one PONG (type 2) that echoes the payload, a PONG is consumed -/
def frameSpec : Nat × Bytes → List Ev
  | (0, p) => [.string p]
  | (1, p) => [.written (encodeFrame 2 p)]
  | _ => []

theorem mem_frameSpec {t : Nat} {p : Bytes} {e : Ev} (h : e ∈ frameSpec (t, p)) :
    e = .string p ∨ e = .written (encodeFrame 2 p) := by
  match t with
  | 0 => exact Or.inl (List.mem_singleton.mp h)
  | 1 => exact Or.inr (List.mem_singleton.mp h)
  | t + 2 => cases h

/-- the stream of frames `fs` (type, payload), followed by `tailS` -/
def aioFrames (fs : List (Nat × Bytes)) (tailS : Bytes) : Bytes :=
  (fs.map (fun f => encodeFrame f.1 f.2)).flatten ++ tailS

/-- the reply `ping()` writes is the PONG frame of the Spec -/
theorem aioPingReply_eq (p : Bytes) : aioPingReply p = encodeFrame 2 p := by
  simp [aioPingReply, encodeFrame, frameHeader, be32enc, WampTransport.aioPingReplyType]

/-- asyncio serves a complete frame as the Spec asks: a message is handed to `stringReceived`, a PING is answered with one
PONG, anything else is consumed; the callback never raises -/
theorem aio_dispatch_eq (t : Nat) (p : Bytes) : aioDispatch t p = (frameSpec (t, p), false) := by
  match t with
  | 0 => simp [aioDispatch, frameSpec, WampTransport.aioTypeData]
  | 1 => simp [aioDispatch, frameSpec, WampTransport.aioTypeData, WampTransport.aioTypePing, WampTransport.aioPingRaises,
      aioPingReply_eq]
  | t + 2 => simp [aioDispatch, frameSpec, WampTransport.aioTypeData, WampTransport.aioTypePing, WampTransport.aioPongRaises]

theorem aio_framed_typed (max : Nat) (fs : List (Nat × Bytes))
    (hfs : ∀ f ∈ fs, f.1 ≤ 2 ∧ f.2.length ≤ max ∧ f.2.length < 16777216)
    (tailS : Bytes) (evs : List Ev) (r : Option Bytes) (ht : Framed (aioFraming max) tailS evs r) :
    Framed (aioFraming max) (aioFrames fs tailS) (fs.flatMap frameSpec ++ evs) r := by
  induction fs with
  | nil => simpa [aioFrames] using ht
  | cons f fs ih =>
    obtain ⟨t, p⟩ := f
    have hp := hfs (t, p) (by simp)
    have hd : (aioFraming max).dispatch t p = (frameSpec (t, p), false) := aio_dispatch_eq t p
    have := Framed.frame (F := aioFraming max) _ _ _ _ t p.length p (aioFrames fs tailS) _ r
      (aio_judge_frame max t hp.1 p hp.2.1 hp.2.2) rfl (by rw [hd])
      (ih (fun q hq => hfs q (by simp [hq])))
    rw [hd] at this
    simpa [aioFrames, encodeFrame, frameHeader, List.append_assoc] using this

def aioStream (ps : List Bytes) (tailS : Bytes) : Bytes := (ps.map (encodeFrame 0)).flatten ++ tailS
def twStream (ps : List Bytes) (tailS : Bytes) : Bytes := (ps.map (fun p => be32enc p.length ++ p)).flatten ++ tailS

theorem aio_framed (max : Nat) (ps : List Bytes) (hps : ∀ p ∈ ps, p.length ≤ max ∧ p.length < 16777216)
    (tailS : Bytes) (evs : List Ev) (r : Option Bytes) (ht : Framed (aioFraming max) tailS evs r) :
    Framed (aioFraming max) (aioStream ps tailS) (ps.map Ev.string ++ evs) r := by
  have hs : aioStream ps tailS = aioFrames (ps.map (Prod.mk 0)) tailS := by
    simp [aioStream, aioFrames, Function.comp_def]
  have he : ps.map Ev.string = (ps.map (Prod.mk 0)).flatMap frameSpec := by
    rw [List.flatMap_map, List.map_eq_flatMap]; rfl
  rw [hs, he]
  exact aio_framed_typed max _ (by simpa using hps) tailS evs r ht

theorem tw_framed (max : Nat) (ps : List Bytes) (hps : ∀ p ∈ ps, p.length ≤ max ∧ p.length < 4294967296)
    (tailS : Bytes) (evs : List Ev) (r : Option Bytes) (ht : Framed (twFraming max) tailS evs r) :
    Framed (twFraming max) (twStream ps tailS) (ps.map Ev.string ++ evs) r := by
  induction ps with
  | nil => simpa [twStream] using ht
  | cons p ps ih =>
    have hp := hps p (by simp)
    have := Framed.frame (F := twFraming max) _ _ _ _ 0 p.length p (twStream ps tailS) _ r
      (tw_judge_data max p hp.1 hp.2) rfl (by simp [twFraming])
      (ih (fun q hq => hps q (by simp [hq])))
    simpa [twStream, be32enc, twFraming, List.append_assoc] using this

/-- **intact, in order, under any segmentation** (asyncio): data frames `ps` followed by an unfinished
frame are delivered as exactly `ps`, and the connection stays open holding the unfinished part -/
theorem aio_delivers (max : Nat) (ps : List Bytes) (hps : ∀ p ∈ ps, p.length ≤ max ∧ p.length < 16777216)
    (tailS : Bytes) (ht : Settled (aioFraming max) tailS) (cs : List Bytes)
    (hcs : cs.flatten = aioStream ps tailS) :
    feedAll (aioFraming max) (some PSt.init) cs =
      (some ⟨tailS, hdrOf (aioFraming max) tailS⟩, ps.map Ev.string) := by
  have hf := aio_framed max ps hps tailS [] (some tailS) (Framed.tail tailS ht)
  rw [feedAll_framed _ cs (hcs ▸ hf), canon_some, List.append_nil]

theorem tw_delivers (max : Nat) (ps : List Bytes) (hps : ∀ p ∈ ps, p.length ≤ max ∧ p.length < 4294967296)
    (tailS : Bytes) (ht : Settled (twFraming max) tailS) (cs : List Bytes)
    (hcs : cs.flatten = twStream ps tailS) :
    feedAll (twFraming max) (some PSt.init) cs =
      (some ⟨tailS, hdrOf (twFraming max) tailS⟩, ps.map Ev.string) := by
  have hf := tw_framed max ps hps tailS [] (some tailS) (Framed.tail tailS ht)
  rw [feedAll_framed _ cs (hcs ▸ hf), canon_some, List.append_nil]

/-- **a declared length above the local maximum is rejected on the header alone** (asyncio): after any
data frames, a header whose 24-bit length exceeds `max` closes the transport; `rest` — whatever follows
the header, *including nothing at all* — plays no role, so no payload octet of that frame is ever waited
for or handed on, under any segmentation -/
theorem aio_oversize_rejected (max : Nat) (ps : List Bytes) (hps : ∀ p ∈ ps, p.length ≤ max ∧ p.length < 16777216)
    (b0 b1 b2 b3 : UInt8) (hbig : be24 b1 b2 b3 > max) (rest : Bytes) (cs : List Bytes)
    (hcs : cs.flatten = aioStream ps (b0 :: b1 :: b2 :: b3 :: rest)) :
    feedAll (aioFraming max) (some PSt.init) cs = (none, ps.map Ev.string ++ [.tclose .close]) := by
  have hj : (aioFraming max).judge b0 b1 b2 b3 = .reject [.tclose .close] := by
    rw [aio_judge_eq, if_neg fun h => Nat.not_le.mpr hbig h.2]
  exact feedAll_framed _ cs (hcs ▸ aio_framed max ps hps _ _ none (Framed.reject b0 b1 b2 b3 rest _ hj))

/-- Twisted: the same decision point (`length > MAX_LENGTH` → `lengthLimitExceeded` before anything is
waited for), and the same orderly outcome: the transport is aborted, no exception leaves `dataReceived`
(N1: an override of `lengthLimitExceeded` that raises `PayloadExceededError` instead; what the override does is read
from the source into `twLengthLimitAction`) -/
theorem tw_oversize_rejected (max : Nat) (ps : List Bytes) (hps : ∀ p ∈ ps, p.length ≤ max ∧ p.length < 4294967296)
    (b0 b1 b2 b3 : UInt8) (hbig : be32 b0 b1 b2 b3 > max) (rest : Bytes) (cs : List Bytes)
    (hcs : cs.flatten = twStream ps (b0 :: b1 :: b2 :: b3 :: rest)) :
    feedAll (twFraming max) (some PSt.init) cs = (none, ps.map Ev.string ++ [.tclose .abort]) := by
  have hj : (twFraming max).judge b0 b1 b2 b3 = .reject [.tclose .abort] := by
    rw [tw_judge_eq, if_neg (Nat.not_le.mpr hbig)]
  exact feedAll_framed _ cs (hcs ▸ tw_framed max ps hps _ _ none (Framed.reject b0 b1 b2 b3 rest _ hj))

/-- **PING is answered, PONG is consumed, messages are delivered — in order, under any segmentation** (asyncio): a stream of
complete frames of the three types (each within the local maximum) followed by an unfinished frame produces exactly the
events the Spec asks for, frame by frame; nothing is closed, nothing is raised, and the connection goes on holding the
unfinished part. (F13: `ping()` / `pong()` that raise `NotImplementedError`, which then leaves `data_received`; whether
they do is read from the source into `aioPingRaises`, `aioPongRaises`.) -/
theorem aio_serves (max : Nat) (fs : List (Nat × Bytes))
    (hfs : ∀ f ∈ fs, f.1 ≤ 2 ∧ f.2.length ≤ max ∧ f.2.length < 16777216)
    (tailS : Bytes) (ht : Settled (aioFraming max) tailS) (cs : List Bytes)
    (hcs : cs.flatten = aioFrames fs tailS) :
    feedAll (aioFraming max) (some PSt.init) cs =
      (some ⟨tailS, hdrOf (aioFraming max) tailS⟩, fs.flatMap frameSpec) := by
  have hf := aio_framed_typed max fs hfs tailS [] (some tailS) (Framed.tail tailS ht)
  rw [feedAll_framed _ cs (hcs ▸ hf), canon_some, List.append_nil]

/-- **what a connection can emit after its handshake**, whatever the octets and however they are cut: it closes or aborts the
transport (a refused header), hands a string to `stringReceived`, or answers a PING with the PONG of the same payload -/
theorem framing_emits (c : Cfg) (cs : List Bytes) : ∀ e ∈ (feedAll (framingOf c) (some PSt.init) cs).2,
    (∃ k, e = .tclose k) ∨ (∃ p, e = .string p) ∨ ∃ p, e = .written (encodeFrame 2 p) := by
  refine feedAll_events_src (framingOf c) _ ?_ ?_ cs
  · intro b0 b1 b2 b3 evs hj e he
    -- either judge is an `if` (`*_judge_eq`) whose `frame` branch is no `reject` and whose other branch emits one `tclose`
    cases hv : c.variant <;> simp only [framingOf, hv, tw_judge_eq, aio_judge_eq] at hj <;> split at hj <;> cases hj <;>
      exact Or.inl ⟨_, List.mem_singleton.mp he⟩
  · intro k p e he
    -- Twisted hands every string on, as the Spec asks for a frame of type 0
    have : e ∈ frameSpec (0, p) ∨ e ∈ frameSpec (k, p) := by
      cases hv : c.variant <;> simp only [framingOf, hv] at he
      · exact Or.inl he
      · exact Or.inr (by rwa [show (aioFraming c.maxRecv).dispatch k p = _ from aio_dispatch_eq k p] at he)
    exact Or.inr ((this.elim mem_frameSpec mem_frameSpec).imp (⟨p, ·⟩) (⟨p, ·⟩))

theorem feedAll_no_attach (c : Cfg) (cs : List Bytes) (ser ms : Nat) :
    Ev.attach ser ms ∉ (feedAll (framingOf c) (some PSt.init) cs).2 := fun h => by
  rcases framing_emits c cs _ h with ⟨_, h⟩ | ⟨_, h⟩ | ⟨_, h⟩ <;> cases h

theorem aio_writes_only_pongs (max : Nat) (cs : List Bytes) (w : Bytes)
    (h : Ev.written w ∈ (feedAll (aioFraming max) (some PSt.init) cs).2) : ∃ p, w = encodeFrame 2 p := by
  rcases framing_emits ⟨.asyncio, .server, [], 0, max⟩ cs _ h with ⟨_, h⟩ | ⟨_, h⟩ | ⟨p, h⟩
  · cases h
  · cases h
  · exact ⟨p, Ev.written.inj h⟩

def PrefixNeverRaisesFull (F : Framing) : Prop :=
  ∀ (cs : List Bytes) (e : Exc), Ev.raised e ∉ (feedAll F (some PSt.init) cs).2

/-- **after the handshake no stream, however cut, makes an exception leave `dataReceived` / `data_received`** (both
frameworks; PING and PONG frames, over-long headers and headers of unknown type included) -/
theorem prefix_never_raises (c : Cfg) : PrefixNeverRaisesFull (framingOf c) := by
  intro cs e h
  rcases framing_emits c cs _ h with ⟨_, h⟩ | ⟨_, h⟩ | ⟨_, h⟩ <;> cases h

/-- the F13 inputs (asyncio, after the handshake): the PING frame `01 00 00 01 41` is answered with the PONG
`02 00 00 01 41`, the PONG frame `02 00 00 00` is consumed; the connection stays open with an empty buffer -/
example : feedAll (aioFraming 16777216) (some PSt.init) [[0x01, 0x00, 0x00, 0x01, 0x41]]
    = (some PSt.init, [.written [0x02, 0x00, 0x00, 0x01, 0x41]]) := by decide
example : feedAll (aioFraming 16777216) (some PSt.init) [[0x02, 0x00], [0x00, 0x00]] = (some PSt.init, []) := by decide

/-- the N1 input: Twisted, `MAX_LENGTH = 512`, header declaring 513 octets: the transport is aborted, nothing is
raised; a PING header is an over-long length to Twisted -/
example : feedAll (twFraming 512) (some PSt.init) [[0x00, 0x00], [0x02, 0x01]] = (none, [.tclose .abort]) := by decide
example : feedAll (twFraming 16777216) (some PSt.init) [[0x01, 0x00, 0x00, 0x01, 0x41]] = (none, [.tclose .abort]) := by decide

/-- **a message a sender emits is delivered intact by a receiver of either framework whose own maximum admits it, however
TCP cuts it**: the wire form is one data frame that both framings read as exactly that payload — there is no length
for which the 4-octet prefix means something else. (N2: a payload of exactly 2^24 octets sent with prefix
`01 00 00 00` is, to an asyncio receiver, a PING of length 0 followed by garbage.) -/
theorem rs_send_delivered (v : Variant) (m : Nat) (p w : Bytes) (hm : 0 < m) (hs : send v m p = .sent w)
    (c : Cfg) (hr : p.length ≤ c.maxRecv) (cs : List Bytes) (hcs : cs.flatten = w) :
    feedAll (framingOf c) (some PSt.init) cs = (some PSt.init, [.string p]) := by
  obtain ⟨_, hfm, rfl⟩ := (rs_limits v m p hm).1 w hs
  have hp : ∀ q ∈ [p], q.length ≤ c.maxRecv ∧ q.length < 16777216 := by
    simp only [frameMax] at hfm
    simpa using ⟨hr, by omega⟩
  have hset (F : Framing) : Settled F [] := settled_short F [] (by decide)
  cases hv : c.variant <;> simp only [framingOf, hv]
  · exact tw_delivers c.maxRecv [p] (fun q hq => ⟨(hp q hq).1, by have := (hp q hq).2; omega⟩) [] (hset _) cs
      (by rw [hcs, encodeFrame, ← be32enc_data_header _ hfm]; simp [twStream])
  · exact aio_delivers c.maxRecv [p] hp [] (hset _) cs (by rw [hcs]; simp [aioStream])

/-- concrete segmentation instance: three reads cutting through headers and payloads -/
example : (feedAll (aioFraming 100) (some PSt.init) [[0, 0, 0], [2, 65, 66, 0], [0, 0, 1, 67, 0, 0]]).2
    = [.string [65, 66], .string [67]] := by decide

/-- **Any split of the byte stream into reads gives the same outcome**: for every configuration (both
roles, both frameworks) and every list of reads — any number, any sizes, empty reads included — the
events (reply octets, session attachment, delivered strings, close/abort, exceptions) and the final
phase equal those of one read of the concatenation. -/
theorem rs_hs_segmentation_independent (c : Cfg) (cs : List Bytes) :
    connFeedAll c Phase.init cs = connFeed c Phase.init cs.flatten :=
  (conn_segmentation c cs [] (by decide)).trans (connFeed_hs c [] _ (by decide)).symm

/-- in particular every split of the four handshake octets evaluates the handshake exactly once, on
those four octets -/
theorem rs_hs_four_octets (c : Cfg) (cs : List Bytes) (o1 o2 o3 o4 : UInt8) (h : cs.flatten = [o1, o2, o3, o4]) :
    connFeedAll c Phase.init cs =
      ((if (hsEval c o1 o2 o3 o4).accepted then .established PSt.init else .dead),
       hsEvents (hsEval c o1 o2 o3 o4)) := by
  rw [connFeedAll_init, h]
  simp only [hsStep, split4, finishHs]
  split <;> simp

theorem rs_segmentations_agree (c : Cfg) (cs cs' : List Bytes) (h : cs.flatten = cs'.flatten) :
    connFeedAll c Phase.init cs = connFeedAll c Phase.init cs' := by
  rw [connFeedAll_init, connFeedAll_init, h]

/-- fewer than four octets: nothing is written, nothing is attached, nothing is closed — the connection waits -/
theorem rs_hs_waits (c : Cfg) (cs : List Bytes) (h : cs.flatten.length < 4) :
    connFeedAll c Phase.init cs = (.handshake cs.flatten, []) := by
  rw [connFeedAll_init, hsStep, split4_none.mpr h]

/-- a session is attached only by an acceptable handshake: if the events of any read sequence contain
`attach`, the first four octets of the stream satisfied the Spec -/
theorem rs_attach_only_if_acceptable (c : Cfg) (cs : List Bytes) (ser ms : Nat) (hexp : c.exp ≤ 15)
    (hcl : c.role = .client → ∃ m, c.supported = [m] ∧ (c.variant = .asyncio → m ≠ 0))
    (h : Ev.attach ser ms ∈ (connFeedAll c Phase.init cs).2) :
    ∃ o1 o2 o3 o4 rest, cs.flatten = o1 :: o2 :: o3 :: o4 :: rest ∧ acceptSpec c.variant c.supported o1 o2 o3 o4 ∧
      ser = loNibble o2 ∧ ms = maxLenOfExp (hiNibble o2) := by
  obtain ⟨o1, o2, o3, o4, rest, hfl, h⟩ := conn_events_src c cs _ h
  refine ⟨o1, o2, o3, o4, rest, hfl, ?_⟩
  rcases h with h | ⟨_, h⟩
  · obtain ⟨ha, hs, hm⟩ := (attach_mem_hsEvents _ _ _).mp h
    obtain ⟨w, hw, -⟩ := accepted_form c o1 o2 o3 o4 ha
    rw [hw] at hs hm
    exact ⟨(rs_accept_iff c o1 o2 o3 o4 hexp hcl).mp ha, hs, hm⟩
  · exact absurd h (feedAll_no_attach c _ _ _)

/-- **no exception leaves `dataReceived` / `data_received` during the whole life of a connection**: handshake (valid or
not, any role, either framework) followed by any octets whatsoever, cut into reads in any way -/
theorem rs_never_raises (c : Cfg) (hexp : c.exp ≤ 15) (cs : List Bytes) (e : Exc) :
    Ev.raised e ∉ (connFeedAll c Phase.init cs).2 := by
  intro h
  obtain ⟨o1, o2, o3, o4, rest, _, h⟩ := conn_events_src c cs _ h
  rcases h with h | ⟨_, h⟩
  · rw [raised_mem_hsEvents] at h
    cases ha : (hsEval c o1 o2 o3 o4).accepted with
    | true =>
      obtain ⟨w, hw, -⟩ := accepted_form c o1 o2 o3 o4 ha
      rw [hw] at h; cases h
    | false => rw [(rs_refuse_clean c o1 o2 o3 o4 hexp ha).1] at h; cases h
  · exact prefix_never_raises c [rest] e h

/-- **fail closed**: whatever `unserialize` / `session.onMessage` raises (other than Twisted's
`CancelledError`, which is an internal cancellation, not peer input), the transport is aborted -/
theorem ladder_fail_closed (v : Variant) (e : Exc) (h : ¬ (v = .twisted ∧ e = .cancelled)) :
    ladder v e = .abort := by
  cases v <;> cases e <;> simp_all [ladder]

/-- `told`, plus one while a session is attached, grows only at `attach` -/
theorem lrun_told_le (s : LSt) (h : List LEv) :
    (lrun s h).told + (lrun s h).session.toNat ≤ s.told + s.session.toNat + h.count .attach := by
  induction h generalizing s with
  | nil => exact Nat.le_refl _
  | cons e es ih =>
    have := ih (lstep s e)
    simp only [lrun, List.foldl_cons] at this ⊢
    -- one step: `attach` sets `session`, raising the left side by at most one; `lost` moves one from `session` to `told`
    cases e <;> cases hs : s.session <;> simp [lstep, hs] at this ⊢ <;> omega

/-- **the session is told at most once** that the transport is gone, whatever the order and number of
`connectionLost` / `onClose` notifications (a transport object attaches at most one session) -/
theorem session_told_once (h : List LEv) (h1 : h.count .attach ≤ 1) : (lrun ⟨false, 0⟩ h).told ≤ 1 := by
  have := lrun_told_le ⟨false, 0⟩ h
  simp only [Bool.toNat_false] at this
  omega

theorem lrun_no_session (l : List LEv) (s : LSt) (hl : l.count .attach = 0) (hs : s.session = false) :
    lrun s l = s := by
  induction l with
  | nil => rfl
  | cons e es ih =>
    cases e with
    | attach => simp at hl
    | lost =>
      simp only [lrun, List.foldl_cons, lstep, hs]
      exact ih (by simpa using hl)

/-- … and exactly once when a session was attached and the transport was then lost -/
theorem session_told_exactly_once (pre mid post : List LEv) (hpre : pre.count .attach = 0)
    (hmid : mid.count .attach = 0) (hpost : post.count .attach = 0) :
    (lrun ⟨false, 0⟩ (pre ++ [.attach] ++ mid ++ [.lost] ++ post)).told = 1 := by
  have e1 : lrun ⟨false, 0⟩ (pre ++ [.attach] ++ mid ++ [.lost] ++ post)
      = lrun (lrun (lstep (lrun ⟨false, 0⟩ pre) .attach) (mid ++ [.lost])) post := by
    simp [lrun, List.foldl_append]
  -- the first `lost` after the `attach` tells the session and detaches it
  have e2 : lrun (lstep ⟨false, 0⟩ .attach) (mid ++ [.lost]) = ⟨false, 1⟩ := by
    cases mid with
    | nil => rfl
    | cons e es =>
      cases e with
      | attach => simp at hmid
      | lost => exact lrun_no_session (es ++ [.lost]) ⟨false, 1⟩ (by simpa [List.count_append] using hmid) rfl
  rw [e1, lrun_no_session pre _ hpre rfl, e2, lrun_no_session post _ hpost rfl]

example : (lrun ⟨false, 0⟩ [.lost, .attach, .lost, .lost, .lost]).told = 1 := by decide

/-! ## non-vacuity: concrete instances of the hypotheses used above -/

-- rs_accept_iff / rs_same_serializer: an asyncio client (exp 15, JSON) against a Twisted server announcing 2^12
example : clientRequest .asyncio 15 1 = some [0x7F, 0xF1, 0, 0] := by decide
example : acceptSpec .twisted [1, 3] 0x7F 0xF1 0 0 := by decide
example : hsEval ⟨.twisted, .server, [1, 3], 3, 4096⟩ 0x7F 0xF1 0 0 =
    { accepted := true, ser := 1, maxSend := some 16777216, written := [0x7F, 0x31, 0, 0], tclose := .none, exc := none } := by
  decide
example : hsEval ⟨.asyncio, .client, [1], 15, 16777216⟩ 0x7F 0x31 0 0 =
    { accepted := true, ser := 1, maxSend := some 4096, written := [], tclose := .none, exc := none } := by decide
-- refusals
example : (hsEval ⟨.twisted, .server, [1], 15, 16777216⟩ 0x7E 0xF1 0 0).tclose = .abort := by decide
example : (hsEval ⟨.asyncio, .client, [1], 15, 16777216⟩ 0x7F 0xF1 0 1).tclose = .close := by decide
example : (hsEval ⟨.twisted, .client, [1], 15, 16777216⟩ 0x7F 0xF1 0 1).accepted = true := by decide
-- rs_hs_segmentation_independent: five reads (one empty) through handshake and a frame, asyncio server
example : connFeedAll ⟨.asyncio, .server, [1], 15, 16777216⟩ Phase.init
      [[0x7F], [], [0x11, 0], [0, 0, 0, 0, 1], [0x41, 0]]
    = (.established ⟨[0], none⟩, [.written [0x7F, 0xF1, 0, 0], .attach 1 1024, .string [0x41]]) := by decide
-- aio_delivers / tw_delivers: settled tails (too short for a header; a header still waiting for its payload)
example : Settled (aioFraming 100) [0, 0, 0] := settled_short _ _ (by decide)
example : Settled (aioFraming 100) [0, 0, 0, 5, 1, 2] := settled_incomplete _ 0 0 0 5 [1, 2] 0 5 (by decide) (by decide)
example : Settled (twFraming 512) [0, 0, 2] := settled_short _ _ (by decide)
/-- `aio_serves`: a message, a PING, a PONG, another message, then an unfinished frame — cut through headers and payloads -/
example : (∀ f ∈ [(0, [65]), (1, [66, 67]), (2, [68]), (0, [])], f.1 ≤ 2 ∧ f.2.length ≤ 100 ∧ f.2.length < 16777216) ∧
    Settled (aioFraming 100) [1, 0, 0] := by
  exact ⟨by decide, settled_short _ _ (by decide)⟩
example : feedAll (aioFraming 100) (some PSt.init) [[0, 0, 0], [1, 65, 1, 0, 0, 2, 66], [67, 2, 0, 0, 1, 68, 0, 0, 0], [0, 1, 0, 0]]
    = (some ⟨[1, 0, 0], none⟩, [.string [65], .written [2, 0, 0, 2, 66, 67], .string []]) := by decide
/-- `rs_never_raises`: handshake, PING and an ill-typed frame in one read (asyncio server); an over-long header (Twisted client) -/
example : connFeedAll ⟨.asyncio, .server, [1], 15, 16777216⟩ Phase.init [[0x7F, 0x11, 0, 0, 1, 0, 0, 1, 0x41, 7, 0, 0, 0]]
    = (.dead, [.written [0x7F, 0xF1, 0, 0], .attach 1 1024, .written [2, 0, 0, 1, 0x41], .tclose .close]) := by decide
example : connFeedAll ⟨.twisted, .client, [1], 0, 512⟩ Phase.init [[0x7F, 0xF1], [0, 0, 0, 0, 2], [1]]
    = (.dead, [.attach 1 16777216, .tclose .abort]) := by decide
/-- `rs_send_delivered`: three octets to a peer that announced 512 -/
example : send .asyncio 512 [1, 2, 3] = .sent [0, 0, 0, 3, 1, 2, 3] ∧ send .twisted 512 [1, 2, 3] = .sent [0, 0, 0, 3, 1, 2, 3] := by decide
-- rs_announce
example : twAnnounceExp 1000 = 1 ∧ twMaxRecv 1000 = 1024 ∧ twAnnounceExp 16777216 = 15 ∧ twAnnounceExp 512 = 0 := by decide

end Abverif.RawSocket

namespace Abverif.WsSub
open Abverif.Gen

theorem splitDot_eq (s : Str) : splitDot s = s.splitOn '.' := by
  induction s with
  | nil => rfl
  | cons c cs ih =>
    rw [splitDot, ih, List.splitOn_cons_eq_if_modifyHead]
    cases h : cs.splitOn '.' with
    | nil => exact absurd h (List.splitOn_ne_nil '.' cs)
    | cons p ps => simp only [beq_iff_eq, List.modifyHead_cons]

theorem joinDot_eq (l : List Str) : joinDot l = ['.'].intercalate l := by
  fun_induction joinDot l with
  | case1 => rfl
  | case2 a => exact List.intercalate_singleton.symm
  | case3 a b t ih => rw [ih, List.intercalate_cons_cons, List.append_assoc, List.singleton_append]

theorem splitDot_ne_nil (s : Str) : splitDot s ≠ [] :=
  splitDot_eq s ▸ List.splitOn_ne_nil '.' s

/-- `".".join(s.split("."))` is `s` -/
theorem joinDot_splitDot (s : Str) : joinDot (splitDot s) = s := by
  rw [splitDot_eq, joinDot_eq, List.intercalate_splitOn]

theorem splitDot_word (w : Str) (hw : '.' ∉ w) (rest : Str) : splitDot (w ++ '.' :: rest) = w :: splitDot rest := by
  rw [splitDot_eq, splitDot_eq, List.splitOn_append_cons_self_of_not_mem hw]

/-- the subprotocol the factory advertises for serializer id `sid` parses back to `(2, sid)` — for every
id string, dots included (`json.batched`) -/
theorem parseSub_protocol (sid : Str) : parseSub (WampTransport.wsPrefix ++ sid) = some ((2 : Int), sid) := by
  have hs : splitDot (['w', 'a', 'm', 'p'] ++ '.' :: (['2'] ++ '.' :: sid)) =
      ['w', 'a', 'm', 'p'] :: ['2'] :: splitDot sid := by
    rw [splitDot_word _ (by decide), splitDot_word _ (by decide)]
  have hi : pyInt ['2'] = some 2 := by decide
  simp only [parseSub, WampTransport.wsPrefix, List.cons_append, List.nil_append] at hs ⊢
  simp only [hs, WampTransport.wsWord, ne_eq, not_true_eq_false, if_false, hi, joinDot_splitDot]

theorem good_iff (sup : List Str) (p sid : Str) : good sup p = some sid ↔ IsGood sup p sid := by
  simp only [good, IsGood, WampTransport.wsVersion]
  cases hp : parseSub p with
  | none => simp
  | some vs =>
    obtain ⟨v, s⟩ := vs
    have h2 : Int.ofNat 2 = 2 := rfl
    simp only [List.contains_iff_mem, h2, Option.some.injEq, Prod.mk.injEq]
    constructor
    · intro h
      split at h
      · cases h; rename_i hv; exact ⟨⟨hv.1, rfl⟩, hv.2⟩
      · cases h
    · rintro ⟨⟨rfl, rfl⟩, hm⟩
      rw [if_pos ⟨rfl, hm⟩]

theorem good_none_iff (sup : List Str) (p : Str) : good sup p = none ↔ ∀ s, ¬ IsGood sup p s := by
  simp only [← good_iff, Option.eq_none_iff_forall_ne_some]

/-- `onConnect`'s `for` loop is `List.findSome?`: the strict server answers with the first protocol of the client's list
that `good` accepts, and denies when there is none -/
theorem serverOnConnect_eq (sup l : List Str) :
    serverOnConnect true sup l = (l.findSome? fun p => (good sup p).map (Sel.chosen p)).getD .deny := by
  induction l with
  | nil => rfl
  | cons q qs ih =>
    rw [serverOnConnect, List.findSome?_cons]
    cases good sup q with
    | some s => rfl
    | none => exact ih

/-- **The server selects the first protocol in the client's order of preference that is `wamp.2.<s>`
with `s` one of its serializers** … -/
theorem ws_select_first_common (sup l : List Str) (p sid : Str) :
    serverOnConnect true sup l = .chosen p sid ↔ FirstGood sup l p sid := by
  have hd (o : Option Sel) : o.getD .deny = .chosen p sid ↔ o = some (.chosen p sid) := by cases o <;> simp
  rw [serverOnConnect_eq, hd, List.findSome?_eq_some_iff]
  simp only [Option.map_eq_some_iff, Option.map_eq_none_iff, Sel.chosen.injEq, good_iff, good_none_iff, FirstGood]
  constructor
  · rintro ⟨pre, q, post, rfl, ⟨s, hg, rfl, rfl⟩, hpre⟩; exact ⟨pre, post, rfl, hg, hpre⟩
  · rintro ⟨pre, post, rfl, hg, hpre⟩; exact ⟨pre, p, post, rfl, ⟨sid, hg, rfl, rfl⟩, hpre⟩

/-- … **and refuses (HTTP 400) iff there is none** -/
theorem ws_select_none_iff (sup l : List Str) :
    serverOnConnect true sup l = .deny ↔ ∀ q ∈ l, ∀ s, ¬ IsGood sup q s := by
  induction l with
  | nil => simp [serverOnConnect]
  | cons q qs ih =>
    rw [serverOnConnect, List.forall_mem_cons, ← ih, ← good_none_iff]
    cases hg : good sup q <;> simp

theorem ws_strict_no_fallback (sup l : List Str) (o : Option Str) : serverOnConnect true sup l ≠ .fallback o := by
  induction l with
  | nil => simp [serverOnConnect]
  | cons q qs ih =>
    simp only [serverOnConnect]
    split
    · simp
    · exact ih

theorem mem_protocolsOf (cs : List Str) (p : Str) : p ∈ protocolsOf cs ↔ ∃ sid ∈ cs, p = WampTransport.wsPrefix ++ sid := by
  simp only [protocolsOf, List.mem_map]
  constructor
  · rintro ⟨a, ha, rfl⟩; exact ⟨a, ha, rfl⟩
  · rintro ⟨a, ha, rfl⟩; exact ⟨a, ha, rfl⟩

theorem isGood_protocol (sup : List Str) (id s : Str) :
    IsGood sup (WampTransport.wsPrefix ++ id) s ↔ id = s ∧ s ∈ sup := by
  simp only [IsGood, parseSub_protocol, Option.some.injEq, Prod.mk.injEq, true_and]

/-- **Both ends use the same serializer**: when a (strict) server with serializers `ss` selects `p` from the list a
client with serializers `cs` advertises, the (strict) client accepts `p`, both attach the *same* serializer id `sid`,
`sid` is one both were configured with, and `p` is literally `wamp.2.<sid>`. The statement does not speak of framing;
text or binary is a function of the serializer id alone (`binaryOf`), so equal ids frame alike. -/
theorem ws_both_same_serializer_and_framing (cs ss : List Str) (p sid : Str)
    (h : serverOnConnect true ss (protocolsOf cs) = .chosen p sid) :
    clientOnConnect true cs (some p) = .attached sid ∧ sid ∈ ss ∧ sid ∈ cs ∧ p = WampTransport.wsPrefix ++ sid := by
  obtain ⟨pre, post, hl, hg, _⟩ := (ws_select_first_common ss _ p sid).mp h
  have hp : p ∈ protocolsOf cs := by rw [hl]; simp
  obtain ⟨id, hid, rfl⟩ := (mem_protocolsOf cs p).mp hp
  obtain ⟨rfl, hss⟩ := (isGood_protocol ss id sid).mp hg
  refine ⟨?_, hss, hid, rfl⟩
  simp only [clientOnConnect]
  simp [hp, parseSub_protocol, hid]

/-- **no common serializer ⇒ refused on both sides**: the server denies, and a strict client given no
(or a foreign) subprotocol refuses to attach a session -/
theorem ws_no_common_refused (cs ss : List Str) (hdisj : ∀ sid ∈ cs, sid ∉ ss) :
    serverOnConnect true ss (protocolsOf cs) = .deny ∧ clientOnConnect true cs none = .refused := by
  constructor
  · rw [ws_select_none_iff]
    intro q hq s hg
    obtain ⟨id, hid, rfl⟩ := (mem_protocolsOf cs q).mp hq
    obtain ⟨rfl, hs⟩ := (isGood_protocol ss id s).mp hg
    exact hdisj id hid hs
  · simp [clientOnConnect]

/-- a strict client never attaches on a subprotocol it did not ask for -/
theorem ws_client_only_requested (cs : List Str) (p sid : Str) (h : clientOnConnect true cs (some p) = .attached sid) :
    p ∈ protocolsOf cs ∧ sid ∈ cs := by
  simp only [clientOnConnect] at h
  by_cases hp : p ∈ protocolsOf cs
  · cases hq : parseSub p with
    | none => simp [hp, hq] at h
    | some vs =>
      obtain ⟨v, s⟩ := vs
      by_cases hs : s ∈ cs
      · simp [hp, hq, hs] at h
        subst h
        exact ⟨hp, hs⟩
      · simp [hp, hq, hs] at h
  · simp [hp] at h

/-- framing of the installed serializers: JSON text, the others binary (batched variants alike) -/
example : binaryOf ['j', 's', 'o', 'n'] = some false ∧ binaryOf ['c', 'b', 'o', 'r'] = some true ∧
    binaryOf ['m', 's', 'g', 'p', 'a', 'c', 'k'] = some true ∧ binaryOf ['u', 'b', 'j', 's', 'o', 'n'] = some true ∧
    binaryOf ['j', 's', 'o', 'n', '.', 'b', 'a', 't', 'c', 'h', 'e', 'd'] = some false := by decide

/-- concrete instance: the client prefers cbor, the server only has json and msgpack -/
example : serverOnConnect true [['j', 's', 'o', 'n'], ['m', 's', 'g', 'p', 'a', 'c', 'k']]
    (protocolsOf [['c', 'b', 'o', 'r'], ['m', 's', 'g', 'p', 'a', 'c', 'k'], ['j', 's', 'o', 'n']])
    = .chosen (WampTransport.wsPrefix ++ ['m', 's', 'g', 'p', 'a', 'c', 'k']) ['m', 's', 'g', 'p', 'a', 'c', 'k'] := by decide

/-- undecodable data / wrong frame type / WAMP protocol violation → 1002; anything else raised while
handling a message or in `onOpen` → 1011 (constants read from the source) -/
theorem close_code_mapping :
    closeCodeOnMessage .protocolError = 1002 ∧ closeCodeOnMessage .other = 1011 ∧ closeCodeOnOpen = 1011 := by
  decide

end Abverif.WsSub

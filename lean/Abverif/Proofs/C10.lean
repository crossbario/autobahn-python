import Abverif.Proofs.Lemmas.SessReply
import Abverif.Model.SendTable
/-
C10 — every invocation gets exactly one terminal reply.

Statements about `Model/Session.lean` (callee part: `onInvocation`, `invDone` = the `success` / `error` closures with the
`send()` failure fallback, `settleInv` = completion / failure / cancellation of a pending result, the progress callable)
for every state / history, both scheduling modes and every behaviour of the endpoints.
-/
namespace Abverif.Session
open Abverif.SessCodes

/-- An INVOCATION whose request id is still in `_invocations` (its endpoint has
not been answered yet) raises `ProtocolError` out of `onMessage` and changes nothing — no endpoint is called. -/
theorem duplicate_invocation_is_violation (s : Sess) (sid : Nat) (hs : s.sessionId = some sid) (beh : List HAct)
    (req : ReqId) (reg : RegId) (p : Payload) (rp : Option Bool) (h : (alookup req s.invs).isSome = true) :
    step s (.msg (.invocation req reg p rp) beh) = (s, [.raise_ .protocolError]) := by
  simp [step_est hs, onEstablished, onInvocation, h]

/-- An INVOCATION for a registration id the session does not hold raises
`ProtocolError` and changes nothing. -/
theorem unknown_registration_is_violation (s : Sess) (sid : Nat) (hs : s.sessionId = some sid) (beh : List HAct)
    (req : ReqId) (reg : RegId) (p : Payload) (rp : Option Bool) (h : alookup reg s.regs = none) :
    step s (.msg (.invocation req reg p rp) beh) = (s, [.raise_ .protocolError]) := by
  simp only [step_est hs, onEstablished, onInvocation, h]
  split <;> rfl

/-- the caller asked for progressive results: the `receive_progress` detail of the INVOCATION is there and is `true`
(absent and an explicit `false` both mean no) -/
def askedProgress : Option Bool → Bool
  | some true => true
  | _ => false

/-- the keyword arguments the property says the endpoint gets: the caller's, plus `CallDetails` under the endpoint's own
`details_arg` if it has one; `details.progress` is there iff the caller asked for progressive results -/
def endpointKw (g : RegRec) (p : Payload) (rp : Option Bool) : List (Key × KwVal) :=
  match g.detailsArg with
  | none => kwOfPayload p
  | some k => insertKw k (.callDetails g.obj (askedProgress rp)) (kwOfPayload p)

/-- the model's test `msg.receive_progress == True` is `askedProgress` -/
theorem askedProgress_eq (rp : Option Bool) : (rp == some true) = askedProgress rp := by
  cases rp with
  | none => rfl
  | some b => cases b <;> rfl

/-- An INVOCATION for an active registration whose id is not in use calls the endpoint of that
registration — first thing — with exactly the caller's positional arguments and keyword arguments, plus the call details
under the endpoint's `details_arg` iff it was registered with one; the details carry a progress callable iff the
`receive_progress` detail is `true` — for each of the three wire forms (absent, `true`, `false`). -/
theorem endpoint_args_exact (s : Sess) (sid : Nat) (hs : s.sessionId = some sid) (beh : List HAct)
    (req : ReqId) (reg : RegId) (p : Payload) (rp : Option Bool) (g : RegRec)
    (hfree : alookup req s.invs = none) (hreg : alookup reg s.regs = some g) :
    ∃ rest, (step s (.msg (.invocation req reg p rp) beh)).2 =
        .endpoint req g.obj g.endpoint (p.args.getD []) (endpointKw g p rp) :: rest := by
  unfold endpointKw
  cases hd : g.detailsArg <;>
    simp only [step_est hs, onEstablished, onInvocation, hfree, hreg, hd, askedProgress_eq, Option.isSome_none, Option.isSome_some,
      Bool.false_eq_true, Bool.true_and, Bool.false_and, ↓reduceIte] <;>
    exact ⟨_, rfl⟩

/-- When the caller did not ask for progressive results — the `receive_progress` detail is
absent or explicitly `false` — or the endpoint takes no call details, there is no `details.progress` to call: whatever
progress calls the endpoint would make, the step is the one of an endpoint that makes none (no progressive YIELD is sent,
the id is not recorded as holding a progress callable). -/
theorem progress_only_if_asked (s : Sess) (sid : Nat) (hs : s.sessionId = some sid) (act : HAct) (rest : List HAct)
    (req : ReqId) (reg : RegId) (p : Payload) (rp : Option Bool) (g : RegRec) (hreg : alookup reg s.regs = some g)
    (hno : (g.detailsArg.isSome && askedProgress rp) = false) :
    step s (.msg (.invocation req reg p rp) (act :: rest)) =
      step s (.msg (.invocation req reg p rp) ({ act with progress := [] } :: rest)) := by
  simp only [step_est hs, onEstablished, onInvocation, hreg, askedProgress_eq, hno, List.headD_cons, Bool.false_eq_true, ↓reduceIte]
  rfl

/-- non-vacuity: the same endpoint (reports progress 3, returns 9) invoked with the detail absent, `false`, `true` — a
progressive YIELD only in the last case, and only then does `CallDetails` carry a callable -/
example : (runOuts (runState (init .sync) [.open_ [], .msg (.welcome 7) [], .api (.register 1 4 (some { detailsArg := some 0 }) .ok),
      .msg (.registered 1 70) []])
      [.msg (.invocation 5 70 {} none) [{ ret := .val 9, progress := [3] }],
       .msg (.invocation 6 70 {} (some false)) [{ ret := .val 9, progress := [3] }],
       .msg (.invocation 7 70 {} (some true)) [{ ret := .val 9, progress := [3] }]]) =
    [.endpoint 5 0 1 [] [(0, .callDetails 0 false)], .send { typ := .yield_, req := 5, args := [9] },
     .endpoint 6 0 1 [] [(0, .callDetails 0 false)], .send { typ := .yield_, req := 6, args := [9] },
     .endpoint 7 0 1 [] [(0, .callDetails 0 true)], .send { typ := .yield_, req := 7, opts := [(.progress, .b true)], args := [3] },
     .send { typ := .yield_, req := 7, args := [9] }] := by decide +kernel

/-- the three wire forms of the detail: only `true` asks -/
example : askedProgress none = false ∧ askedProgress (some false) = false ∧ askedProgress (some true) = true := ⟨rfl, rfl, rfl⟩

/-- … and when it did, the progressive results of the endpoint go out before anything else the step sends: the outputs
are the endpoint call, then one progressive YIELD per progress call (transport up, `send()` accepting), then the rest -/
theorem progress_before_terminal_in_step (s : Sess) (sid : Nat) (hs : s.sessionId = some sid) (act : HAct) (rest : List HAct)
    (req : ReqId) (reg : RegId) (p : Payload) (g : RegRec) (k : Key)
    (hfree : alookup req s.invs = none) (hreg : alookup reg s.regs = some g) (hd : g.detailsArg = some k)
    (ht : s.transport = true) (hf : s.faults = []) :
    ∃ tail, (step s (.msg (.invocation req reg p (some true)) (act :: rest))).2 =
      .endpoint req g.obj g.endpoint (p.args.getD []) (endpointKw g p (some true)) ::
        (act.progress.map (fun v => SOut.send { typ := .yield_, req := req, opts := [(.progress, .b true)], args := [v] }) ++ tail) := by
  have hloop : ∀ (s0 : Sess) (vs : List Val), s0.transport = true → s0.faults = [] →
      (progressLoop s0 req vs) = (s0, vs.map (fun v => SOut.send { typ := .yield_, req := req, opts := [(.progress, .b true)], args := [v] }), false) := by
    intro s0 vs h1 h2
    induction vs with
    | nil => rfl
    | cons v vs ih => simp [progressLoop, h1, progressSend, replySend, h2, ih]
  unfold endpointKw
  simp only [step_est hs, onEstablished, onInvocation, hfree, hreg, hd, Option.isSome_none, Option.isSome_some,
    Bool.false_eq_true, Bool.true_and, ↓reduceIte, List.headD_cons]
  rw [hloop _ _ (by simpa using ht) (by simpa using hf)]
  simp only [Bool.false_eq_true, ↓reduceIte, List.cons_append, List.append_assoc]
  exact ⟨_, rfl⟩

/-- At most one, for every history, both scheduling modes, whatever endpoints, transport and `send()` do: the
terminal replies (non-progressive YIELD, ERROR) sent for a request id never outnumber the endpoint calls made for it —
and an id that is still in `_invocations` has one reply less than calls. A terminal reply is sent by the `success` /
`error` closure only, which first removes the id; the id gets there only through an accepted INVOCATION. -/
theorem at_most_one_terminal_reply (mode : Sched) (h : List SEv) (req : ReqId) :
    terminals req (runOuts (init mode) h) + owing req (runState (init mode) h) ≤ accepts req (runOuts (init mode) h) := by
  exact (run_acct (req := req) (init_AInv mode) h (fun h => nomatch h)).le

/-- the same from any reachable state on: what is sent later for an id is covered by what is owed now plus later calls -/
theorem at_most_one_terminal_reply_from (mode : Sched) (h1 h2 : List SEv) (req : ReqId) :
    terminals req (runOuts (runState (init mode) h1) h2) + owing req (runState (init mode) (h1 ++ h2)) ≤
      accepts req (runOuts (runState (init mode) h1) h2) + owing req (runState (init mode) h1) := by
  have h0 := (run_acct (req := req) (init_AInv mode) h1 (fun h => nomatch h)).inv
  rw [runState_append]
  exact (run_acct h0 h2 (fun h => nomatch h)).le

/-- Exactly one, when the closure runs: once the endpoint's outcome is known its `success` / `error` closure runs
(`invDone`; at once on Twisted, at the next loop iteration on asyncio); with the transport up and a covered `send()`
plan it sends exactly one terminal reply for the id — and the id leaves `_invocations`. For EVERY outcome: a value, a
`CallResult`, an exception of any class — also one `_message_from_exception` cannot turn into an ERROR (the closure then
answers `wamp.error.invalid_payload`). -/
theorem reply_sent_exactly_once (s : Sess) (req : ReqId) (o : EOut) (hin : (alookup req s.invs).isSome = true)
    (ht : s.transport = true) (hplan : planCovered s.faults = true) :
    terminals req (invDone s req o).2 = 1 ∧ owing req (invDone s req o).1 = 0 := by
  obtain ⟨x, hx⟩ := Option.isSome_iff_exists.mp hin
  obtain ⟨⟨n, hst⟩, _, hterm⟩ := invDone_counts req hx o
  exact ⟨by rw [hterm, if_pos ⟨rfl, ht, hplan⟩], by rw [hst]; exact owing_adel_self req _⟩

/-- what the one reply is when `send()` accepts it: YIELD with the endpoint's return value (a `CallResult` unpacked, a
plain value as the one positional result), or ERROR with the exception's URI / args / kwargs — and, when no ERROR can be
built from the exception, ERROR `wamp.error.invalid_payload` without the exception's payload -/
theorem reply_content (s : Sess) (req : ReqId) (x : InvRec) (hx : alookup req s.invs = some x) (ht : s.transport = true)
    (hf : s.faults = []) :
    (∀ a k, (invDone s req (.value a k)).2 = [.send { typ := .yield_, req := req, args := a, kwargs := k }]) ∧
    (∀ e u a k, e.toError = some (u, a, k) →
      (invDone s req (.raised e)).2 = [.userError, .send { typ := .error, req := req, uri := u, args := a, kwargs := k }]) ∧
    (∀ e, e.toError = none →
      (invDone s req (.raised e)).2 = [.userError, .send { typ := .error, req := req, uri := uInvalidPayload }]) := by
  have hnt : (!s.transport) = false := by simp [ht]
  refine ⟨?_, ?_, ?_⟩
  · intro a k; simp [invDone, hx, hnt, sendWithFallback, replySend, hf]
  · intro e u a k he; simp [invDone, hx, hnt, ExcK.errorReply, he, sendWithFallback, replySend, hf]
  · intro e he; simp [invDone, hx, hnt, ExcK.errorReply, he, sendWithFallback, replySend, hf]

example : retOut (.callResult [1, 2] [(3, 4)]) = .value [1, 2] [(3, 4)] ∧ retOut (.val 7) = .value [7] [] ∧
    retOut .unit = .value [noneVal] [] := ⟨rfl, rfl, rfl⟩

/-- the full statement: every accepted invocation whose outcome is known has exactly one terminal reply once the loop is
idle and the transport stayed up -/
def OneTerminalReply : Prop :=
  ∀ (mode : Sched) (h : List SEv) (req : ReqId),
    (∀ e ∈ h, ∀ acts, e ≠ .closed acts) →                        -- the transport stays up
    let s := runState (init mode) (h ++ [.pump])
    owing req s = 0 →                                            -- every outcome is known and its closure has run
    terminals req (runOuts (init mode) (h ++ [.pump])) = accepts req (runOuts (init mode) (h ++ [.pump]))

/-- a joined session with one registered endpoint that takes call details -/
def callee1 : List SEv :=
  [.open_ [], .msg (.welcome 7) [], .api (.register 1 4 (some { detailsArg := some 0 }) .ok), .msg (.registered 1 70) []]

/-- it fails for a transport outside the property's promise: `send()` raises a class the closures do not handle (no real
transport does, see `fallback_covers`; the mock transport can) — the endpoint is called, nothing is ever sent for the id -/
theorem one_terminal_reply_fails_send_raises_other : ¬ OneTerminalReply := by
  intro h
  have := h .sync (callee1 ++ [.fault [.other], .msg (.invocation 9 70 {} none) [{ ret := .val 1 }]]) 9
    (by intro e he acts hc; subst hc; simp [callee1] at he) (by decide +kernel)
  revert this; decide +kernel

/-- … and for a transport that refuses the fallback ERROR as well (the fallback does not repeat the result in its message,
so no real transport refuses it for its size; the mock transport can) -/
theorem one_terminal_reply_fails_fallback_refused : ¬ OneTerminalReply := by
  intro h
  have := h .sync (callee1 ++ [.fault [.payloadExceeded, .payloadExceeded], .msg (.invocation 9 70 {} none) [{ ret := .val 1 }]]) 9
    (by intro e he acts hc; subst hc; simp [callee1] at he) (by decide +kernel)
  revert this; decide +kernel

/-- an exception the ERROR cannot be built from is answered
with `wamp.error.invalid_payload` — one endpoint call, one terminal reply -/
example : runOuts (runState (init .sync) callee1) [.msg (.invocation 9 70 {} none) [{ raises := true, exc := .unbuildable }]] =
    [.endpoint 9 0 1 [] [(0, .callDetails 0 false)], .userError, .send { typ := .error, req := 9, uri := uInvalidPayload }] := by
  decide +kernel

/-- a plan made of covered units is covered in the sense of `planCovered` (the converse fails: `[ser]` followed by a
later `[big]` is two covered plans whose concatenation refuses the fallback ERROR — which is why the history-level
statement needs the unit form) -/
theorem planUnits_covered (l : List SendOut) (h : planUnits l = true) : planCovered l = true :=
  planCovered_of_units h

/-- Exactly one, at history level, both scheduling modes: in EVERY history that begins
with `onOpen`, in which the transport stays up (no `onClose`) and every `send()` plan is made of covered units (each
refusal — unserializable / oversize — followed by an acceptance: what the four real transports produce,
`real_transport_plan_units`), whatever endpoints, user code, the router and the loop do: for every request id the
terminal replies sent (YIELD without progress, ERROR) plus the invocations still running equal the endpoint calls made.
So every invocation that has ended — its record has left `_invocations`: outcome known and closure run — has exactly one
terminal reply in the trace, and none has more. (`at_most_one_terminal_reply` is the ≤ half for every history; the ≥ half
— a record leaves `_invocations` only together with a terminal reply — is `run_acct` of `Lemmas/SessReply.lean` with the
flag set.) -/
theorem one_terminal_reply_covered (mode : Sched) (acts : List HAct) (rest : List SEv)
    (hc : rest.all SEv.covered = true) (req : ReqId) :
    terminals req (runOuts (init mode) (.open_ acts :: rest)) + owing req (runState (init mode) (.open_ acts :: rest)) =
      accepts req (runOuts (init mode) (.open_ acts :: rest)) := by
  -- `onOpen` on the fresh object: the transport is there before anything else happens
  have hstep := open_acct (up := true) (init_AInv (req := req) mode).queue (fun _ => rfl) acts
  have hall := hstep.trans (run_acct hstep.inv rest (fun _ => hc))
  rw [← runOuts_cons, ← runState_cons] at hall
  have ho : owing req { init mode with transport := true, ended := false } = 0 := rfl
  have hle := hall.le
  have hge := hall.ge rfl
  rw [ho] at hle hge
  omega

/-- … in the shape of `OneTerminalReply`: once nothing is owed for the id, terminal replies = endpoint calls -/
theorem one_terminal_reply_covered_ended (mode : Sched) (acts : List HAct) (rest : List SEv)
    (hc : rest.all SEv.covered = true) (req : ReqId)
    (hend : owing req (runState (init mode) (.open_ acts :: rest)) = 0) :
    terminals req (runOuts (init mode) (.open_ acts :: rest)) = accepts req (runOuts (init mode) (.open_ acts :: rest)) := by
  have := one_terminal_reply_covered mode acts rest hc req
  omega

/-- non-vacuity: a history with a fault — an oversize result refused, the fallback ERROR accepted — satisfies the
hypothesis, and the invocation has ended with exactly one terminal reply; and the history that refutes the unrestricted
statement does not satisfy it -/
example : ([.msg (.welcome 7) [], .api (.register 1 4 (some { detailsArg := some 0 }) .ok), .msg (.registered 1 70) [],
      .fault [.payloadExceeded, .ok], .msg (.invocation 9 70 {} none) [{ ret := .val 1 }], .pump] : List SEv).all SEv.covered = true ∧
    owing 9 (runState (init .deferred) (.open_ [] :: [.pump, .msg (.welcome 7) [], .pump,
      .api (.register 1 4 (some { detailsArg := some 0 }) .ok), .msg (.registered 1 70) [],
      .fault [.payloadExceeded, .ok], .msg (.invocation 9 70 {} none) [{ ret := .val 1 }], .pump])) = 0 ∧
    SEv.covered (.fault [.payloadExceeded, .payloadExceeded]) = false ∧ SEv.covered (.fault [.other]) = false := by decide +kernel

/-- non-vacuity of the accounting: three invocations (plain, failing with the fallback, interrupted while pending) get
one terminal reply each; on asyncio the replies go out when the loop runs -/
example : let outs := runOuts (init .deferred) ([.open_ [], .pump, .msg (.welcome 7) [], .pump,
      .api (.register 1 4 (some { detailsArg := some 0 }) .ok), .msg (.registered 1 70) [], .pump, .msg (.invocation 5 70 { args := some [1] } (some true)) [{ ret := .val 9, progress := [3] }],
      .fault [.payloadExceeded, .ok], .msg (.invocation 6 70 {} none) [{ ret := .callResult [1] [] }],
      .msg (.invocation 7 70 {} none) [{ ret := .pending }], .msg (.interrupt 7) [], .pump])
    (terminals 5 outs, terminals 6 outs, terminals 7 outs, accepts 5 outs, accepts 6 outs, accepts 7 outs) = (1, 1, 1, 1, 1, 1) := by decide +kernel

def progressFor (req : ReqId) : SOut → Bool
  | .send m => m.typ == .yield_ && isProg m && m.req == req
  | _ => false

/-- no progressive YIELD for an id after a terminal reply for it -/
def noProgressAfterTerminal (req : ReqId) : Bool → List SOut → Bool
  | _, [] => true
  | seen, o :: os =>
    if terminalFor req o then noProgressAfterTerminal req true os
    else if progressFor req o then !seen && noProgressAfterTerminal req seen os
    else noProgressAfterTerminal req seen os

def ProgressBeforeTerminal : Prop :=
  ∀ (mode : Sched) (h : List SEv) (req : ReqId), noProgressAfterTerminal req false (runOuts (init mode) h) = true

/-- it fails (U2): the endpoint keeps `details.progress` and calls it after it returned -/
theorem progress_before_terminal_fails_U2 : ¬ ProgressBeforeTerminal := by
  intro h
  have := h .sync (callee1 ++ [.msg (.invocation 5 70 {} (some true)) [{ ret := .val 9, progress := [3] }], .lateProgress 5 8]) 5
  revert this; decide +kernel

/-- INTERRUPT for an invocation whose result is still pending cancels it; its `error` closure
answers with ERROR (`wamp.error.runtime_error`: CancelledError is no ApplicationError) — at once on Twisted, queued for
the next loop iteration on asyncio — and the id leaves `_invocations`. -/
theorem interrupt_yields_error (s : Sess) (sid : Nat) (hs : s.sessionId = some sid) (beh : List HAct) (req : ReqId)
    (x : InvRec) (hx : alookup req s.invs = some x) (hp : x.st = .pending) (ht : s.transport = true) (hf : s.faults = []) :
    (s.mode = .sync → (step s (.msg (.interrupt req) beh)).2 =
        [.userError, .send { typ := .error, req := req, uri := uRuntimeError }] ∧
      alookup req (step s (.msg (.interrupt req) beh)).1.invs = none) ∧
    (s.mode = .deferred → (step s (.msg (.interrupt req) beh)).2 = [] ∧
      (step s (.msg (.interrupt req) beh)).1.cbq = s.cbq ++ [.later (.invDone req (.raised .cancelled))]) := by
  have hnt : (!s.transport) = false := by simp [ht]
  constructor
  · intro hm
    simp [step_est hs, onEstablished, settleInv, hx, hp, defer, hm, runCont, invDone, alookup_aupd_self, ExcK.toError,
      ExcK.errorReply, hnt, sendWithFallback, replySend, hf]
  · intro hm
    simp [step_est hs, onEstablished, settleInv, hx, hp, defer, hm]

/-- An INTERRUPT for an id that is not (or no longer) pending changes nothing. -/
theorem interrupt_ignored (s : Sess) (sid : Nat) (hs : s.sessionId = some sid) (beh : List HAct) (req : ReqId) :
    (alookup req s.invs = none → step s (.msg (.interrupt req) beh) = (s, [])) ∧
    (∀ x, alookup req s.invs = some x → x.st = .fired → step s (.msg (.interrupt req) beh) = (s, [])) := by
  constructor
  · intro h; simp [step_est hs, onEstablished, settleInv, h]
  · intro x h hf; simp [step_est hs, onEstablished, settleInv, h, hf]

/-- non-vacuity: INTERRUPT before (ignored), between (cancels the pending result; a later completion is ignored), after -/
example : runOuts (init .sync) (callee1 ++ [.msg (.interrupt 5) [], .msg (.invocation 5 70 {} none) [{ ret := .pending }],
      .msg (.interrupt 5) [], .resolve 5 (.val 1), .msg (.interrupt 5) []]) =
    (runOuts (init .sync) callee1) ++ [.endpoint 5 0 1 [] [(0, .callDetails 0 false)], .userError,
      .send { typ := .error, req := 5, uri := uRuntimeError }] := by decide +kernel

/-! ## the send() classification of the four transports (regenerated from the source on every run) -/

/-- the fallback of the `success` / `error` closures covers a transport iff its `send()` raises SerializationError for an
unserializable and PayloadExceededError for an oversize reply -/
def FallbackCovers (t : Transport) : Prop :=
  sendTable t .unserializable = .serialization ∧ sendTable t .oversize = .payloadExceeded

/-- It does for all four transports — WebSocket and RawSocket on both frameworks (each `send()` wraps
whatever the serializer raises) -/
theorem fallback_covers : ∀ t : Transport, FallbackCovers t := by
  intro t; cases t <;> (unfold FallbackCovers; decide)

/-- so on every real transport an unserializable or oversize result meets a covered plan as soon as the fallback ERROR —
which does not repeat the result — is accepted: with `reply_sent_exactly_once`, exactly one terminal reply -/
theorem fallback_plan_covered (t : Transport) (c : Cause) (rest : List SendOut) :
    planCovered (sendTable t c :: .ok :: rest) = true := by
  have h := fallback_covers t
  cases c
  · rw [h.1]; rfl
  · rw [h.2]; rfl

/-- why the hypothesis of `one_terminal_reply_covered` is the unit form and not "`planCovered` for every fault event":
`[ser]` and `[big]` are covered plans each, one after the other they make the fallback ERROR of the first refusal meet the
second refusal — the endpoint is called, the invocation ends, nothing is sent -/
example : planCovered [.serialization] = true ∧ planCovered [.payloadExceeded] = true ∧
    planUnits ([.serialization] ++ [.payloadExceeded]) = false ∧
    terminals 9 (runOuts (init .sync) (callee1 ++ [.fault [.serialization], .fault [.payloadExceeded],
      .msg (.invocation 9 70 {} none) [{ ret := .val 1 }]])) = 0 ∧
    accepts 9 (runOuts (init .sync) (callee1 ++ [.fault [.serialization], .fault [.payloadExceeded],
      .msg (.invocation 9 70 {} none) [{ ret := .val 1 }]])) = 1 ∧
    owing 9 (runState (init .sync) (callee1 ++ [.fault [.serialization], .fault [.payloadExceeded],
      .msg (.invocation 9 70 {} none) [{ ret := .val 1 }]])) = 0 := by decide +kernel

/-- what a real transport does with a result that is unfit for the wire — refuse it as its `send()` table says, accept
the fallback ERROR — is a covered unit (`fallback_covers`) -/
theorem real_transport_plan_units (t : Transport) (c : Cause) (rest : List SendOut) (h : planUnits rest = true) :
    planUnits (sendTable t c :: .ok :: rest) = true := by
  have hc := fallback_covers t
  cases c
  · rw [hc.1]; simpa [planUnits] using h
  · rw [hc.2]; simpa [planUnits] using h

end Abverif.Session

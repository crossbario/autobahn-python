import Abverif.Proofs.Lemmas.WsJudge2
import Abverif.Proofs.WsSegmentation
/-
# The receive engine refines the RFC 6455 judge (C02; message delivery clause of C01; limits of C16)

`recv_refines_judge`: feed any octet stream, cut into reads in any way, to an endpoint that fails by dropping and
stands between two frames (`Rel`; a freshly opened one: `recv_refines_judge_fresh`): the events it delivers (messages,
pings, pongs — in order, with payload, type and compression flag) are exactly the events the frame-by-frame RFC 6455
judge derives from the whole stream (`judge'`: `WsSpec.judge` started in the related state), and the engine's final
state is the judge's verdict: still OPEN and nothing failed (`ok`), failed and dropped (`fail`), or the peer's close
frame taken in (code and reason recorded, clean close, server dropped / client waiting).  Proof: `step_refines` (one
step of the judge against the loop: the header checks, then `frame_refines`), `drain_refines` by induction over the
frames, one read (`dataReceived_refines`), any segmentation by `feed_flatten`.
-/
namespace Abverif.Ws
open Abverif.WsSpec

/-- the judge started in state `j` (the whole-stream judge `WsSpec.judge` is `judge' c {}`) -/
def judge' (c : Ctx) (j : J) (stream : Bytes) : List Ev × Verdict × Nat := judgeFrom c (stream.length / 2 + 1) j stream

theorem judge'_init (c : Ctx) (stream : Bytes) : judge' c {} stream = judge c stream := rfl

/-- between frames, a turn of the loop that changes nothing and asks for no other leaves the judge's `ok` -/
theorem Rel.agree_waiting {c : Ctx} {s : S} {j : J} {F : Nat} {buf : Bytes} (hr : Rel c s j) (hF : mu s buf < F) (r : Nat)
    (h : processData s buf = (s, buf, false)) : Agree c (drain F s buf).1 j.evs .ok r := by
  rw [hr.turn_ends hF h]
  exact ⟨hr.evs, hr.q.st, hr.q.nf⟩

/-- … and one that fails the connection is the judge's `fail` -/
theorem Rel.agree_fail {c : Ctx} {s : S} {j : J} {F : Nat} {buf : Bytes} (hr : Rel c s j) (hF : mu s buf < F)
    (code code' r : Nat) (h : processData s buf = (failConnection s code', buf, false)) :
    Agree c (drain F s buf).1 j.evs (.fail code) r := by
  rw [hr.turn_ends hF h]
  exact Agree.of_Failed (failConnection_Failed s code' hr.q.fbd hr.q.open_ne) hr.evs

/-- one step of the judge, a whole frame, against the loop: the header turn fails the connection, waits, or begins the
frame; behind a legal header come the payload turn and the going on (`frame_refines`) -/
theorem step_refines (c : Ctx) (s : S) (j : J) (buf : Bytes) (F : Nat) (hr : Rel c s j) (hF : mu s buf < F) :
    StepAgree c s buf F (judgeStep c j buf) := by
  match buf with
  | [] =>
    exact hr.agree_waiting hF 0 (processData_short s [] hr.cur (by simp))
  | [x] =>
    exact hr.agree_waiting hF 1 (processData_short s [x] hr.cur (by simp))
  | o0 :: o1 :: rest2 =>
    have hrange := header_fields_in_range o0 o1
    have htab := header_table s.cfg s.insideMessage (Hd.ofOctets o0 o1).fin (Hd.ofOctets o0 o1).masked
      (Hd.ofOctets o0 o1).rsv (Hd.ofOctets o0 o1).opcode (Hd.ofOctets o0 o1).len7 hrange.1 hrange.2.1
    rw [hr.q.ctx, hr.inside] at htab
    have e1 : processData s (o0 :: o1 :: rest2) = headerStep s (Hd.ofOctets o0 o1) (o0 :: o1 :: rest2) :=
      (processData_none s o0 o1 rest2 hr.cur).trans (processHeader_eq s o0 o1 _)
    generalize hh : Hd.ofOctets o0 o1 = h at htab e1
    rw [judgeStep_cons c j o0 o1 rest2 h hh]
    have hl : headerLen h.masked h.len7 = 2 + (h.extN + h.keyN) := by rw [headerLen_hd, Nat.add_assoc]
    cases hok : headerOk c j.inside h.fin h.rsv h.opcode h.masked h.len7 with
    | false =>
      have hv : headerViolations s.cfg s.insideMessage h.fin h.rsv h.opcode h.masked h.len7 ≠ [] := by
        intro hx
        rw [hr.inside] at hx
        rw [htab.mp hx] at hok
        cases hok
      exact hr.agree_fail hF 1002 1002 (o0 :: o1 :: rest2).length (e1.trans (headerStep_viol s h _ hr.q.fbd hv))
    | true =>
      have hv := htab.mpr hok
      rw [← hr.inside] at hv
      simp only [Bool.not_true, Bool.false_eq_true, if_false]
      by_cases hlen : rest2.length < h.extN + h.keyN
      · simp only [hlen, if_true]
        exact hr.agree_waiting hF (o0 :: o1 :: rest2).length
          (e1.trans (headerStep_short s h _ hv (by rw [hl]; simp only [List.length_cons]; omega)))
      · simp only [hlen, if_false]
        have hlen' : h.extN + h.keyN ≤ rest2.length := by omega
        cases hext : extLenOk h.len7 (h.plen rest2) with
        | false =>
          exact hr.agree_fail hF 1002 1002 (o0 :: o1 :: rest2).length (e1.trans (headerStep_extbad s h _ hr.q.fbd hv
            (by rw [hl]; simp only [List.length_cons]; omega) hext))
        | true =>
          simp only [Bool.not_true, Bool.false_eq_true, if_false]
          exact frame_refines c s j o0 o1 rest2 h hh F hr hv hok hlen' hext hF

/-- **the loop refines the judge**: from related states, draining a buffer ends in a state that agrees with the
judge's verdict on that buffer (any fuel of the judge that covers the buffer, any fuel of the loop) -/
theorem drain_refines (c : Ctx) : ∀ (n : Nat) (s : S) (j : J) (buf : Bytes) (F : Nat), Rel c s j →
    buf.length < 2 * n → mu s buf < F →
    Agree c (drain F s buf).1 (judgeFrom c n j buf).1 (judgeFrom c n j buf).2.1 (judgeFrom c n j buf).2.2 := by
  intro n
  induction n with
  | zero => intro s j buf F _ h; omega
  | succ n ih =>
    intro s j buf F hr hlen hF
    have hs := step_refines c s j buf F hr hF
    have hmu := hr.mu_eq buf
    rw [judgeFrom]
    cases hjs : judgeStep c j buf with
    | next j' rest =>
      rw [hjs] at hs
      obtain ⟨s', hr', hl, hd⟩ := hs
      simp only []
      rw [hd]
      have hmu' := hr'.mu_eq rest
      exact ih s' j' rest F hr' (by omega) (by omega)
    | done evs v r =>
      rw [hjs] at hs
      exact hs

theorem start_Rel (cfg : Cfg) (hf : cfg.failByDrop = true) : Rel (Ctx.ofCfg cfg) (start cfg) {} := by
  obtain ⟨t, q, e, _⟩ := start_eq cfg
  rw [e]
  exact ⟨⟨rfl, rfl, rfl, rfl, rfl, hf, rfl, rfl⟩, rfl, rfl, rfl, fun h => by cases h⟩

/-- one read of a whole stream -/
theorem dataReceived_refines (c : Ctx) (s : S) (j : J) (stream : Bytes) (hr : Rel c s j) (hd : s.data = []) :
    Agree c (dataReceived s stream) (judge' c j stream).1 (judge' c j stream).2.1 (judge' c j stream).2.2 := by
  rw [dataReceived_live s stream hr.q.lost (Or.inl hr.q.st), hd, List.nil_append]
  have hself : ({ s with data := [] } : S) = s := setData_self s hd
  rw [hself]
  exact (drain_refines c (stream.length / 2 + 1) s j stream _ hr (by omega) (mu_lt_drainFuel s stream)).footprint _ _

/-- **C02 (and the delivery clause of C01, the limits of C16): the receive engine refines the RFC 6455 judge.**
For an endpoint that fails by dropping, fed `stream` in any non-empty reads `chunks`, starting between frames in a
state related to the judge's state `j`: the run ends in a state that is the same as — or, when the stream makes the
endpoint fail the connection, closed with the same history as — a state that agrees with the judge's verdict on the
whole stream. -/
theorem recv_refines_judge (c : Ctx) (s : S) (j : J) (chunks : List Bytes) (hr : Rel c s j) (hd : s.data = [])
    (hne : ∀ ch ∈ chunks, ch ≠ []) (hnil : chunks ≠ []) :
    ∃ s', Sim (feed s chunks) s' ∧
      Agree c s' (judge' c j chunks.flatten).1 (judge' c j chunks.flatten).2.1 (judge' c j chunks.flatten).2.2 :=
  ⟨dataReceived s chunks.flatten, feed_flatten chunks s (fun _ => hr.wf) hr.q.fbd hnil hne,
    dataReceived_refines c s j chunks.flatten hr hd⟩

theorem start_data (cfg : Cfg) : (start cfg).data = [] := by
  obtain ⟨t, q, e, _⟩ := start_eq cfg
  rw [e]

/-- the same for a freshly opened connection and the whole-stream judge -/
theorem recv_refines_judge_fresh (cfg : Cfg) (hf : cfg.failByDrop = true) (chunks : List Bytes)
    (hne : ∀ ch ∈ chunks, ch ≠ []) (hnil : chunks ≠ []) :
    ∃ s', Sim (feed (start cfg) chunks) s' ∧
      Agree (Ctx.ofCfg cfg) s' (judge (Ctx.ofCfg cfg) chunks.flatten).1 (judge (Ctx.ofCfg cfg) chunks.flatten).2.1
        (judge (Ctx.ofCfg cfg) chunks.flatten).2.2 :=
  recv_refines_judge (Ctx.ofCfg cfg) (start cfg) {} chunks (start_Rel cfg hf) (start_data cfg) hne hnil

/-- observable corollary: the delivered events are the judge's, whatever the segmentation, and the connection is
still OPEN exactly when the judge has no objection (verdict `ok`) and CLOSED when it fails the stream -/
theorem recv_events (cfg : Cfg) (hf : cfg.failByDrop = true) (chunks : List Bytes)
    (hne : ∀ ch ∈ chunks, ch ≠ []) (hnil : chunks ≠ []) :
    ((judge (Ctx.ofCfg cfg) chunks.flatten).2.1 = .ok →
      evsOf (feed (start cfg) chunks).log = (judge (Ctx.ofCfg cfg) chunks.flatten).1 ∧
      (feed (start cfg) chunks).st = .opened) ∧
    (∀ code, (judge (Ctx.ofCfg cfg) chunks.flatten).2.1 = .fail code →
      evsOf (feed (start cfg) chunks).log = (judge (Ctx.ofCfg cfg) chunks.flatten).1 ∧
      (feed (start cfg) chunks).st = .closed) := by
  obtain ⟨s', hsim, hag⟩ := recv_refines_judge_fresh cfg hf chunks hne hnil
  rw [hsim.log, hsim.st]
  exact ⟨fun hv => by rw [hv] at hag; exact ⟨hag.1, hag.2.1⟩, fun code hv => by rw [hv] at hag; exact ⟨hag.1, hag.2.1⟩⟩

/-- non-vacuity: a masked text frame "Hi" (key 01 02 03 04) to a default server is judged `ok` with one message -/
example : judge (Ctx.ofCfg {}) [0x81, 0x82, 1, 2, 3, 4, 0x49, 0x6b] = ([.message [0x48, 0x69] false false], .ok, 0) := by
  decide

end Abverif.Ws

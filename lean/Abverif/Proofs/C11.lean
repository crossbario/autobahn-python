import Abverif.Proofs.Lemmas.SessInvWalk
import Abverif.Model.SessSpec
/-
C11 — events reach exactly the handlers subscribed at that moment.

Statements about `Model/Session.lean` (EVENT branch = `dispatch`: a snapshot of the handler list, inactive
subscriptions skipped, one kwargs dict per handler; `apiUnsubscribe`; the
Subscribed/Unsubscribed branches) for every state / history, both scheduling modes and every behaviour of the
handlers. The reference fan-out is `SessSpec.fanout`.
-/
namespace Abverif.Session
open Abverif.SessCodes Abverif.SessSpec

theorem findSub_some {o : Nat} {subs : List (SubId × List SubRec)} {sid : SubId} (h : findSub o subs = some sid) :
    ∃ l, alookup sid subs = some l ∧ ∃ r ∈ l, r.obj = o := by
  have := List.find?_some h
  cases hl : alookup sid subs with
  | none => simp [hl] at this
  | some l =>
    refine ⟨l, rfl, ?_⟩
    simp only [hl, Option.getD_some, List.any_eq_true, beq_iff_eq] at this
    exact this

/-- `Subscription.unsubscribe()` on an attached handler (transport up) removes exactly that
handler from the list of its subscription id, and hands an UNSUBSCRIBE (for that id, with the next request id) to the
transport **iff** the list is empty afterwards, i.e. iff it was the last handler; otherwise nothing is sent and the call
returns an already completed future carrying the number of handlers left. -/
theorem unsubscribe_sent_iff_last (s : Sess) (o : Nat) (snd : SendRes) (sid : SubId) (l : List SubRec)
    (hf : findSub o s.subs = some sid) (hl : alookup sid s.subs = some l) (ht : s.transport = true) :
    let res := apiStep s (.unsubscribe o snd)
    alookup sid res.1.subs = some (removeObj o l) ∧
    (removeObj o l = [] → sends res.2 = [{ typ := .unsubscribe, req := s.drawId.2, uri := sid }]) ∧
    (removeObj o l ≠ [] → sends res.2 = [] ∧
      completions res.2 = [(s.futs.length, .value (.int (removeObj o l).length))]) := by
  have hsub : ∀ s1 : Sess, s1.subs = aupd sid (removeObj o l) s.subs → alookup sid s1.subs = some (removeObj o l) := by
    intro s1 e; rw [e, alookup_aupd_self, hl]; rfl
  have hnt : (!s.transport) = false := congrArg not ht
  simp only [apiStep, apiUnsubscribe, hf, hnt, hl, Option.getD_some, Bool.false_eq_true, ↓reduceIte]
  by_cases he : (removeObj o l).isEmpty = true
  · simp only [he, ↓reduceIte]
    have he' : removeObj o l = [] := by simpa using he
    refine ⟨?_, ?_, fun h => absurd he' h⟩
    · exact hsub _ (request_subs ..)
    · intro _; rw [request_out]; cases snd <;> rfl
  · have he' : removeObj o l ≠ [] := by simpa using he
    simp only [he, Bool.false_eq_true, ↓reduceIte]
    refine ⟨?_, fun h => absurd h he', fun _ => ?_⟩
    · apply hsub
      unfold futureSuccess
      exact emitCb_subs _ _
    · unfold futureSuccess
      obtain ⟨_, _, _, _, f5, _⟩ := emitCb_fields
        { ({ s with subs := aupd sid (removeObj o l) s.subs } : Sess) with
          futs := s.futs ++ [{ kind := .unsubscribe, cell := some (.value (.int (removeObj o l).length)), count := 1 }] }
        (.callback s.futs.length (.value (.int (removeObj o l).length)))
      rcases f5 with e | e <;> simp [sends, completions, e]

/-- non-vacuity: three handlers on id 77; only the third removal sends UNSUBSCRIBE -/
example : sends (runOuts (init .sync) [.open_ [], .msg (.welcome 1) [], .api (.subscribe 1 9 none .ok), .api (.subscribe 2 9 none .ok),
      .api (.subscribe 3 9 none .ok), .msg (.subscribed 1 77) [], .msg (.subscribed 2 77) [], .msg (.subscribed 3 77) [],
      .api (.unsubscribe 1 .ok), .api (.unsubscribe 0 .ok), .api (.unsubscribe 2 .ok)]) =
    [{ typ := .hello }, { typ := .subscribe, req := 1, uri := 9 }, { typ := .subscribe, req := 2, uri := 9 },
     { typ := .subscribe, req := 3, uri := 9 }, { typ := .unsubscribe, req := 4, uri := 77 }] := by decide

/-- While the UNSUBSCRIBE of an id is outstanding (its handler list is empty but
still there) an EVENT for that id is dropped silently: no output, no state change. -/
theorem event_during_unsubscribe_dropped (s : Sess) (sid : Nat) (hs : s.sessionId = some sid) (sub : SubId) (pub : Nat)
    (p : Payload) (beh : List HAct) (h : alookup sub s.subs = some []) :
    step s (.msg (.event sub pub p) beh) = (s, []) := by
  simp [step_est hs, onEstablished, h, dispatch]

/-- An EVENT for an id the session does not hold raises `ProtocolError` out of
`onMessage` and changes nothing. -/
theorem event_unknown_sub_is_violation (s : Sess) (sid : Nat) (hs : s.sessionId = some sid) (sub : SubId) (pub : Nat)
    (p : Payload) (beh : List HAct) (h : alookup sub s.subs = none) :
    step s (.msg (.event sub pub p) beh) = (s, [.raise_ .protocolError]) := by
  simp [step_est hs, onEstablished, h]

/-- the race, on a concrete history: EVENT between `unsubscribe()` and UNSUBSCRIBED is dropped, after UNSUBSCRIBED it
is a violation -/
example : (run (init .sync) [.open_ [], .msg (.welcome 1) [], .api (.subscribe 1 9 none .ok), .msg (.subscribed 1 77) [],
      .msg (.event 77 1 { args := some [5] }) [], .api (.unsubscribe 0 .ok), .msg (.event 77 2 {}) [],
      .msg (.unsubscribed 2) [], .msg (.event 77 3 {}) [], .msg (.event 78 4 {}) []]).2.drop 4 =
    [[.invoke 0 1 [5] []], [.send { typ := .unsubscribe, req := 2, uri := 77 }, .ret 1], [],
     [.complete 1 (.value (.int 0)), .callback 1 (.value (.int 0))], [.raise_ .protocolError], [.raise_ .protocolError]] := by decide

theorem count_removeObj {o : Nat} {l : List SubRec} (h : ∃ r ∈ l, r.obj = o) :
    ((removeObj o l).map (·.obj)).count o + 1 = (l.map (·.obj)).count o := by
  induction l with
  | nil => simp at h
  | cons r l ih =>
    simp only [removeObj]
    split
    · next e => simp only [List.map_cons, count_cons', e]; simp
    · next ne =>
      obtain ⟨r', hr', e'⟩ := h
      rcases List.mem_cons.mp hr' with h1 | h1
      · subst h1; exact absurd e' ne
      · have := ih ⟨r', h1, e'⟩
        simp only [List.map_cons, count_cons'] at this ⊢
        omega

/-- a successful `unsubscribe()` leaves the `Subscription` attached nowhere -/
theorem unsubscribe_detaches {s : Sess} (hi : Inv s) {o : Nat} {sid : SubId} (hf : findSub o s.subs = some sid)
    (ht : s.transport = true) (snd : SendRes) :
    Inv (apiStep s (.unsubscribe o snd)).1 ∧ o < (apiStep s (.unsubscribe o snd)).1.futs.length ∧
      occ o (apiStep s (.unsubscribe o snd)).1 = 0 := by
  obtain ⟨l, hl, hm⟩ := findSub_some hf
  have hocc := hi.2.subs.1 o
  have hpos : 0 < (objsOf s.subs).count o := by
    obtain ⟨r, hr, e⟩ := hm
    exact List.count_pos_iff.mpr (e ▸ mem_objsOf hl hr)
  have hcnt := count_objsOf_aupd_gen o (removeObj o l) hl
  have hrem := count_removeObj hm
  simp only [occ] at hocc
  have hb : o < s.futs.length := hi.2.subs.2 o (by simp only [occ]; omega)
  have h1 := detach_inv hi sid o
  have h0 : occ o { s with subs := aupd sid (removeObj o ((alookup sid s.subs).getD [])) s.subs } = 0 := by
    simp only [occ, hl, Option.getD_some, tbl_subs_update]; omega
  -- what follows the detaching (UNSUBSCRIBE, or a completed future) keeps `o` detached
  have key : ∀ {os : List SOut} {s' : Sess},
      InvRel { s with subs := aupd sid (removeObj o ((alookup sid s.subs).getD [])) s.subs } os s' →
      Inv s' ∧ o < s'.futs.length ∧ occ o s' = 0 :=
    fun r => ⟨r.post, Nat.lt_of_lt_of_le hb r.len, (r.stays o hb h0).1⟩
  have hnt : (!s.transport) = false := congrArg not ht
  simp only [apiStep, apiUnsubscribe, hf, hnt, Bool.false_eq_true, ↓reduceIte]
  split
  · exact key (request_inv h1.post _ _ _ (fun _ => rfl) (fun _ => ⟨rfl, rfl⟩) _ _)
  · exact key (futureSuccess_inv h1.post _ _)

/-- After any history `h1`, once `Subscription.unsubscribe()` has been called on an
attached handler `o`, **no** continuation `h2` of the history — events for any id, further subscribes and replies in
any order, wrap-arounds of ids, anything user code does — ever invokes the handler of `o` again. -/
theorem no_call_after_unsubscribe (mode : Sched) (h1 : List SEv) (o : Nat) (snd : SendRes) (h2 : List SEv) :
    let s := runState (init mode) h1
    findSub o s.subs ≠ none → s.transport = true →
    ∀ x ∈ runOuts (apiStep s (.unsubscribe o snd)).1 h2, invokesObj o x = false := by
  intro s hf ht
  cases hfs : findSub o s.subs with
  | none => exact absurd hfs hf
  | some sid =>
    obtain ⟨hi, hb, h0⟩ := unsubscribe_detaches (run_inv (init_inv mode) h1).post hfs ht snd
    exact run_noInv hi hb h0 h2

/-- the same inside one EVENT dispatch: when a handler synchronously unsubscribes a sibling `o`, the rest of the
fan-out (over whatever is left of the snapshot) does not call `o` -/
theorem no_call_after_synchronous_unsubscribe {s : Sess} (hi : Inv s) {o : Nat} (hf : findSub o s.subs ≠ none)
    (ht : s.transport = true) (sub : SubId) (args : Args) (kw : List (Key × KwVal)) (l : List SubRec) (beh : List HAct) :
    ∀ x ∈ (dispatch (apiStep s (.unsubscribe o .ok)).1 sub args kw l beh).2, invokesObj o x = false := by
  cases hfs : findSub o s.subs with
  | none => exact absurd hfs hf
  | some sid =>
    obtain ⟨hi', hb, h0⟩ := unsubscribe_detaches hi hfs ht .ok
    exact ((invLift.dispatch hi' sub args kw l beh).stays o hb h0).2

/-- non-vacuity: handler 1 is called for the first event, unsubscribed, and not called for the second -/
example : (runOuts (init .sync) [.open_ [], .msg (.welcome 1) [], .api (.subscribe 1 9 none .ok), .api (.subscribe 2 9 none .ok),
      .msg (.subscribed 1 77) [], .msg (.subscribed 2 77) [], .msg (.event 77 1 {}) [], .api (.unsubscribe 0 .ok),
      .msg (.event 77 2 {}) []]).filter isInvoke =
    [.invoke 0 1 [] [], .invoke 1 2 [] [], .invoke 1 2 [] []] := by decide

/-- What `dispatch_exact` claims: on EVENT(sub, …) the model's loop does exactly what the Spec's fan-out does — the
handlers attached at arrival, once each, in subscription order (skipping one that an earlier handler of this dispatch
detached), each with the event's args/kwargs plus the details under its *own* `details_arg` only — whatever the
handlers do. -/
def DispatchExact : Prop :=
  ∀ (s : Sess) (sub : SubId) (l : List SubRec) (args : Args) (kw : List (Key × KwVal)) (beh : List HAct),
    dispatch s sub args kw l beh = fanout s sub args kw l beh

/-- the model's loop has what the claim needs: one kwargs dict per handler, iteration over a snapshot, inactive
subscriptions skipped -/
theorem dispatch_exact : DispatchExact := by
  intro s sub l args kw beh
  induction l generalizing s beh with
  | nil => rfl
  | cons r rest ih =>
    unfold dispatch fanout
    split
    · simp only [ih]
    · exact ih s beh

/-- … so the EVENT branch of `onMessage` is the Spec's fan-out over the handlers attached at arrival -/
theorem event_is_fanout (s : Sess) (sid : Nat) (hs : s.sessionId = some sid) (sub : SubId) (pub : Nat) (p : Payload)
    (beh : List HAct) (l : List SubRec) (hl : alookup sub s.subs = some l) :
    step s (.msg (.event sub pub p) beh) = fanout s sub (p.args.getD []) (kwOfPayload p) l beh := by
  simp only [step_est hs, onEstablished, hl]
  exact dispatch_exact _ _ _ _ _ _

/-- the state after: h1 subscribed with `details_arg="details"`, h2 without, both attached under id 77 -/
def sF8 : Sess := runState (init .sync) [.open_ [], .msg (.welcome 1) [], .api (.subscribe 1 9 (some { detailsArg := some 0 }) .ok),
  .api (.subscribe 2 9 none .ok), .msg (.subscribed 1 77) [], .msg (.subscribed 2 77) []]

/-- the state after: handlers a, b, c attached under id 77 -/
def sF9 : Sess := runState (init .sync) [.open_ [], .msg (.welcome 1) [], .api (.subscribe 1 9 none .ok), .api (.subscribe 2 9 none .ok),
  .api (.subscribe 3 9 none .ok), .msg (.subscribed 1 77) [], .msg (.subscribed 2 77) [], .msg (.subscribed 3 77) []]

/-- non-vacuity: with kwargs `{5: 2}` h2 is
called *without* h1's details; when a unsubscribes itself synchronously b and c are still called -/
example : (runOuts sF8 [.msg (.event 77 1 { args := some [1], kwargs := some [(5, 2)] }) []]) =
    [.invoke 0 1 [1] [(5, .v 2), (0, .details 0)], .invoke 1 2 [1] [(5, .v 2)]] := by decide
example : ((runOuts sF9 [.msg (.event 77 1 { args := some [1] }) [{ calls := [.unsubSelf] }]]).filter isInvoke) =
    [.invoke 0 1 [1] [], .invoke 1 2 [1] [], .invoke 2 3 [1] []] := by decide
/-- a handler detached by an earlier handler of the same dispatch is not called (no call after unsubscribe wins over
"attached at arrival") -/
example : ((runOuts sF9 [.msg (.event 77 1 {}) [{ calls := [.api (.unsubscribe 1 .ok)] }]]).filter isInvoke) =
    [.invoke 0 1 [] [], .invoke 2 3 [] []] := by decide

theorem runCalls_no_raise (s : Sess) (self : Option FutId) (cs : List HCall) : ∀ x ∈ (runCalls s self cs).2, isRaise x = false := by
  induction cs generalizing s with
  | nil => intro x hx; simp [runCalls_nil] at hx
  | cons c cs ih =>
    have hmap : ∀ (o : List SOut), ∀ x ∈ o.map toCaught, isRaise x = false := by
      intro o x hx
      obtain ⟨y, _, rfl⟩ := List.mem_map.mp hx
      cases y <;> rfl
    cases c with
    | api a =>
      rw [runCalls_api]; intro x hx
      rcases List.mem_append.mp hx with h | h
      · exact hmap _ x h
      · exact ih _ x h
    | unsubSelf =>
      cases self with
      | none => rw [runCalls_self_none]; exact ih s
      | some o =>
        rw [runCalls_self_some]; intro x hx
        rcases List.mem_append.mp hx with h | h
        · exact hmap _ x h
        · exact ih _ x h

theorem runAct_no_raise (s : Sess) (self : Option FutId) (a : HAct) : ∀ x ∈ (runAct s self a).2, isRaise x = false := by
  unfold runAct
  split
  · intro x hx
    rcases List.mem_append.mp hx with h | h
    · exact runCalls_no_raise _ _ _ x h
    · obtain ⟨_, _, _, _, f5, _⟩ := emitCb_fields (runCalls s self a.calls).1 .userError
      rcases f5 with e | e <;> rw [e] at h <;> simp at h
      subst h; rfl
  · exact runCalls_no_raise _ _ _

/-- `handler_error_isolated` (1): whatever the handlers of an EVENT do — raise, or have their own API calls raise —
no exception leaves `onMessage`: the dispatch outputs no `raise_`. -/
theorem handler_raise_never_escapes (s : Sess) (sub : SubId) (args : Args) (kw : List (Key × KwVal)) (l : List SubRec)
    (beh : List HAct) : ∀ x ∈ (dispatch s sub args kw l beh).2, isRaise x = false := by
  induction l generalizing s beh with
  | nil => intro x hx; simp [dispatch] at hx
  | cons r rest ih =>
    unfold dispatch
    split
    · intro x hx
      rcases List.mem_cons.mp hx with h | h
      · rw [h]; rfl
      · rcases List.mem_append.mp h with h | h
        · exact runAct_no_raise _ _ _ x h
        · exact ih _ _ x h
    · exact ih s beh

def HAct.calm (a : HAct) : HAct := { a with raises := false }

theorem runCalls_mode (s : Sess) (self : Option FutId) (cs : List HCall) : (runCalls s self cs).1.mode = s.mode :=
  (keepLiftQ (·.mode) fun s a ha => (lifeApi_frame s a ha).mode).toLift.runCalls trivial self cs

theorem runAct_sync {s : Sess} (hm : s.mode = .sync) (self : Option FutId) (a : HAct) :
    (runAct s self a).1 = (runAct s self a.calm).1 ∧
    (runAct s self a).2.filter (· != .userError) = (runAct s self a.calm).2.filter (· != .userError) ∧
    (runAct s self a).1.mode = .sync := by
  have hmode : (runCalls s self a.calls).1.mode = .sync := by rw [runCalls_mode, hm]
  have hcalm : runAct s self a.calm = runCalls s self a.calls := by simp [runAct, HAct.calm]
  rw [hcalm]
  by_cases hr : a.raises = true
  · have : runAct s self a = ((runCalls s self a.calls).1, (runCalls s self a.calls).2 ++ [.userError]) := by
      simp [runAct, hr, emitCb_sync hmode]
    rw [this]
    refine ⟨rfl, ?_, hmode⟩
    simp [List.filter_append]
  · have : runAct s self a = runCalls s self a.calls := by simp [runAct, hr]
    rw [this]
    exact ⟨rfl, rfl, hmode⟩

/-- `handler_error_isolated` (2) — `_partial`: for the Twisted scheduling only (on asyncio the notification is queued, so
the two runs differ in the callback queue): clearing (or setting) the "raises" bit of any handlers of an EVENT changes
nothing but the `onUserError` notifications — same final state (handler lists, tables, futures), same
invocations with the same arguments in the same order, same messages sent. A raising handler neither prevents
delivery to the others nor harms the session. -/
theorem handler_error_isolated_partial (s : Sess) (hm : s.mode = .sync) (sub : SubId) (args : Args)
    (kw : List (Key × KwVal)) (l : List SubRec) (beh : List HAct) :
    (dispatch s sub args kw l beh).1 = (dispatch s sub args kw l (beh.map HAct.calm)).1 ∧
    (dispatch s sub args kw l beh).2.filter (· != .userError) =
      (dispatch s sub args kw l (beh.map HAct.calm)).2.filter (· != .userError) := by
  induction l generalizing s beh with
  | nil => exact ⟨rfl, rfl⟩
  | cons r rest ih =>
    have hhead : (beh.map HAct.calm).headD {} = (beh.headD {}).calm := by cases beh <;> rfl
    have htail : (beh.map HAct.calm).tail = beh.tail.map HAct.calm := by cases beh <;> rfl
    unfold dispatch
    split
    · obtain ⟨e1, e2, e3⟩ := runAct_sync hm (some r.obj) (beh.headD {})
      obtain ⟨i1, i2⟩ := ih (runAct s (some r.obj) (beh.headD {})).1 e3 beh.tail
      simp only [hhead, htail]
      rw [← e1]
      refine ⟨i1, ?_⟩
      simp only [List.filter_cons, List.filter_append]
      rw [e2, i2]
    · exact ih s hm beh

/-- non-vacuity: three handlers, the first and third raise; all three are called, nothing escapes -/
example : runOuts sF9 [.msg (.event 77 1 { args := some [4] }) [{ raises := true }, {}, { raises := true }]] =
    [.invoke 0 1 [4] [], .userError, .invoke 1 2 [4] [], .invoke 2 3 [4] [], .userError] := by decide

/-- a step relation that only says "afterwards id `sub` is (still) not held" -/
def NoSubRel (sub : SubId) (_ : Sess) (_ : List SOut) (s' : Sess) : Prop := alookup sub s'.subs = none

/-- no API call makes the session hold a subscription id: `unsubscribe` rewrites a handler list in place, the others
leave `subs` alone -/
theorem noSubLiftA (sub : SubId) : LiftA (NoSubRel sub) (fun s => alookup sub s.subs = none) where
  trans := fun _ h2 => h2
  post := fun _ r => r
  raise := fun _ _ h => h
  request := fun _ _ _ _ _ _ _ h => (congrArg (alookup sub) (request_subs ..)).trans h
  publishNoAck := fun _ _ _ _ h => (congrArg (alookup sub) (sendReq_subs ..)).trans h
  detach := fun _ _ h => alookup_aupd_none _ h
  futureSuccess := fun _ _ h => by unfold NoSubRel futureSuccess; rw [emitCb_subs]; exact h
  cancel := fun {s} f h => by
    obtain ⟨F, Q, e, _⟩ := apiCancel_eq s f
    rw [NoSubRel, e]; exact h

theorem noSubLift (sub : SubId) : Lift (NoSubRel sub) (fun s => alookup sub s.subs = none) where
  refl := fun h => h
  trans := fun _ h2 => h2
  post := fun _ r => r
  caught := fun r => r
  api := fun {s} a h => by
    cases ha : a.isLife with
    | false => exact (noSubLiftA sub).api a ha h
    | true => rw [NoSubRel, (core_fields (lifeApi_frame s a ha).core).2.2.1]; exact h
  userError := fun h => by show alookup sub (emitCb _ _).1.subs = none; rw [emitCb_subs]; exact h
  invoke := fun _ _ h _ => h

theorem rejectList_subs (s : Sess) (o : Outcome) (fs : List FutId) : (rejectList s o fs).1.subs = s.subs := by
  induction fs generalizing s with
  | nil => rfl
  | cons f fs ih =>
    rw [rejectList_cons]; split
    · exact ih s
    · simp only []; rw [ih, settle_subs]

theorem noSubLiftX (sub : SubId) : LiftX (NoSubRel sub) (fun s => alookup sub s.subs = none) (fun _ => true) where
  toLift := noSubLift sub
  okOf := fun _ _ => rfl
  lc := fun h hc => by show alookup sub _ = none; rw [(core_fields hc).2.2.1]; exact h
  out := fun h _ => h
  emit := fun h _ => by show alookup sub (emitCb _ _).1.subs = none; rw [emitCb_subs]; exact h
  enq := fun _ h => h
  lostMap := fun r => r
  cbqOk := fun _ _ _ => rfl
  clearQ := fun h => h
  rejectAll := fun o h => by show alookup sub (rejectList _ _ _).1.subs = none; rw [rejectList_subs]; exact h

/-- a reply other than "SUBSCRIBED naming `sub`" cannot make the session hold `sub` -/
theorem ReplyBody.nosub {m : InMsg} {kind : Kind} {k : Sess → Req → Sess × List SOut} (hb : ReplyBody m kind k) {sub : SubId}
    (he : ∀ id, m ≠ .subscribed id sub) {s : Sess} (r : Req) (h : alookup sub s.subs = none) :
    alookup sub (k s r).1.subs = none := by
  cases hb with
  | subscribed id sub' =>
    have hne : sub ≠ sub' := fun e => he id (e ▸ rfl)
    rw [settle_subs]
    simp only []
    split
    · rw [alookup_append, h]; simp [alookup_cons, Ne.symm hne]
    · exact alookup_aupd_none _ h
  | unsubscribed id => rw [settle_subs]; exact alookup_adel_none h
  | registered id reg =>
    simp only []
    split
    · rw [settle_subs]; exact h
    · exact h
  | _ => rw [settle_subs]; exact h

theorem replySide_nosub {s : Sess} {sub : SubId} (h : alookup sub s.subs = none) (m : InMsg) (beh : List HAct)
    (hm : m.isReplySide = true) (he : ∀ id, m ≠ .subscribed id sub) : alookup sub (onEstablished s beh m).1.subs = none :=
  onEstablished_elim (C := fun r => alookup sub r.1.subs = none) s beh hm
    (reply := fun _ _ _ _ hb _ _ => hb.nosub he _ (by simpa using h)) (popped := fun _ _ => by simpa using h)
    (violation := h) (ignored := h)
    (event := fun _ _ _ _ => (noSubLift sub).dispatch h _ _ _ _ _)
    (progress := fun _ _ => (noSubLift sub).runAct h none _)

theorem step_nosub {s : Sess} {sub : SubId} (e : SEv) (he : ∀ id beh, e ≠ .msg (.subscribed id sub) beh)
    (h : alookup sub s.subs = none) : alookup sub (step s e).1.subs = none :=
  (noSubLiftX sub).step h e fun m beh hm hr => replySide_nosub h m beh hr fun id e' => he id beh (hm ▸ e' ▸ rfl)

/-- a subscription id is held only from a SUBSCRIBED naming it on: a history without one leaves `sub` not held -/
theorem run_nosub {s : Sess} {sub : SubId} (hist : List SEv) (h0 : alookup sub s.subs = none)
    (hn : ∀ e ∈ hist, ∀ id beh, e ≠ .msg (.subscribed id sub) beh) : alookup sub (runState s hist).subs = none :=
  run_lift (noSubLift sub) (fun e he h => step_nosub e he h) h0 hn

/-- `event_unknown_sub_is_violation`, as the property words it: after any history in which no SUBSCRIBED ever named
the id `sub` — whatever else happened — an EVENT for `sub` on the joined session raises `ProtocolError` and changes
nothing. (After UNSUBSCRIBED removed an id it is "not held" again, see `event_unknown_sub_is_violation`.) -/
theorem event_for_never_held_id_is_violation (mode : Sched) (h : List SEv) (sub : SubId)
    (hnever : ∀ e ∈ h, ∀ id beh, e ≠ .msg (.subscribed id sub) beh)
    (sid : Nat) (hs : (runState (init mode) h).sessionId = some sid) (pub : Nat) (p : Payload) (beh : List HAct) :
    step (runState (init mode) h) (.msg (.event sub pub p) beh) = (runState (init mode) h, [.raise_ .protocolError]) :=
  event_unknown_sub_is_violation _ sid hs sub pub p beh (run_nosub h rfl hnever)

end Abverif.Session

import Abverif.Proofs.C09
import Abverif.Model.Ws
/-
# The UTF-8 automaton of the WebSocket engine model is the RFC 3629 grammar (bridge C02/C05 ↔ C09)

The engine model and the frame-by-frame judge share the hand-written nine-state automaton `Ws.U8` (`utf8Valid`);
`delivered_text_valid` and `encodeTruncate_valid` speak about it.  C09 proves that the automaton `rfcStep` accepts
exactly the RFC 3629 ABNF (`dfa_accepts_iff_WF`) and that the tables of the real validators equal it.  Here the two
automata are shown to be the same machine (state by state, for all 256 octets), so `Ws.utf8Valid bs ↔ Utf8.WF bs`.
-/
namespace Abverif.Ws

/-- the `rfcStep` number of each state -/
def U8.enc : U8 → Nat
  | .s0 => 0 | .rej => 1 | .c1 => 2 | .c2 => 3 | .e0 => 4 | .ed => 5 | .f0 => 6 | .c3 => 7 | .f4 => 8

theorem between_iff (b lo hi : UInt8) : between b lo hi = true ↔ lo.toNat ≤ b.toNat ∧ b.toNat ≤ hi.toNat := by
  simp [between, UInt8.le_iff_toNat_le]

/-- a continuation state is one range test in both automata -/
theorem tail_enc (b lo hi : UInt8) (x : U8) :
    (if between b lo hi then x else U8.rej).enc = if lo.toNat ≤ b.toNat ∧ b.toNat ≤ hi.toNat then x.enc else 1 := by
  by_cases h : lo.toNat ≤ b.toNat ∧ b.toNat ≤ hi.toNat
  · rw [if_pos h, if_pos ((between_iff b lo hi).mpr h)]
  · rw [if_neg h, if_neg (mt (between_iff b lo hi).mp h)]; rfl

/-- on a code point boundary the two automata test the first-octet classes in different order and grouping:
compared octet by octet -/
theorem step_s0_table : (List.range 256).all (fun n =>
    (U8.s0.step (UInt8.ofNat n)).enc == Abverif.Utf8.rfcStep 0 n) = true := by
  decide +kernel

theorem step_enc (st : U8) (b : UInt8) : (st.step b).enc = Abverif.Utf8.rfcStep st.enc b.toNat := by
  cases st
  case s0 =>
    have h := List.all_eq_true.mp step_s0_table b.toNat (List.mem_range.mpr (UInt8.toNat_lt b))
    rwa [UInt8.ofNat_toNat, beq_iff_eq] at h
  case rej => rfl
  all_goals exact tail_enc b _ _ _

theorem run_enc (bs : Bytes) : ∀ st : U8, (u8run st bs).enc = Abverif.Utf8.run Abverif.Utf8.rfcStep st.enc bs := by
  induction bs with
  | nil => intro st; rfl
  | cons b bs ih =>
    intro st
    show (u8run (st.step b) bs).enc = _
    rw [ih, step_enc]
    rfl

theorem enc_eq_zero (st : U8) : st.enc = 0 ↔ st = .s0 := by cases st <;> simp [U8.enc]

/-- **the engine's validity notion is RFC 3629** -/
theorem utf8Valid_iff_WF (bs : Bytes) : utf8Valid bs = true ↔ Abverif.Utf8.WF bs := by
  rw [← Abverif.Utf8.dfa_accepts_iff_WF, show Abverif.Utf8.run Abverif.Utf8.rfcStep 0 bs = (u8run .s0 bs).enc from
    (run_enc bs .s0).symm, enc_eq_zero]
  exact decide_eq_true_iff

example : utf8Valid [0xE2, 0x82, 0xAC] = true ∧ utf8Valid [0xC0, 0x80] = false := by decide

end Abverif.Ws

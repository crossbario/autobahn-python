import Abverif.Model.Handshake
import Abverif.Proofs.Lemmas.C07Str
import Abverif.Proofs.Lemmas.C07Stage
import Abverif.Proofs.Lemmas.C07Render
/-!
C07 — the opening handshake admits exactly the valid peers and never crashes.  Property theorems.

All statements are about the models `Handshake.server` / `Handshake.client` / `Handshake.clientRequest`
(Abverif/Model/Handshake.lean) and quantify over all byte strings, configurations and environments; the chunking
theorems over all chunkings, the server's for configurations that do not serve the Flash policy file (with it the
verdict depends on segmentation: the `example` on `flashRequest` below).
The string layer under the models (`find`, `strip`, `lower`, `splitOn`, `splitWs`, `splitlines`, the glob matcher,
`int()`) is characterised in Lemmas/C07Str.lean, the stages and the two chains (`validate_passes`, `cvalidate_passes`)
in Lemmas/C07Stage.lean, the reading of the allowed-origins policy in Lemmas/C07Origin.lean; Lemmas/C07Render.lean is
imported for the last `example` only (its hypothesis `HeaderSafe` is not empty).
This file states the server and the client once each, by cases (`server_cases`, `client_cases`: what the model makes of
a buffer and of every longer one), and the feeding of chunks once for any judge (`feed_cases`, `feed_flatten`); the
theorems of the property are read from these.
-/
namespace Abverif.Handshake
open Abverif Abverif.Http Abverif.Url

/-! ### the vocabulary of the statements -/

/-- the header block of `data`: everything up to and including the first CRLF CRLF, parsed as `parseHttpHeader` does -/
def ParsedHead (data line : Bytes) (hs : List Hdr) : Prop :=
  ∃ eoh, find crlfcrlf data = some eoh ∧ parseHttpHeader (data.take (eoh + 4)) = some (line, hs)

/-- the user's `onConnect` accepts, with no subprotocol or one the client announced -/
def Accepts (env : SrvEnv) (hs : List Hdr) : Prop :=
  ∃ proto uh, env.onConnect = .accept proto uh ∧ ∀ p, proto = some p → p ∈ offered hs

def SrvOut.isOpened : SrvOut → Bool
  | .opened .. => true
  | _ => false

def SrvOut.isEscape : SrvOut → Bool
  | .escapes _ => true
  | _ => false

def CliOut.isOpened : CliOut → Bool
  | .opened .. => true
  | _ => false

def CliOut.isEscape : CliOut → Bool
  | .escapes _ => true
  | _ => false

/-- the code converts the version header with `int()` after matching it against the grammar: on a numeral of the RFC
grammar `int()` returns the RFC value (the model's `versionNumeral` reads the digits itself, so nothing else uses this) -/
theorem rfcVersion_pyInt {s : Bytes} {n : Nat} (h : rfcVersion s = some n) : pyInt s = some (n : Int) := by
  unfold rfcVersion at h
  split at h
  · next a =>
    split at h
    · next ha =>
      simp at h; subst h
      rw [pyInt_digits (by simp) (by simp [ha]) (by simp)]
      simp
    · simp at h
  · next a b =>
    split at h
    · next hab =>
      simp at h; subst h
      simp at hab
      have ha : isDigit a = true := by simp [isDigit]; exact ⟨by have := hab.1.1; exact UInt8.le_trans (by decide) this, hab.1.2⟩
      rw [pyInt_digits (by simp) (by simp [ha, hab.2]) (by simp)]
      simp
    · simp at h
  · next a b c =>
    split at h
    · next habc =>
      dsimp only at h
      split at h
      · simp at h; subst h
        simp at habc
        have ha : isDigit a = true := by
          rcases habc.1.1 with rfl | rfl <;> decide
        rw [pyInt_digits (by simp) (by simp [ha, habc.1.2, habc.2]) (by simp)]
        simp
        omega
      · simp at h
    · simp at h
  · simp at h

-- splits the unfolded stage in `h : stage … = .error o` into its branches: each is `.ok`, or an HTTP error
macro "stage_err" h:ident : tactic =>
  `(tactic| (repeat' (first | split at $h:ident | (dsimp only at $h:ident; split at $h:ident))) <;>
      first | (cases $h:ident; exact ⟨_, _, rfl⟩) | (cases $h:ident))

macro "cstage_err" h:ident : tactic =>
  `(tactic| (repeat' (first | split at $h:ident | (dsimp only at $h:ident; split at $h:ident))) <;>
      first | (cases $h:ident; rfl) | (cases $h:ident))

/-! ### the server on a buffer -/

/-- an outcome that ends the handshake without opening the connection: not opened, not incomplete, not an escape (an
HTTP error, the status page, a redirect, `stuck`; `.flash` has the three properties too, but the server answers it only
before a terminator is there: `ServerCase.waits`) -/
structure SrvOut.Quiet (o : SrvOut) : Prop where
  notOpened : o.isOpened = false
  notIncomplete : o.isIncomplete = false
  notEscape : o.isEscape = false

theorem Stops.quiet {cfg : SrvCfg} {hs : List Hdr} {o : SrvOut} (h : Stops cfg hs o) : o.Quiet := by
  rcases h with ⟨c, e, rfl⟩ | ⟨_, _, ⟨r, rfl⟩ | ⟨u, rfl⟩⟩ <;> exact ⟨rfl, rfl, rfl⟩

/-- the `exts` of `succeed` in the model: what the modelled accept policies put into the reply -/
def replyExts (cfg : SrvCfg) (v : Validated) : List Bytes :=
  match cfg.accept with
  | .denyAll => []
  | .firstDeflate =>
    (match (v.exts.filter (fun e => isPmce e.name)).find? (·.name = b!"permessage-deflate") with
     | some o => [deflateAcceptString o]
     | none => [])

def ReplyExtOk (offers : List Ext) (e : Bytes) : Prop :=
  ∃ o ∈ offers, isPmce o.name = true ∧ o.name = b!"permessage-deflate" ∧ e = deflateAcceptString o

theorem replyExts_ok (cfg : SrvCfg) (v : Validated) : ∀ e ∈ replyExts cfg v, ReplyExtOk v.exts e := by
  intro e he
  unfold replyExts at he
  split at he
  · simp at he
  · split at he
    · next o ho =>
      simp at he
      subst he
      have hm := List.mem_of_find?_eq_some ho
      have hn := List.find?_some ho
      simp at hm hn
      exact ⟨o, hm.1, hm.2, hn, rfl⟩
    · simp at he

/-- what `succeedHandshake` answers instead of the 101 response: a malformed permessage-compress offer is an HTTP 400;
a subprotocol the client did not announce raises inside the callback (500 on asyncio, lost on Twisted) -/
def refusal (cfg : SrvCfg) (v : Validated) (proto : Option Bytes) : SrvOut :=
  if ∀ p, proto = some p → p ∈ v.protocols then .fail 400 [] else if cfg.aio then .fail 500 [] else .stuck

theorem refusal_quiet (cfg : SrvCfg) (v : Validated) (proto : Option Bytes) : (refusal cfg v proto).Quiet := by
  unfold refusal
  split
  · exact ⟨rfl, rfl, rfl⟩
  · split <;> exact ⟨rfl, rfl, rfl⟩

/-- `succeedHandshake` in one piece: it opens, carrying the pipelined rest along, or refuses whatever the rest is -/
theorem succeed_eq (cfg : SrvCfg) (v : Validated) (proto : Option Bytes) (uh : List (Bytes × Bytes)) (r : Bytes) :
    succeed cfg v proto uh r =
      if (∀ p, proto = some p → p ∈ v.protocols) ∧
          (v.exts.filter (fun e => isPmce e.name)).all (pmceParamsOk true) = true then
        .opened (utf8Encode (renderResponse cfg uh proto v.key (replyExts cfg v))) proto (replyExts cfg v) r
      else refusal cfg v proto := by
  unfold succeed refusal
  cases proto with
  | none =>
    simp only [reduceCtorEq, false_imp_iff, implies_true, true_and, Bool.false_eq_true, if_false, if_true]
    cases (List.filter (fun e => isPmce e.name) v.exts).all (pmceParamsOk true) <;> rfl
  | some q =>
    simp only [Option.some.injEq, forall_eq', decide_not, Bool.not_eq_true', decide_eq_false_iff_not]
    by_cases hq : q ∈ v.protocols
    · simp only [hq, not_true_eq_false, if_false, true_and, if_true]
      cases (List.filter (fun e => isPmce e.name) v.exts).all (pmceParamsOk true) <;> rfl
    · simp only [hq, not_false_eq_true, if_true, false_and, if_false]

theorem head_append_done {d : Bytes} {i : Nat} (h : find crlfcrlf d = some i) (t : Bytes) :
    find crlfcrlf (d ++ t) = some i ∧ (d ++ t).take (i + 4) = d.take (i + 4) := by
  have hb : i + 4 ≤ d.length := by simpa [crlfcrlf] using find_bound h
  exact ⟨find_prefix_stable h t, List.take_append_of_le_length hb⟩

/-- the server's verdict on a complete header block `head` that `rest` follows in the buffer: the body of `server` behind
`find crlfcrlf`, word for word -/
def settle (cfg : SrvCfg) (env : SrvEnv) (head rest : Bytes) : SrvOut :=
  match parseHttpHeader head with
  | none => .fail 400 []
  | some (line, hs) =>
    match validate cfg env line hs with
    | .error o => o
    | .ok v =>
      match env.onConnect with
      | .deny code => .fail code []
      | .raises => .fail 500 []
      | .accept proto uh => succeed cfg v proto uh rest

theorem server_of_find {cfg : SrvCfg} {env : SrvEnv} {data b : Bytes} {eoh : Nat} (hf : find crlfcrlf data = some eoh)
    (hb : data <+: b) : server cfg env b = settle cfg env (data.take (eoh + 4)) (b.drop (eoh + 4)) := by
  obtain ⟨t, rfl⟩ := hb
  obtain ⟨hf', ht⟩ := head_append_done hf t
  unfold server
  rw [hf', ← ht]
  rfl

def reply (cfg : SrvCfg) (hs : List Hdr) (proto : Option Bytes) (uh : List (Bytes × Bytes)) : Bytes → SrvOut :=
  .opened (utf8Encode (renderResponse cfg uh proto (validated hs).key (replyExts cfg (validated hs)))) proto
    (replyExts cfg (validated hs))

theorem server_opens {cfg : SrvCfg} {env : SrvEnv} {data line : Bytes} {eoh : Nat} {hs : List Hdr} {proto : Option Bytes}
    {uh : List (Bytes × Bytes)} (hf : find crlfcrlf data = some eoh)
    (hp : parseHttpHeader (data.take (eoh + 4)) = some (line, hs)) (hv : ValidRequest cfg env line hs)
    (hoc : env.onConnect = .accept proto uh) (hpr : ∀ p, proto = some p → p ∈ offered hs) {b : Bytes}
    (hb : data <+: b) : server cfg env b = reply cfg hs proto uh (b.drop (eoh + 4)) := by
  obtain ⟨hok, hall⟩ := (validRequest_iff cfg env line (parse_wf hp)).1 hv
  simp only [server_of_find hf hb, settle, hp, hok, hoc, succeed_eq]
  exact if_pos ⟨hpr, hall⟩

/-- what the server makes of a buffer, in three cases; the last two say it of every buffer `b` that extends this one -/
inductive ServerCase (cfg : SrvCfg) (env : SrvEnv) (data : Bytes) : Prop
  /-- no terminator yet: it keeps buffering or, where the Flash policy file is served and the buffer holds the request
  for it, answers `.flash`: a verdict, and the one that a later terminator can overturn -/
  | waits : find crlfcrlf data = none →
      server cfg env data = (if cfg.flashPolicy && (find flashRequest data).isSome then .flash else .incomplete) →
      ServerCase cfg env data
  /-- the buffer is refused, in the same way whatever follows it -/
  | refuses (o : SrvOut) : o.Quiet → (∀ b, data <+: b → server cfg env b = o) → ServerCase cfg env data
  /-- a valid header block that `onConnect` accepts with an announced subprotocol (or none): the reply, with what follows
  the header block carried along -/
  | opens (eoh : Nat) (line : Bytes) (hs : List Hdr) (proto : Option Bytes) (uh : List (Bytes × Bytes)) :
      find crlfcrlf data = some eoh → parseHttpHeader (data.take (eoh + 4)) = some (line, hs) →
      ValidRequest cfg env line hs → env.onConnect = .accept proto uh → (∀ p, proto = some p → p ∈ offered hs) →
      (∀ b, data <+: b → server cfg env b = reply cfg hs proto uh (b.drop (eoh + 4))) → ServerCase cfg env data

theorem server_cases (cfg : SrvCfg) (env : SrvEnv) (data : Bytes) : ServerCase cfg env data := by
  cases hf : find crlfcrlf data with
  | none => exact .waits hf (by simp only [server, hf])
  | some eoh =>
    cases hp : parseHttpHeader (data.take (eoh + 4)) with
    | none => exact .refuses (.fail 400 []) ⟨rfl, rfl, rfl⟩ fun _ hb => by simp only [server_of_find hf hb, settle, hp]
    | some lh =>
      obtain ⟨line, hs⟩ := lh
      have hpass := validate_passes cfg env line (parse_wf hp)
      cases hv : validate cfg env line hs with
      | error o => exact .refuses o (hpass.error hv).quiet fun _ hb => by simp only [server_of_find hf hb, settle, hp, hv]
      | ok v =>
        obtain rfl := (hpass.ok_iff.1 hv).2
        cases hoc : env.onConnect with
        | deny code =>
          exact .refuses (.fail code []) ⟨rfl, rfl, rfl⟩ fun _ hb => by simp only [server_of_find hf hb, settle, hp, hv, hoc]
        | raises =>
          exact .refuses (.fail 500 []) ⟨rfl, rfl, rfl⟩ fun _ hb => by simp only [server_of_find hf hb, settle, hp, hv, hoc]
        | accept proto uh =>
          by_cases hc : (∀ p, proto = some p → p ∈ offered hs) ∧
              offersOk (value hs b!"sec-websocket-extensions") = true
          · have hval := (validRequest_iff cfg env line (parse_wf hp)).2 ⟨hv, hc.2⟩
            exact .opens eoh line hs proto uh hf hp hval hoc hc.1 fun _ => server_opens hf hp hval hoc hc.1
          · exact .refuses (refusal cfg (validated hs) proto) (refusal_quiet cfg (validated hs) proto) fun _ hb => by
              simp only [server_of_find hf hb, settle, hp, hv, hoc, succeed_eq]
              exact if_neg hc

/-- For all byte strings, configurations and environments: the server model completes the handshake exactly when the header
block is complete, satisfies `ValidRequest`, and the user's `onConnect` accepts. -/
theorem server_accepts_iff_valid (cfg : SrvCfg) (env : SrvEnv) (data : Bytes) :
    (server cfg env data).isOpened = true ↔
      ∃ line hs, ParsedHead data line hs ∧ ValidRequest cfg env line hs ∧ Accepts env hs := by
  constructor
  · intro h
    cases server_cases cfg env data with
    | waits _ hw =>
      rw [hw] at h
      split at h <;> cases h
    | refuses o hq ho =>
      rw [ho data List.prefix_rfl, hq.notOpened] at h
      cases h
    | opens eoh line hs proto uh hf hp hv hoc hpr _ => exact ⟨line, hs, ⟨eoh, hf, hp⟩, hv, proto, uh, hoc, hpr⟩
  · rintro ⟨line, hs, ⟨eoh, hf, hp⟩, hv, proto, uh, hoc, hpr⟩
    rw [server_opens hf hp hv hoc hpr List.prefix_rfl]
    rfl

theorem specRequest_of_head {cfg : SrvCfg} {env : SrvEnv} {data line : Bytes} {hs : List Hdr}
    (h : ParsedHead data line hs) : specRequest cfg env data = decide (ValidRequest cfg env line hs) := by
  obtain ⟨eoh, hf, hp⟩ := h
  unfold specRequest
  simp only [hf, hp]

/-- the same on raw octets: the server model opens exactly when the Spec verdict `specRequest` is positive and
`onConnect` accepts with no subprotocol or an announced one -/
theorem server_accepts_iff_spec (cfg : SrvCfg) (env : SrvEnv) (data : Bytes) :
    (server cfg env data).isOpened = true ↔
      specRequest cfg env data = true ∧ ∃ line hs, ParsedHead data line hs ∧ Accepts env hs := by
  rw [server_accepts_iff_valid]
  constructor
  · rintro ⟨line, hs, hp, hv, ha⟩
    exact ⟨(specRequest_of_head hp).trans (decide_eq_true hv), line, hs, hp, ha⟩
  · rintro ⟨hspec, line, hs, hp, ha⟩
    exact ⟨line, hs, hp, of_decide_eq_true ((specRequest_of_head hp).symm.trans hspec), ha⟩

/-! ### the client on a buffer -/

/-- a complete header block always has a first line: `raw[0]` in `parseHttpHeader` cannot raise -/
theorem parse_head_some {data : Bytes} {i : Nat} (h : find crlfcrlf data = some i) :
    ∃ line hs, parseHttpHeader (data.take (i + 4)) = some (line, hs) := by
  cases hp : parseHttpHeader (data.take (i + 4)) with
  | some lh => exact ⟨lh.1, lh.2, rfl⟩
  | none =>
    rw [parseHttpHeader_eq_none, List.take_eq_nil_iff] at hp
    rcases hp with hp | rfl
    · cases hp
    · cases h

/-- what the client makes of a buffer: it waits for the terminator; then the parsed header block decides, in the same way
for every buffer `b` that extends this one: a valid response opens, anything else fails the handshake -/
inductive ClientCase (cfg : CliCfg) (key data : Bytes) : Prop
  | waits : find crlfcrlf data = none → client cfg key data = .incomplete → ClientCase cfg key data
  | decides (eoh : Nat) (line : Bytes) (hs : List Hdr) : find crlfcrlf data = some eoh →
      parseHttpHeader (data.take (eoh + 4)) = some (line, hs) →
      (∀ b, data <+: b → client cfg key b =
        if ValidResponse cfg key line hs then
          .opened (chosen (value hs b!"sec-websocket-protocol"))
            (granted cfg (value hs b!"sec-websocket-extensions")) (b.drop (eoh + 4))
        else .fail) → ClientCase cfg key data

theorem client_cases (cfg : CliCfg) (key data : Bytes) : ClientCase cfg key data := by
  cases hf : find crlfcrlf data with
  | none => exact .waits hf (by simp only [client, hf])
  | some eoh =>
    obtain ⟨line, hs, hp⟩ := parse_head_some hf
    have hpass := cvalidate_passes cfg key line (parse_wf hp)
    refine .decides eoh line hs hf hp fun b hb => ?_
    obtain ⟨t, rfl⟩ := hb
    obtain ⟨hf', ht⟩ := head_append_done hf t
    by_cases hv : ValidResponse cfg key line hs
    · simp only [client, hf', ht, hp, hpass.ok hv, if_pos hv]
    · obtain ⟨o, ho, hd⟩ := hpass.stop hv
      simp only [client, hf', ht, hp, ho, if_neg hv]
      exact hd

/-- For all configurations, keys and byte strings (valid UTF-8 or not) the client model completes the handshake exactly
when the header block is complete and satisfies `ValidResponse` for the key it sent and the subprotocols its request
announced. -/
theorem client_opens_iff_valid (cfg : CliCfg) (key data : Bytes) :
    (client cfg key data).isOpened = true ↔ ∃ line hs, ParsedHead data line hs ∧ ValidResponse cfg key line hs := by
  constructor
  · intro h
    cases client_cases cfg key data with
    | waits _ hw =>
      rw [hw] at h
      cases h
    | decides eoh line hs hf hp hc =>
      rw [hc data List.prefix_rfl] at h
      split at h
      · next hv => exact ⟨line, hs, ⟨eoh, hf, hp⟩, hv⟩
      · cases h
  · rintro ⟨line, hs, ⟨eoh, hf, hp⟩, hv⟩
    cases client_cases cfg key data with
    | waits hn _ =>
      rw [hf] at hn
      cases hn
    | decides eoh' line' hs' hf' hp' hc =>
      rw [hf] at hf'
      cases hf'
      rw [hp] at hp'
      cases hp'
      rw [hc data List.prefix_rfl, if_pos hv]
      rfl

theorem specResponse_of_head {cfg : CliCfg} {key data line : Bytes} {hs : List Hdr}
    (h : ParsedHead data line hs) : specResponse cfg key data = decide (ValidResponse cfg key line hs) := by
  obtain ⟨eoh, hf, hp⟩ := h
  unfold specResponse
  simp only [hf, hp]

theorem specResponse_head {cfg : CliCfg} {key data : Bytes} (h : specResponse cfg key data = true) :
    ∃ line hs, ParsedHead data line hs := by
  cases hf : find crlfcrlf data with
  | none => simp [specResponse, hf] at h
  | some eoh =>
    obtain ⟨line, hs, hp⟩ := parse_head_some hf
    exact ⟨line, hs, eoh, hf, hp⟩

/-- the same on raw octets: the client model opens exactly when the Spec verdict `specResponse` is positive -/
theorem client_opens_iff_spec (cfg : CliCfg) (key data : Bytes) :
    (client cfg key data).isOpened = true ↔ specResponse cfg key data = true := by
  rw [client_opens_iff_valid]
  constructor
  · rintro ⟨line, hs, hp, hv⟩
    exact (specResponse_of_head hp).trans (decide_eq_true hv)
  · intro hspec
    obtain ⟨line, hs, hp⟩ := specResponse_head hspec
    exact ⟨line, hs, hp, of_decide_eq_true ((specResponse_of_head hp).symm.trans hspec)⟩

/-- a client that announced `b` (its `onConnecting` returned a request of its own; `factory.protocols` plays no part)
refuses `a`, which it never requested, and accepts `b` -/
example : client { protocols := [b!"b"] } b!"dGhlIHNhbXBsZSBub25jZQ=="
      b!"HTTP/1.1 101 X\r\nUpgrade: websocket\r\nConnection: Upgrade\r\nSec-WebSocket-Accept: s3pPLMBiTxaQ9kYGzzhZRbK+xOo=\r\nSec-WebSocket-Protocol: a\r\n\r\n" = .fail
    ∧ client { protocols := [b!"b"] } b!"dGhlIHNhbXBsZSBub25jZQ=="
      b!"HTTP/1.1 101 X\r\nUpgrade: websocket\r\nConnection: Upgrade\r\nSec-WebSocket-Accept: s3pPLMBiTxaQ9kYGzzhZRbK+xOo=\r\nSec-WebSocket-Protocol: b\r\n\r\n" = .opened (some b!"b") [] [] := by
  decide +kernel

/-! ### chunking -/

/-- what follows the header block is not part of the handshake verdict -/
def SrvOut.mapRest (f : Bytes → Bytes) : SrvOut → SrvOut
  | .opened r p e rest => .opened r p e (f rest)
  | o => o

def CliOut.mapRest (f : Bytes → Bytes) : CliOut → CliOut
  | .opened p e rest => .opened p e (f rest)
  | o => o

def SrvOut.dropRest : SrvOut → SrvOut := SrvOut.mapRest (fun _ => [])
def CliOut.dropRest : CliOut → CliOut := CliOut.mapRest (fun _ => [])

theorem SrvOut.eq_incomplete {o : SrvOut} (h : o.isIncomplete = true) : o = .incomplete := by
  cases o <;> first | rfl | cases h

theorem CliOut.eq_incomplete {o : CliOut} (h : o.isIncomplete = true) : o = .incomplete := by
  cases o <;> first | rfl | cases h

/-- once the server has given its verdict, later octets only extend the pipelined rest (with the Flash policy file
served, `.flash` is a verdict that a later terminator overturns: the `example` on `flashRequest`) -/
theorem server_verdict_stable {cfg : SrvCfg} {env : SrvEnv} (hflash : cfg.flashPolicy = false) {d : Bytes}
    (h : (server cfg env d).isIncomplete = false) (t : Bytes) :
    (server cfg env (d ++ t)).dropRest = (server cfg env d).dropRest := by
  cases server_cases cfg env d with
  | waits _ hw => simp [hw, hflash, SrvOut.isIncomplete] at h
  | refuses o _ ho => rw [ho _ (List.prefix_append d t), ho d List.prefix_rfl]
  | opens _ _ _ _ _ _ _ _ _ _ ho =>
    rw [ho _ (List.prefix_append d t), ho d List.prefix_rfl]
    rfl

theorem client_verdict_stable {cfg : CliCfg} {key d : Bytes} (h : (client cfg key d).isIncomplete = false) (t : Bytes) :
    (client cfg key (d ++ t)).dropRest = (client cfg key d).dropRest := by
  cases client_cases cfg key d with
  | waits _ hw =>
    rw [hw] at h
    cases h
  | decides _ _ _ _ _ hc =>
    rw [hc _ (List.prefix_append d t), hc d List.prefix_rfl]
    split <;> rfl

theorem feedAll_done {α : Type} (judge : Bytes → α) (isIncomplete : α → Bool) (o : α) (cs : List Bytes) :
    feedAllWith judge isIncomplete (.done o) cs = .done o := by
  unfold feedAllWith
  induction cs with
  | nil => rfl
  | cons c cs ih => simpa [feedWith] using ih

/-- whatever the chunking: the connection still buffers all it was fed, which the judge finds incomplete, or it gave
the judge's verdict on the first prefix of the stream, cut at a chunk boundary, that the judge did not find incomplete -/
theorem feed_cases {α : Type} (judge : Bytes → α) (isIncomplete : α → Bool) (d : Bytes)
    (hd : isIncomplete (judge d) = true) (cs : List Bytes) :
    (isIncomplete (judge (d ++ cs.flatten)) = true ∧
      feedAllWith judge isIncomplete (.buffering d) cs = .buffering (d ++ cs.flatten)) ∨
    ∃ a t, d ++ cs.flatten = a ++ t ∧ isIncomplete (judge a) = false ∧
      feedAllWith judge isIncomplete (.buffering d) cs = .done (judge a) := by
  induction cs generalizing d with
  | nil => exact .inl ⟨by simpa using hd, by simp [feedAllWith]⟩
  | cons c cs ih =>
    simp only [feedAllWith, List.foldl_cons, feedWith, List.flatten_cons, ← List.append_assoc]
    cases hc : isIncomplete (judge (d ++ c)) with
    | true => exact ih (d ++ c) hc
    | false => exact .inr ⟨d ++ c, cs.flatten, rfl, hc, feedAll_done ..⟩

/-- Chunking does not matter, for any reader of the shape of `feedWith`.  `judge` gives the verdict on a whole buffer
(`server cfg env`, `client cfg key`); `isIncomplete` marks the verdicts on which the connection goes on buffering, and
`inc` is what `Conn.result` reports while it does; `erase` forgets what chunkings may differ in (here the pipelined
octets after the header block: `dropRest`).  `hnil`: nothing is decided on the empty buffer.  `hdone`: a verdict, once
given, is up to `erase` the verdict on every longer buffer.  `hinc`: there is one incomplete verdict. -/
theorem feed_flatten {α : Type} (judge : Bytes → α) (isIncomplete : α → Bool) (erase : α → α) (inc : α)
    (hnil : isIncomplete (judge []) = true)
    (hdone : ∀ d t, isIncomplete (judge d) = false → erase (judge (d ++ t)) = erase (judge d))
    (hinc : ∀ o, isIncomplete o = true → o = inc) (cs : List Bytes) :
    erase ((feedAllWith judge isIncomplete (.buffering []) cs).result inc) = erase (judge cs.flatten) := by
  rcases feed_cases judge isIncomplete [] hnil cs with ⟨hi, h⟩ | ⟨a, t, hat, hna, h⟩
  · rw [h]
    exact congrArg erase (hinc _ hi).symm
  · rw [h, ← List.nil_append cs.flatten, hat, hdone a t hna]
    rfl

theorem server_nil_incomplete (cfg : SrvCfg) (env : SrvEnv) : (server cfg env []).isIncomplete = true := by
  have h1 : find crlfcrlf [] = none := by decide
  have h2 : find flashRequest [] = none := by decide
  simp [server, h1, h2, SrvOut.isIncomplete]

/-- For configurations that do not serve the Flash policy file (with it the verdict on `<policy-file-request/>\0` is
given before a later header terminator could arrive, see the `example`): feeding any chunking gives the verdict of
feeding the concatenation, up to the pipelined octets after the header. -/
theorem segmentation_independent_server (cfg : SrvCfg) (env : SrvEnv) (hflash : cfg.flashPolicy = false)
    (cs : List Bytes) : (serverFeed cfg env cs).dropRest = (server cfg env cs.flatten).dropRest :=
  feed_flatten (server cfg env) SrvOut.isIncomplete SrvOut.dropRest .incomplete (server_nil_incomplete cfg env)
    (fun _ t h => server_verdict_stable hflash h t) (fun _ => SrvOut.eq_incomplete) cs

/-- the same for the client, for all keys, configurations and chunkings -/
theorem segmentation_independent_client (cfg : CliCfg) (key : Bytes) (cs : List Bytes) :
    (clientFeed cfg key cs).dropRest = (client cfg key cs.flatten).dropRest :=
  feed_flatten (client cfg key) CliOut.isIncomplete CliOut.dropRest .incomplete rfl
    (fun _ t h => client_verdict_stable h t) (fun _ => CliOut.eq_incomplete) cs

/-- with the Flash policy file served, the verdict depends on segmentation (why `segmentation_independent_server` asks
for `flashPolicy = false`) -/
example : serverFeed { flashPolicy := true } {} [flashRequest, b!"\r\n\r\n"] = .flash
    ∧ server { flashPolicy := true } {} (flashRequest ++ b!"\r\n\r\n") = .fail 400 [] := by decide +kernel

/-! ### no exception leaves the handshake code -/

/-- For every configuration, environment — whatever `parse_qs`, `hyperlink`, `int`, `ipaddress` and the user's
`onConnect` do — and every byte string, no exception leaves `processHandshake`. -/
theorem server_never_escapes (cfg : SrvCfg) (env : SrvEnv) (data : Bytes) :
    (server cfg env data).isEscape = false := by
  cases server_cases cfg env data with
  | waits _ hw =>
    rw [hw]
    split <;> rfl
  | refuses o hq ho => rw [ho data List.prefix_rfl, hq.notEscape]
  | opens _ _ _ _ _ _ _ _ _ _ ho =>
    rw [ho data List.prefix_rfl]
    rfl

/-- … and therefore none leaves `dataReceived`, however the octets are segmented -/
theorem serverFeed_never_escapes (cfg : SrvCfg) (env : SrvEnv) (cs : List Bytes) :
    (serverFeed cfg env cs).isEscape = false := by
  unfold serverFeed
  rcases feed_cases (server cfg env) SrvOut.isIncomplete [] (server_nil_incomplete cfg env) cs with
    ⟨_, h⟩ | ⟨a, _, _, _, h⟩
  · rw [h]; rfl
  · rw [h]; exact server_never_escapes cfg env a

/-- For every configuration, key and byte string — valid UTF-8 or not — no exception leaves the client's
`processHandshake` (the only raising operation in the model, `raw[0]`, is unreachable: `parse_head_some`). -/
theorem client_never_escapes (cfg : CliCfg) (key data : Bytes) : (client cfg key data).isEscape = false := by
  cases client_cases cfg key data with
  | waits _ hw => rw [hw]; rfl
  | decides _ _ _ _ _ hc =>
    rw [hc data List.prefix_rfl]
    split <;> rfl

theorem clientFeed_never_escapes (cfg : CliCfg) (key : Bytes) (cs : List Bytes) :
    (clientFeed cfg key cs).isEscape = false := by
  unfold clientFeed
  rcases feed_cases (client cfg key) CliOut.isIncomplete [] rfl cs with ⟨_, h⟩ | ⟨a, _, _, _, h⟩
  · rw [h]; rfl
  · rw [h]; exact client_never_escapes cfg key a

/-- malformed `after` / `redirect` parameters end in an HTTP 400 + drop, an undecodable status line in a dropped
connection -/
example : server {} { redirect := .url b!"http://x.y/" .bad }
    b!"GET /?redirect=http%3A%2F%2Fx.y&after=abc HTTP/1.1\r\nHost: a\r\n\r\n" = .fail 400 [] := by decide +kernel
example : server {} { redirect := .bad .urlParseError }
    b!"GET /?redirect=http%3A%2F%2F[ HTTP/1.1\r\nHost: a\r\n\r\n" = .fail 400 [] := by decide +kernel
example : client {} b!"AAAAAAAAAAAAAAAAAAAAAA==" (b!"HTTP/1.1 101 " ++ [0xff] ++ crlfcrlf) = .fail := by decide +kernel

/-! ### the reply -/

/-- Whenever the server model opens, for all inputs — the reply is the rendered 101 response for
the key the client sent (`Sec-WebSocket-Accept` = `acceptDigest key`), the subprotocol is none or one the client announced,
and every extension in the reply answers a permessage-deflate offer present in the request. -/
theorem server_reply_correct {cfg : SrvCfg} {env : SrvEnv} {data resp rest : Bytes} {proto : Option Bytes}
    {exts : List Bytes} (h : server cfg env data = .opened resp proto exts rest) :
    ∃ line hs uh, ParsedHead data line hs ∧ env.onConnect = .accept proto uh ∧
      resp = utf8Encode (renderResponse cfg uh proto (strip (value hs b!"sec-websocket-key")) exts) ∧
      (∀ p, proto = some p → p ∈ offered hs) ∧
      (∀ e ∈ exts, ReplyExtOk (parseExtensions (value hs b!"sec-websocket-extensions")) e) := by
  cases server_cases cfg env data with
  | waits _ hw =>
    rw [hw] at h
    split at h <;> cases h
  | refuses o hq ho =>
    rw [ho data List.prefix_rfl] at h
    subst h
    cases hq.notOpened
  | opens eoh line hs p' uh hf hp _ hoc hpr ho =>
    rw [ho data List.prefix_rfl] at h
    obtain ⟨rfl, rfl, rfl, -⟩ := SrvOut.opened.inj h
    exact ⟨line, hs, uh, ⟨eoh, hf, hp⟩, hoc, rfl, hpr, replyExts_ok cfg (validated hs)⟩

/-- the rendered response is a 101 … -/
theorem renderResponse_status (cfg : SrvCfg) (uh : List (Bytes × Bytes)) (proto : Option Bytes) (key : Bytes)
    (exts : List Bytes) :
    ∃ t, renderResponse cfg uh proto key exts = b!"HTTP/1.1 101 Switching Protocols" ++ crlf ++ t := by
  unfold renderResponse
  simp only [List.append_assoc]
  exact ⟨_, rfl⟩

/-- … that carries `Sec-WebSocket-Accept: base64(sha1(key ++ GUID))` -/
theorem renderResponse_accept (cfg : SrvCfg) (uh : List (Bytes × Bytes)) (proto : Option Bytes) (key : Bytes)
    (exts : List Bytes) :
    ∃ a b, renderResponse cfg uh proto key exts =
      a ++ (b!"Sec-WebSocket-Accept: " ++ Crypto7.Base64.encode (Crypto7.Sha1.hash (key ++ guid)) ++ crlf) ++ b := by
  unfold renderResponse acceptDigest
  refine ⟨b!"HTTP/1.1 101 Switching Protocols" ++ crlf
    ++ (if cfg.serverHeader.isEmpty then [] else b!"Server: " ++ cfg.serverHeader ++ crlf)
    ++ b!"Upgrade: WebSocket" ++ crlf ++ b!"Connection: Upgrade" ++ crlf
    ++ renderHeaders cfg.headers ++ renderHeaders uh
    ++ (match proto with | some p => b!"Sec-WebSocket-Protocol: " ++ p ++ crlf | none => []),
    (if exts.isEmpty then [] else b!"Sec-WebSocket-Extensions: " ++ join [44] exts ++ crlf) ++ crlf, ?_⟩
  simp only [List.append_assoc]
  rfl

theorem deflateAcceptString_prefix (o : Ext) : b!"permessage-deflate" <+: deflateAcceptString o := by
  unfold deflateAcceptString
  dsimp only
  have h2 : b!"permessage-deflate" <+:
      (if (paramVals o b!"server_no_context_takeover").isEmpty then b!"permessage-deflate"
       else b!"permessage-deflate" ++ b!"; server_no_context_takeover") := by
    split
    · exact List.prefix_rfl
    · exact List.prefix_append _ _
  split
  · split
    · exact (h2.trans (List.prefix_append _ _)).trans (List.prefix_append _ _)
    · exact h2
  · exact h2

/-! ### the allowed-origins policy -/

/-- A request that passes the origin stage has no origin header (of its version), or a
`null`-like origin with `allowNullOrigin`, or an origin whose reconstruction `scheme://host:port` is matched IN FULL by one
of the allowed patterns.  (The stage evaluates the regex of `wildcards2patterns`, `^…$` with `$` also matching before a
final newline; `noNl_originHeader` shows that no reconstructed origin contains a newline, so this is `Glob.fullMatch`.) -/
theorem origin_whole_match {cfg : SrvCfg} {env : SrvEnv} {hs : List Hdr} (wf : HdrsWf hs) {ver : Nat}
    (h : stageOrigin cfg env hs ver = .ok ()) :
    count hs (originKey ver) = 0 ∨
    (urlToOrigin env.brOk (strip (value hs (originKey ver))) = some .null ∧ cfg.allowNullOrigin = true) ∨
    ∃ s hst p pat, urlToOrigin env.brOk (strip (value hs (originKey ver))) = some (.triple s hst p) ∧
      pat ∈ cfg.allowedOrigins ∧ Glob.fullMatch pat (originHeader s hst p) = true := by
  rcases ((stageOrigin_passes wf ver).ok_iff.1 h).1 with h0 | ⟨_, ha⟩
  · exact .inl h0
  · right
    unfold originAllowed at ha
    split at ha
    · cases ha
    · next heq => exact .inl ⟨heq, ha⟩
    · next s hst p heq =>
      simp at ha
      obtain ⟨pat, hm, hf⟩ := ha
      exact .inr ⟨s, hst, p, pat, heq, hm, hf⟩

/-- whole match is not prefix match: the classic bypass is refused, for the model as for the Spec -/
example : Glob.fullMatch b!"*good.com:80" b!"http://good.com:80" = true ∧
    Glob.fullMatch b!"*good.com:80" b!"http://good.com:80.evil.com:80" = false := by decide +kernel

example : (server { allowedOrigins := [b!"http://good.com:80"] } {}
    b!"GET / HTTP/1.1\r\nHost: a\r\nUpgrade: websocket\r\nConnection: Upgrade\r\nOrigin: http://good.com.evil.com\r\nSec-WebSocket-Key: dGhlIHNhbXBsZSBub25jZQ==\r\nSec-WebSocket-Version: 13\r\n\r\n")
    = .fail 400 [] := by decide +kernel

/-! ### inputs on which `int()` and the RFC grammars differ: model and Spec agree on them -/

/-- `Sec-WebSocket-Version: +13` (which `int()` reads as 13) — refused, as the Spec says -/
example : server {} {} b!"GET / HTTP/1.1\r\nHost: a\r\nUpgrade: websocket\r\nConnection: Upgrade\r\nSec-WebSocket-Key: dGhlIHNhbXBsZSBub25jZQ==\r\nSec-WebSocket-Version: +13\r\n\r\n" = .fail 400 []
    ∧ specRequest {} {} b!"GET / HTTP/1.1\r\nHost: a\r\nUpgrade: websocket\r\nConnection: Upgrade\r\nSec-WebSocket-Key: dGhlIHNhbXBsZSBub25jZQ==\r\nSec-WebSocket-Version: +13\r\n\r\n" = false := by
  decide +kernel

/-- … and a plain `13` satisfies both -/
example : (server {} {} b!"GET / HTTP/1.1\r\nHost: a\r\nUpgrade: websocket\r\nConnection: Upgrade\r\nSec-WebSocket-Key: dGhlIHNhbXBsZSBub25jZQ==\r\nSec-WebSocket-Version: 13\r\n\r\n").isOpened = true
    ∧ specRequest {} {} b!"GET / HTTP/1.1\r\nHost: a\r\nUpgrade: websocket\r\nConnection: Upgrade\r\nSec-WebSocket-Key: dGhlIHNhbXBsZSBub25jZQ==\r\nSec-WebSocket-Version: 13\r\n\r\n" = true := by
  decide +kernel

/-- the other spellings `int()` takes for 13 / 8, and numerals outside 0–255: none is a version numeral -/
example : [b!"+13", b!"1_3", b!"013", b!"+8", b!"08", b!" 13", b!"13 ", b!"256", b!"299", b!"1000", b!"-13", b!""].map versionNumeral
    = List.replicate 12 none ∧
    [b!"0", b!"8", b!"13", b!"99", b!"100", b!"199", b!"249", b!"255"].map versionNumeral
    = [some 0, some 8, some 13, some 99, some 100, some 199, some 249, some 255] := by decide +kernel

/-- status `+101` (which `int()` reads as 101) — the client fails the handshake, as the Spec says -/
example : client {} b!"dGhlIHNhbXBsZSBub25jZQ==" b!"HTTP/1.1 +101 X\r\nUpgrade: websocket\r\nConnection: Upgrade\r\nSec-WebSocket-Accept: s3pPLMBiTxaQ9kYGzzhZRbK+xOo=\r\n\r\n" = .fail
    ∧ specResponse {} b!"dGhlIHNhbXBsZSBub25jZQ==" b!"HTTP/1.1 +101 X\r\nUpgrade: websocket\r\nConnection: Upgrade\r\nSec-WebSocket-Accept: s3pPLMBiTxaQ9kYGzzhZRbK+xOo=\r\n\r\n" = false := by
  decide +kernel

example : [b!"+101", b!"1_01", b!"0101", b!"00101", b!" 101", b!"101 ", b!"10", b!""].map statusCode = List.replicate 8 none
    ∧ statusCode b!"101" = some 101 ∧ statusCode b!"200" = some 200 ∧ statusCode b!"007" = some 7 := by decide +kernel

/-! ### the client's request -/

/-- For every configuration and key the request line is `GET <resource> HTTP/1.1`, followed
(after the optional User-Agent) by `Host: <host>:<port>` — the `(host, port, resource)` the factory holds, the host in
brackets when it is an IPv6 address (`hostHeader`). -/
theorem request_targets_url (cfg : CliCfg) (key : Bytes) :
    ∃ ua rest, (ua = [] ∨ ua = b!"User-Agent: " ++ cfg.useragent ++ crlf) ∧
      clientRequest cfg key = utf8Encode (b!"GET " ++ cfg.resource ++ b!" HTTP/1.1" ++ crlf ++ ua ++
        b!"Host: " ++ hostHeader cfg.host ++ b!":" ++ natDigits cfg.port ++ crlf ++ rest) := by
  refine ⟨if cfg.useragent.isEmpty then [] else b!"User-Agent: " ++ cfg.useragent ++ crlf, ?_, ?_, ?_⟩
  case refine_2 => split <;> simp
  case refine_3 =>
    unfold clientRequest
    -- move the brackets along the spine until the announced prefix stands alone: there `rw` closes the goal by `rfl`
    repeat rw [List.append_assoc]

/-- `hostHeader` leaves a registered name or IPv4 address alone and brackets an IPv6 address exactly once -/
theorem hostHeader_plain {h : Bytes} (hc : contains 58 h = false) : hostHeader h = h := by
  simp [hostHeader, hc]

theorem hostHeader_v6 {h : Bytes} (hc : contains 58 h = true) (hb : h.head? ≠ some 91) :
    hostHeader h = [91] ++ h ++ [93] := by
  unfold hostHeader
  have : (h.head? != some 91) = true := by simpa using hb
  simp [hc, this]

theorem hostHeader_bracketed (h : Bytes) : hostHeader (91 :: h) = 91 :: h := by
  simp [hostHeader]

/-- what `parse_url` hands to the factory (model `parseUrl`) -/
example : parseUrl (fun _ => true) b!"wss://example.com:8443/p/q?x=1" = some ⟨true, b!"example.com", 8443, b!"/p/q?x=1"⟩ := by
  decide +kernel
/-- path parameters of the last segment stay in the resource -/
example : parseUrl (fun _ => true) b!"ws://h/a;x=1?q=2" = some ⟨false, b!"h", 80, b!"/a;x=1?q=2"⟩
    ∧ parseUrl (fun _ => true) b!"ws://h/;" = some ⟨false, b!"h", 80, b!"/;"⟩ := by decide +kernel
/-- an IPv6 host is still handed to the factory without its brackets … -/
example : parseUrl (fun _ => true) b!"ws://[::1]:9000/" = some ⟨false, b!"::1", 9000, b!"/"⟩ := by decide +kernel
/-- … and the request puts them back: `Host: [::1]:9000` -/
example : hostHeader b!"::1" = b!"[::1]" ∧ hostHeader b!"[::1]" = b!"[::1]" ∧ hostHeader b!"example.com" = b!"example.com"
    ∧ hostHeader b!"127.0.0.1" = b!"127.0.0.1" := by decide +kernel

/-- Whenever `parseUrl` accepts a URL, the resource is the path as `urlsplit` returns it
(`/` if empty) followed by `?query` when the query is not empty — nothing of the path is dropped -/
theorem resource_is_path_and_query {brOk : Bytes → Bool} {url : Bytes} {w : WsUrl} (h : parseUrl brOk url = some w) :
    ∃ u, urlsplit brOk url = some u ∧
      w.resource = (if u.path = [] then b!"/" else u.path) ++ (if u.query ≠ [] then b!"?" ++ u.query else []) := by
  unfold parseUrl at h
  cases hu : urlsplit brOk url with
  | none => rw [hu] at h; cases h
  | some u =>
    refine ⟨u, rfl, ?_⟩
    cases hh : hostname u.netloc with
    | none => simp only [hu, hh, ite_self] at h; cases h
    | some hn =>
      cases hp : port u.netloc with
      | none => simp only [hu, hh, hp, ite_self] at h; cases h
      | some p =>
        simp only [hu, hh, hp, Option.ite_none_left_eq_some, Option.some.injEq] at h
        obtain ⟨_, _, _, _, rfl⟩ := h
        by_cases hq : u.query ≠ [] <;> simp [hq]

/-! ### the hypothesis of `parse_render_headers` -/

section
-- `decide` is to read `∀ c ∈ l, …` as a statement about the elements of `l` (`List.decidableBAll`), not about all octets
attribute [-instance] Crypto7.Base64.decForallUInt8

/-- `HeaderSafe`, the hypothesis of `parse_render_headers`, is satisfiable: one header pair that has it -/
example : HeaderSafe (b!"X-Custom", b!"some value") :=
  ⟨by decide +kernel, by decide +kernel, by decide +kernel, by decide +kernel, by decide +kernel⟩
end

end Abverif.Handshake

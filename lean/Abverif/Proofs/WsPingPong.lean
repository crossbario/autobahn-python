import Abverif.Proofs.C01
/-
# C02: a ping is answered with a pong that carries the same payload

`ping_answered_same_payload`: when the engine handles a ping frame (payload ≤ 125 octets, as `recv_refines_judge`
guarantees for every ping it delivers: `delivered_ping_short`) on an OPEN connection, the application is told
(`onPing payload`) and exactly one frame is produced: opcode 10, FIN set, RSV clear, payload = the ping's payload,
masked according to the role; its octets are appended to what the endpoint has produced so far.  (What the judge reads
back from these octets is `judgeStep_encodeFrame`.)
-/
namespace Abverif.Ws

theorem ping_answered_same_payload (s : S) (p : Bytes) (ho : s.st = .opened) (hp : p.length ≤ 125)
    (hl : ¬ (s.lost = true ∧ s.cfg.asyncio = true)) :
    ∃ raw, encodeFrame true 0 10 (drawKey (s.emit (.onPing p))).2 s.cfg.applyMask p = some raw ∧
      wire (onPingFrame s p) = wire s ++ raw ∧
      (onPingFrame s p).sentOps = s.sentOps ++ [10] ∧
      (∃ d, (onPingFrame s p).log = s.log ++ Out.onPing p :: d) := by
  obtain ⟨raw, hraw⟩ := encodeFrame_some true 0 10 (drawKey (s.emit (.onPing p))).2 s.cfg.applyMask p
    (by have : (125 : Nat) < 2 ^ 63 := by decide
        omega)
  have hst : (s.emit (.onPing p)).st = .opened := ho
  have hne : (s.emit (.onPing p)).st ≠ .closed := by rw [hst]; decide
  have hpong : onPingFrame s p = sendFrame (s.emit (.onPing p)) 10 p true 0 false 0 := by
    unfold onPingFrame sendPong
    simp only [hst, if_true, ne_eq, not_true_eq_false, if_false, show ¬ (p.length > 125) by omega]
  rw [hpong]
  refine ⟨raw, hraw, ?_, ?_, ?_⟩
  · rw [sendFrame_wire (s.emit (.onPing p)) 10 p true 0 false 0 raw hne hl hraw, wire_emit s _ rfl]
  · -- the frame encodes, so it is recorded
    have h := (sendFrame_Sends (s.emit (.onPing p)) 10 p true 0 false 0).ops
    rw [show (s.emit (.onPing p)).cfg = s.cfg from rfl, hraw] at h
    exact h
  · -- the log only grows
    obtain ⟨d, hd, _⟩ := (sendFrame_Sends (s.emit (.onPing p)) 10 p true 0 false 0).log
    exact ⟨d, by rw [hd]; simp [S.emit]⟩

end Abverif.Ws

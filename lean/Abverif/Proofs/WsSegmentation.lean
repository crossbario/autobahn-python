import Abverif.Proofs.Lemmas.WsSeg2
import Abverif.Proofs.Lemmas.WsData
/-
# Segmentation independence of the WebSocket receive path (C01, C02, C16: "however the octet stream is segmented")

For an endpoint that fails by dropping (`failByDrop = true`, autobahn's default) the result of feeding an octet
stream to `dataReceived` does not depend on how the stream is cut into (non-empty) reads: the delivered events, the
frames written, the close outcome and the whole engine state are the same — or, when the stream makes the endpoint
fail the connection, both runs end CLOSED with the same history (`DeadSim`; the runs may differ only in private
fields of the dead connection such as the unprocessed rest of the buffer).

On the way the `processData` loop is shown to terminate for such an endpoint in a state with the frame pointer inside
the frame (`drain_fuel`, Lemmas/WsSeg2.lean): there the fuel `drainFuel` of the model's `drain` is never exhausted, so
the model's bounded loop *is* the code's `while` loop.

For `failByDrop = false` (the endpoint answers a violation with a close frame and keeps reading) the statement is false
of the code (finding F6: a violating header that is not complete in the read that exposes it is judged again on the
next read) and nothing is claimed.
-/
namespace Abverif.Ws

theorem dataReceived_lost (s : S) (d : Bytes) (hl : s.lost = true) : dataReceived s d = s := by
  unfold dataReceived; simp [hl]

theorem dataReceived_live (s : S) (d : Bytes) (hl : s.lost = false) (hs : s.st = .opened ∨ s.st = .closing) :
    dataReceived s d =
      { (drain (drainFuel (s.data ++ d)) { s with data := [] } (s.data ++ d)).1 with
        data := if (drain (drainFuel (s.data ++ d)) { s with data := [] } (s.data ++ d)).1.wasClean then []
                else (drain (drainFuel (s.data ++ d)) { s with data := [] } (s.data ++ d)).2 } := by
  unfold dataReceived
  rcases hs with h | h <;> simp [hl, h]

theorem dataReceived_idle (s : S) (d : Bytes) (hl : s.lost = false) (hs : s.st = .connecting ∨ s.st = .closed) :
    dataReceived s d = { s with data := s.data ++ d } := by
  unfold dataReceived
  rcases hs with h | h <;> simp [hl, h]

theorem St.reading_or_idle (st : St) : (st = .opened ∨ st = .closing) ∨ (st = .connecting ∨ st = .closed) := by
  cases st <;> simp

theorem mu_lt_drainFuel (s : S) (buf : Bytes) : mu s buf < drainFuel buf := by
  unfold mu drainFuel; split <;> omega

theorem setData_self (s : S) (h : s.data = []) : { s with data := [] } = s := by
  cases s; simp at h; subst h; rfl

theorem DeadSim.setData (a b : S) (x y : Bytes) (h : DeadSim a b) :
    DeadSim { a with data := x } { b with data := y } := h

/-- the frame pointer is within the current frame for as long as the connection lives -/
def LiveWF (s : S) : Prop := s.st ≠ .closed → WF s

theorem start_LiveWF (cfg : Cfg) : LiveWF (start cfg) := by
  obtain ⟨t, q, e, _⟩ := start_eq cfg
  rw [e]
  intro _ h hh
  cases hh

theorem dataReceived_append (s : S) (a b : Bytes) (hwf : LiveWF s) (hf : s.cfg.failByDrop = true)
    (ha : a ≠ []) (hb : b ≠ []) :
    Sim (dataReceived (dataReceived s a) b) (dataReceived s (a ++ b)) := by
  cases hl : s.lost with
  | true => rw [dataReceived_lost s a hl, dataReceived_lost s b hl, dataReceived_lost s _ hl]; exact Sim.refl s
  | false =>
    rcases s.st.reading_or_idle with hs | hs'
    · -- the engine is reading
      have hne : s.data ++ a ≠ [] := by
        intro h; exact ha (List.append_eq_nil_iff.mp h).2
      have hst0 : ({ s with data := [] } : S).st ≠ .closed := by
        rcases hs with h | h <;> simp [h]
      have A := drain_seg (drainFuel (s.data ++ a)) { s with data := [] } (s.data ++ a) b
        (drainFuel (s.data ++ a ++ b)) (hwf hst0) hf hst0 hb (fun h => absurd h hne)
        (mu_lt_drainFuel _ _) (mu_lt_drainFuel _ _)
      have hE := Ext.recv.drain (drainFuel (s.data ++ a)) { s with data := [] } (s.data ++ a)
      have hD := drain_data (drainFuel (s.data ++ a)) { s with data := [] } (s.data ++ a)
      rw [dataReceived_live s a hl hs, dataReceived_live s (a ++ b) hl hs, ← List.append_assoc]
      generalize drain (drainFuel (s.data ++ a)) { s with data := [] } (s.data ++ a) = r1 at A hE hD
      generalize drain (drainFuel (s.data ++ a ++ b)) { s with data := [] } (s.data ++ a ++ b) = r3 at A
      have hl1 : r1.1.lost = false := by rw [hE.lost]; exact hl
      by_cases hc : r1.1.st = .closed
      · generalize (if r1.1.wasClean = true then [] else r1.2) = d1
        rw [dataReceived_idle { r1.1 with data := d1 } b hl1 (Or.inr hc)]
        exact Or.inr (A.1 hc)
      · have hlive : r1.1.st = .opened ∨ r1.1.st = .closing := by
          have hr := hE.rank
          cases h1 : r1.1.st with
          | connecting =>
            rw [h1] at hr
            rcases hs with h | h <;> simp [h, St.rank] at hr
          | opened => exact Or.inl rfl
          | closing => exact Or.inr rfl
          | closed => exact absurd h1 hc
        have hself : ({ r1.1 with data := [] } : S) = r1.1 := setData_self _ (by rw [hD])
        cases hwc : r1.1.wasClean with
        | true =>
          -- the peer's close frame was taken in during the first read: the second read is discarded
          simp only [if_true]
          rw [dataReceived_live { r1.1 with data := [] } b hl1 hlive]
          simp only [List.nil_append]
          rw [hself]
          rw [drain_wasClean _ r1.1 b hwc]
          simp only [hwc, if_true]
          have hA := A.2 hc (drainFuel (r1.2 ++ b)) (mu_lt_drainFuel _ _)
          rw [drain_wasClean _ r1.1 (r1.2 ++ b) hwc] at hA
          rcases hA with e | d
          · rw [← e]
            simp only [hwc, if_true]
            exact Sim.refl _
          · exact Or.inr d
        | false =>
          simp only [Bool.false_eq_true, if_false]
          rw [dataReceived_live { r1.1 with data := r1.2 } b hl1 hlive]
          simp only
          rw [hself]
          rcases A.2 hc (drainFuel (r1.2 ++ b)) (mu_lt_drainFuel _ _) with e | d
          · rw [e]; exact Sim.refl _
          · exact Or.inr d
    · -- not reading: the octets are only buffered
      rw [dataReceived_idle s a hl hs', dataReceived_idle s (a ++ b) hl hs',
        dataReceived_idle { s with data := s.data ++ a } b hl hs']
      simp only [List.append_assoc]
      exact Sim.refl _

theorem Sim.dataReceived {x y : S} (h : Sim x y) (d : Bytes) : Sim (dataReceived x d) (dataReceived y d) := by
  rcases h with h | h
  · rw [h]; exact Sim.refl _
  · cases hl : x.lost with
    | true =>
      rw [dataReceived_lost x d hl, dataReceived_lost y d (by rw [← h.lost]; exact hl)]
      exact Or.inr h
    | false =>
      rw [dataReceived_idle x d hl (Or.inr h.closed_left), dataReceived_idle y d (by rw [← h.lost]; exact hl)
        (Or.inr h.closed_right)]
      exact Or.inr h

/-- feeding a list of reads, one `dataReceived` call each -/
def feed (s : S) (chunks : List Bytes) : S := chunks.foldl dataReceived s

/-- `LiveWF` is an invariant of reading, so the theorems apply again after every read -/
theorem dataReceived_LiveWF (s : S) (d : Bytes) (hwf : LiveWF s) (hf : s.cfg.failByDrop = true) :
    LiveWF (dataReceived s d) := by
  cases hl : s.lost with
  | true => rw [dataReceived_lost s d hl]; exact hwf
  | false =>
    rcases s.st.reading_or_idle with hs | hs'
    · have hst0 : ({ s with data := [] } : S).st ≠ .closed := by
        rcases hs with h | h <;> simp [h]
      rw [dataReceived_live s d hl hs]
      exact (drain_WF (drainFuel (s.data ++ d)) { s with data := [] } (s.data ++ d) (hwf hst0) hf).resolve_left
    · rw [dataReceived_idle s d hl hs']
      exact hwf

theorem flatten_ne_nil {chunks : List Bytes} (h0 : chunks ≠ []) (hne : ∀ c ∈ chunks, c ≠ []) : chunks.flatten ≠ [] :=
  let ⟨c, hc⟩ := List.exists_mem_of_ne_nil _ h0
  List.flatten_ne_nil_iff.mpr ⟨c, hc, hne c hc⟩

/-- **C01/C02/C16, segmentation**: any way of cutting an octet stream into non-empty reads has the effect of one
read of the whole stream (`Sim`: the same state, or both runs closed the connection with the same history) -/
theorem feed_flatten (chunks : List Bytes) : ∀ (s : S), LiveWF s → s.cfg.failByDrop = true → chunks ≠ [] →
    (∀ c ∈ chunks, c ≠ []) → Sim (feed s chunks) (dataReceived s chunks.flatten) := by
  induction chunks with
  | nil => intro s _ _ h; exact absurd rfl h
  | cons c cs ih =>
    intro s hwf hf _ hne
    have hc : c ≠ [] := hne c (List.mem_cons_self ..)
    cases cs with
    | nil => rw [List.flatten_cons, List.flatten_nil, List.append_nil]; exact Sim.refl _
    | cons c2 rest =>
      -- the first read, then (by induction) one read of all the others, is one read of the whole
      have hne' : ∀ x ∈ c2 :: rest, x ≠ [] := fun x hx => hne x (List.mem_cons_of_mem _ hx)
      have h1 := ih (dataReceived s c) (dataReceived_LiveWF s c hwf hf)
        (by rw [(dataReceived_Ext s c).cfg]; exact hf) (List.cons_ne_nil _ _) hne'
      exact h1.trans (dataReceived_append s c _ hwf hf hc (flatten_ne_nil (List.cons_ne_nil _ _) hne'))

theorem feed_eq_single (s : S) (hwf : LiveWF s) (hf : s.cfg.failByDrop = true) :
    ∀ (n : Nat) (chunks : List Bytes), chunks.length = n + 1 → (∀ c ∈ chunks, c ≠ []) →
      Sim (feed s chunks) (dataReceived s chunks.flatten) :=
  fun _ chunks hlen hne => feed_flatten chunks s hwf hf (by intro h; rw [h] at hlen; cases hlen) hne

/-- two segmentations of one stream are indistinguishable -/
theorem segmentation_independent (s : S) (hwf : LiveWF s) (hf : s.cfg.failByDrop = true)
    (xs ys : List Bytes) (hx : ∀ c ∈ xs, c ≠ []) (hy : ∀ c ∈ ys, c ≠ []) (he : xs.flatten = ys.flatten) :
    Sim (feed s xs) (feed s ys) := by
  by_cases hxs : xs = []
  · by_cases hys : ys = []
    · rw [hxs, hys]; exact Sim.refl _
    · exact absurd (by rw [← he, hxs]; rfl) (flatten_ne_nil hys hy)
  · have hys : ys ≠ [] := fun h => flatten_ne_nil hxs hx (by rw [he, h]; rfl)
    have a := feed_flatten xs s hwf hf hxs hx
    rw [he] at a
    exact a.trans (feed_flatten ys s hwf hf hys hy).symm

/-- the observable history (events delivered, octets written, close outcome) and the connection state do not depend
on the segmentation -/
theorem segmentation_independent_log (s : S) (hwf : LiveWF s) (hf : s.cfg.failByDrop = true)
    (xs ys : List Bytes) (hx : ∀ c ∈ xs, c ≠ []) (hy : ∀ c ∈ ys, c ≠ []) (he : xs.flatten = ys.flatten) :
    (feed s xs).log = (feed s ys).log ∧ (feed s xs).st = (feed s ys).st :=
  ⟨(segmentation_independent s hwf hf xs ys hx hy he).log, (segmentation_independent s hwf hf xs ys hx hy he).st⟩

theorem feed_LiveWF (s : S) (chunks : List Bytes) (hwf : LiveWF s) (hf : s.cfg.failByDrop = true) :
    LiveWF (feed s chunks) ∧ (feed s chunks).cfg = s.cfg := by
  induction chunks generalizing s with
  | nil => exact ⟨hwf, rfl⟩
  | cons c cs ih =>
    have hc : (dataReceived s c).cfg = s.cfg := (dataReceived_Ext s c).cfg
    have := ih (dataReceived s c) (dataReceived_LiveWF s c hwf hf) (by rw [hc]; exact hf)
    exact ⟨this.1, by rw [← hc]; exact this.2⟩

/-- the hypotheses are met by a freshly opened connection -/
example : LiveWF (start {}) ∧ (start {}).cfg.failByDrop = true := by
  exact ⟨start_LiveWF {}, rfl⟩

end Abverif.Ws

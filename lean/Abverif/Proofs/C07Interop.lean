import Abverif.Proofs.C07
/-!
C07 — the model of the library completes the handshake with itself: a finite configuration matrix evaluated by the kernel
(`decide +kernel`, with the Lean SHA-1 / Base64; by `server_reply_correct` both sides hash the same key, and spec
versions 16–18 repeat 13–15: `interopVia_version`).  The general statement over all header maps is not proved
(`parse_render_headers` in Lemmas/C07Render.lean is the step about header maps it would need); the tie for the real code is the harness's back-to-back matrix (part I).
-/
namespace Abverif.Handshake
open Abverif Abverif.Http Abverif.Url

/-- the client's request is accepted by the server and the server's reply by the client, with the same subprotocol -/
def interopOk (c : CliCfg) (s : SrvCfg) (oc : OnConnect) (key : Bytes) : Bool :=
  match server s { onConnect := oc } (clientRequest c key) with
  | .opened resp proto _ _ =>
    (match client c key resp with
     | .opened p _ _ => p == proto
     | _ => false)
  | _ => false

def sampleKey : Bytes := b!"dGhlIHNhbXBsZSBub25jZQ=="

/-- client configurations: the nine spec versions, cycling through {no, one, two} subprotocols (+ origin, extra header,
deflate offer) -/
def interopClients : List CliCfg :=
  (List.range 9).map (fun i =>
    if i % 3 = 0 then { host := b!"localhost", port := 9000, resource := b!"/x?y=1", version := 10 + i }
    else if i % 3 = 1 then
      { host := b!"localhost", port := 9000, resource := b!"/", version := 10 + i, protocols := [b!"a"],
        origin := b!"http://good.com", headers := [(b!"X-C", b!"1")], useragent := b!"AbV/1" }
    else
      { host := b!"h", port := 80, resource := b!"/p", version := 10 + i, protocols := [b!"a", b!"b"],
        accept := .acceptAll,
        offers := [b!"permessage-deflate; client_no_context_takeover; client_max_window_bits"] })

/-- the `Sec-WebSocket-Key` value of the header block of `data`, as the server reads it -/
def sentKey (data : Bytes) : Bytes :=
  match find crlfcrlf data with
  | none => []
  | some eoh =>
    match parseHttpHeader (data.take (eoh + 4)) with
    | none => []
    | some (_, hs) => strip (value hs b!"sec-websocket-key")

/-- `interopOk` with the client run on the 101 response rendered for the key it sent itself, after a check that this is
the key the server read: both sides then hash the same term `acceptDigest key`. -/
def interopVia (c : CliCfg) (s : SrvCfg) (p : Option Bytes) (uh : List (Bytes × Bytes)) (key : Bytes) : Bool :=
  match server s { onConnect := .accept p uh } (clientRequest c key) with
  | .opened _ proto exts _ =>
    sentKey (clientRequest c key) == key &&
    (match client c key (utf8Encode (renderResponse s uh proto key exts)) with
     | .opened p' _ _ => p' == proto
     | _ => false)
  | _ => false

/-- sound by `server_reply_correct`: the reply of the server is the response rendered for the key it read -/
theorem interopOk_of_via {c : CliCfg} {s : SrvCfg} {p : Option Bytes} {uh : List (Bytes × Bytes)} {key : Bytes}
    (h : interopVia c s p uh key = true) : interopOk c s (.accept p uh) key = true := by
  unfold interopVia at h
  unfold interopOk
  cases hs : server s { onConnect := .accept p uh } (clientRequest c key) with
  | opened resp proto exts rest =>
    obtain ⟨line, hdrs, uh', ⟨eoh, hf, hp⟩, hoc, hresp, _, _⟩ := server_reply_correct hs
    cases hoc
    have hk : sentKey (clientRequest c key) = strip (value hdrs b!"sec-websocket-key") := by simp only [sentKey, hf, hp]
    simp only [hs, Bool.and_eq_true, beq_iff_eq] at h
    rw [hresp, ← hk, h.1]
    cases hcl : client c key (utf8Encode (renderResponse s uh p key exts)) with
    | opened p' e r => simpa only [hcl] using h.2
    | _ => simp only [hcl, Bool.false_eq_true, and_false] at h
  | _ => rw [hs] at h; cases h

theorem client_version (c : CliCfg) (v : Nat) (key data : Bytes) :
    client { c with version := v } key data = client c key data := by
  have h : ∀ es b, cextLoop { c with version := v } es b = cextLoop c es b := by
    intro es
    induction es with
    | nil => intro b; rfl
    | cons e es ih => intro b; simp only [cextLoop, ih]
  unfold client cvalidate cstageExtensions cstageProtocol
  simp only [h]

/-- the handshake reads the client's spec version only through the protocol version it maps to and the name of the
origin header -/
theorem interopVia_version (c : CliCfg) (v : Nat) (s : SrvCfg) (p : Option Bytes) (uh : List (Bytes × Bytes))
    (key : Bytes) (h1 : specToProtocol v = specToProtocol c.version) (h2 : v > 10 ↔ c.version > 10) :
    interopVia { c with version := v } s p uh key = interopVia c s p uh key := by
  have hr : clientRequest { c with version := v } key = clientRequest c key := by
    unfold clientRequest
    simp only [h1, h2]
  unfold interopVia
  simp only [hr, client_version]

def interopRow (c : CliCfg) : Bool :=
  interopVia c { allowedOrigins := [b!"http*://good.com:*"], serverHeader := b!"AbV/1" } none [] sampleKey &&
  interopVia c { accept := .firstDeflate, headers := [(b!"X-F", b!"1")] }
    c.protocols.head? [(b!"X-A", b!"a b")] sampleKey &&
  interopVia c {} c.protocols.getLast? [] sampleKey

/-- Self-interoperation on a finite matrix, evaluated by the kernel (not the general statement over all header maps:
the general tie is the harness's back-to-back matrix on the real objects).  Every listed client completes the handshake
with a server supporting both protocol versions, for each `onConnect` choice, and both sides agree on the subprotocol. -/
theorem interop_matrix_partial :
    interopClients.all (fun c =>
      interopOk c { allowedOrigins := [b!"http*://good.com:*"], serverHeader := b!"AbV/1" } (.accept none []) sampleKey &&
      interopOk c { accept := .firstDeflate, headers := [(b!"X-F", b!"1")] }
        (.accept c.protocols.head? [(b!"X-A", b!"a b")]) sampleKey &&
      interopOk c {} (.accept c.protocols.getLast? []) sampleKey) = true := by
  have h : (interopClients.take 6).all interopRow = true := by decide +kernel
  -- the clients at spec versions 16–18 are those at 13–15 again: all of them speak protocol version 13
  have h6 : interopClients = interopClients.take 6 ++
      ((interopClients.take 6).drop 3).map (fun c => { c with version := c.version + 3 }) := rfl
  have hv : ∀ c ∈ (interopClients.take 6).drop 3, 13 ≤ c.version := by decide
  have hrow : ∀ c ∈ interopClients, interopRow c = true := by
    intro c hc
    rw [h6, List.mem_append, List.mem_map] at hc
    rcases hc with hc | ⟨c', hc', rfl⟩
    · exact List.all_eq_true.1 h c hc
    · have h13 := hv c' hc'
      have h1 : specToProtocol (c'.version + 3) = specToProtocol c'.version := by
        unfold specToProtocol
        rw [if_neg (by omega), if_neg (by omega)]
      unfold interopRow
      simp only [interopVia_version c' _ _ _ _ _ h1 (by omega)]
      exact List.all_eq_true.1 h c' (List.mem_of_mem_drop hc')
  rw [List.all_eq_true]
  intro c hc
  have hc := hrow c hc
  simp only [interopRow, Bool.and_eq_true] at hc ⊢
  exact ⟨⟨interopOk_of_via hc.1.1, interopOk_of_via hc.1.2⟩, interopOk_of_via hc.2⟩

/-- a server that supports only version 13 refuses the hybi-10 client and names what it supports -/
example : server { versions := [13] } {} (clientRequest { version := 10 } sampleKey)
    = .fail 400 [(b!"Sec-WebSocket-Version", b!"13")] := by decide +kernel

end Abverif.Handshake

import Abverif.Proofs.Lemmas.WsClean
import Abverif.Proofs.Lemmas.WsStep
import Abverif.Proofs.C05
/-
# C05: a close is reported clean only if our close frame was sent and the peer's close frame was received

`clean_close_needs_both`: in every state reachable from a fresh connection by any history, every close notification
`onClose(wasClean = true, …)` in the log was delivered with our close frame sent (history variable `closeSent`;
`one_close_frame`/`close_frame_on_wire` say what that frame is).  That the flag is set only by `onCloseFrame`, i.e. on
receipt of a close frame of the peer that passed the code and reason checks, is `closeStateStep_JP` / the definition
of `closeStateStep` (every other function keeps or clears the flag: `JP.of_le` with `b.wasClean → a.wasClean`);
`recv_refines_judge` (C02) says which octets make the engine get there.
-/
namespace Abverif.Ws

theorem step_JP (s : S) (op : Op) : JP s (step s op) :=
  JP.walk.inv_step id s op (fun hd => JP.of_ApiEq (stepCore_ApiEq s op hd)) (fun _ => connectionLost_JP s)
    fun c r _ => sendClose_JP s c r

/-- a clean report in the log of `connectionLost s` is an old one, or `s` was marked clean -/
theorem connectionLost_clean (s : S) (c : Option Nat) (r : Option Bytes) (w : Option NCR)
    (h : Out.onClose true c r w ∈ (connectionLost s).log) :
    Out.onClose true c r w ∈ s.log ∨ s.wasClean = true ∧ s.sendQueue = [] := by
  cases hl : s.lost
  · obtain ⟨n, pre, c', r', y, hp, e⟩ := connectionLost_eq s hl
    rw [e] at h
    rcases List.mem_append.mp h with h | h
    · rcases List.mem_append.mp h with h | h
      · exact Or.inl h
      · cases hp _ h
    · right
      simp only [List.mem_singleton, Out.onClose.injEq] at h
      simpa using h.1.symm
  · rw [connectionLost_idem s hl] at h; exact Or.inl h

/-- … and at that moment nothing we produced is still waiting in the send queue (`unsentUnclean`, /repo 4456518b): a clean report
means every octet handed to `sendData` before — our close frame is among them (`J`) — has been handed to the transport
or the queue was flushed by the orderly drop (`flushQueue`, /repo 1d0700cf) -/
theorem clean_report_nothing_unsent (s : S) (c : Option Nat) (r : Option Bytes) (w : Option NCR)
    (h : Out.onClose true c r w ∈ (connectionLost s).log) (hnew : Out.onClose true c r w ∉ s.log) :
    s.sendQueue = [] := by
  rcases connectionLost_clean s c r w h with h | h
  · exact absurd h hnew
  · exact h.2

/-- the invariant: `J`, and every clean report so far came with our close frame sent -/
def K (s : S) : Prop := J s ∧ ∀ c r w, Out.onClose true c r w ∈ s.log → s.closeSent ≠ []

theorem closeSent_grows {a b : S} (h : Ext a b) (ha : a.closeSent ≠ []) : b.closeSent ≠ [] := by
  rcases h.cs with e | ⟨_, _, x, ex, _⟩
  · rw [e]; exact ha
  · rw [ex]; simp

theorem Ext.cleanBacked {a b : S} (h : Ext a b) (ha : ∀ c r w, Out.onClose true c r w ∈ a.log → a.closeSent ≠ []) :
    ∀ c r w, Out.onClose true c r w ∈ b.log → b.closeSent ≠ [] := by
  intro c r w hm
  obtain ⟨d, e, n⟩ := h.log
  rw [e] at hm
  rcases List.mem_append.mp hm with h1 | h1
  · exact closeSent_grows h (ha c r w h1)
  · have := n _ h1
    simp [Out.isOnClose] at this

/-- `J` through its own walk; the clean reports through `Ext`, and at the loss of the transport through `J` -/
theorem step_K (s : S) (op : Op) (hk : K s) : K (step s op) :=
  ⟨step_JP s op hk.1, Ext.walk.inv_step Ext.cleanBacked s op (fun hd => (stepCore_Ext_data s op hd).cleanBacked)
    (fun _ h c r w hm => by
      rw [connectionLost_closeSent]
      rcases connectionLost_clean s c r w hm with h' | h'
      · exact h c r w h'
      · exact hk.1.2 h'.1)
    (fun c r _ => sendClose_Ext s c r) hk.2⟩

theorem run_K (ops : List Op) (s : S) (h : K s) : K (run s ops) :=
  run_induction (ok := fun _ => True) (fun s op _ => step_K s op) ops (fun _ _ => trivial) s h

theorem start_K (cfg : Cfg) : K (start cfg) := by
  obtain ⟨t, q, e, _⟩ := start_eq cfg
  rw [e]
  exact ⟨⟨fun h => (by cases h), fun h => (by cases h)⟩, fun c r w h => (by cases h)⟩

theorem startConnecting_K (cfg : Cfg) : K (startConnecting cfg) := by
  obtain ⟨t, q, e⟩ := startConnecting_eq cfg
  rw [e]
  exact ⟨⟨fun h => (by cases h), fun h => (by cases h)⟩, fun c r w h => (by cases h)⟩

/-- for every configuration and every history: a close reported clean was delivered with our close frame sent
(`one_close_frame`: that frame is the only one, it is legal, and the connection is then CLOSING or CLOSED) -/
theorem clean_close_needs_both (cfg : Cfg) (ops : List Op) (c : Option Nat) (r : Option Bytes) (w : Option NCR)
    (h : Out.onClose true c r w ∈ (run (start cfg) ops).log) :
    (run (start cfg) ops).closeSent ≠ [] :=
  (run_K ops _ (start_K cfg)).2 c r w h

theorem clean_close_needs_both_connecting (cfg : Cfg) (ops : List Op) (c : Option Nat) (r : Option Bytes)
    (w : Option NCR) (h : Out.onClose true c r w ∈ (run (startConnecting cfg) ops).log) :
    (run (startConnecting cfg) ops).closeSent ≠ [] :=
  (run_K ops _ (startConnecting_K cfg)).2 c r w h

/-- the hypothesis is met by real histories: the peer closes with 1000, we reply, the transport goes — reported clean
with the peer's code, and our close frame is recorded -/
example : Out.onClose true (some 1000) none none ∈
    (run (start {}) [.feed [0x88, 0x82, 0, 0, 0, 0, 0x03, 0xe8], .lost]).log
    ∧ (run (start {}) [.feed [0x88, 0x82, 0, 0, 0, 0, 0x03, 0xe8], .lost]).closeSent = [(some 1000, none)] := by
  decide

/-- while the connection is CLOSING, or marked clean, our close frame is out — every reachable state -/
theorem closing_has_sent_close (cfg : Cfg) (ops : List Op) : J (run (start cfg) ops) :=
  (run_K ops _ (start_K cfg)).1

end Abverif.Ws

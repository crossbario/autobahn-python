import Abverif.Proofs.C05
import Abverif.Proofs.Lemmas.WsSeg
/-
# C05: the reason of a close frame we send is valid UTF-8 (and at most 123 octets)

`encodeTruncate_valid`: cutting a valid UTF-8 string at any limit and dropping the incomplete code point at the end
(`encode_truncate`: at most three octets are dropped, a fourth try is never needed) gives a valid UTF-8 string.
With `encodeTruncate_le` (≤ limit) this is the property clause "a valid-UTF-8 reason of at most 123 bytes" for both
places a reason comes from: the application's `sendClose(reason=…)` (`sendClose_reason`) and the echoed peer reason
(the peer's reason was validated by `closeReasonStep` before it was stored: `closeReasonStep_valid`, and for every
history the `peerReason` step of `VP.base` in `Lemmas/WsReasonInv.lean`).
-/
namespace Abverif.Ws

/-- how many octets of an unfinished code point a state can stand for -/
def U8.R : U8 → Nat → Prop
  | .s0, c => c = 0
  | .c1, c => c = 1 ∨ c = 2 ∨ c = 3
  | .e0, c => c = 1
  | .c2, c => c = 1 ∨ c = 2
  | .ed, c => c = 1
  | .f0, c => c = 1
  | .c3, c => c = 1
  | .f4, c => c = 1
  | .rej, _ => False

theorem U8.R_le {st : U8} {c : Nat} (h : st.R c) : c ≤ 3 := by
  cases st <;> simp only [U8.R] at h <;> omega

/-- one more octet: the automaton rejects, or it is at a boundary again, or the unfinished code point has grown by one -/
theorem U8.R_step (st : U8) (c : Nat) (b : UInt8) (h : st.R c) (hn : st.step b ≠ .rej) :
    (st.step b = .s0) ∨ (st.step b).R (c + 1) := by
  cases st <;> simp only [U8.R] at h
  · -- s0: whatever lead octet it was, one octet of the code point has been seen
    subst h
    by_cases h0 : U8.step .s0 b = .s0
    · exact Or.inl h0
    · right
      generalize U8.step .s0 b = st at hn h0
      cases st <;> simp [U8.R] at hn h0 ⊢
  all_goals simp only [U8.step] at hn ⊢
  case c1 =>
    -- the last continuation octet: back at a boundary
    split
    · left; rfl
    · simp_all
  case c2 =>
    split
    · right; rcases h with h | h <;> subst h <;> simp [U8.R]
    · simp_all
  -- the states behind a lead octet: one octet seen, the next must be a continuation octet of the right range
  all_goals
    split
    · right; subst h; simp [U8.R]
    · simp_all

theorem snoc_induction {α : Type} {motive : List α → Prop} (nil : motive [])
    (append_singleton : ∀ l a, motive l → motive (l ++ [a])) (l : List α) : motive l := by
  rw [← List.reverse_reverse l]
  induction l.reverse with
  | nil => exact nil
  | cons a t ih => rw [List.reverse_cons]; exact append_singleton _ _ ih

/-- a string the automaton has not rejected ends at most three octets after a code point boundary -/
theorem boundary_near_end (bs : Bytes) (h : u8run .s0 bs ≠ .rej) :
    ∃ c, c ≤ bs.length ∧ (u8run .s0 bs).R c ∧ u8run .s0 (bs.take (bs.length - c)) = .s0 := by
  induction bs using snoc_induction with
  | nil => exact ⟨0, Nat.le_refl _, rfl, rfl⟩
  | append_singleton init b ih =>
    have hrun : u8run .s0 (init ++ [b]) = (u8run .s0 init).step b := by
      rw [u8run_append]; rfl
    have hi : u8run .s0 init ≠ .rej := by
      intro e; apply h; rw [hrun, e]; rfl
    obtain ⟨c, hc, hR, hb⟩ := ih hi
    rw [hrun] at h ⊢
    rcases U8.R_step _ c b hR h with h0 | h1
    · refine ⟨0, Nat.zero_le _, by rw [h0]; rfl, ?_⟩
      rw [Nat.sub_zero, List.take_length, hrun]; exact h0
    · refine ⟨c + 1, by simp; omega, h1, ?_⟩
      have : (init ++ [b]).length - (c + 1) = init.length - c := by simp
      rw [this, List.take_append_of_le_length (Nat.sub_le _ _)]
      exact hb

theorem dropIncompleteTail_valid :
    ∀ (fuel : Nat) (bs : Bytes) (c : Nat), c < fuel → c ≤ bs.length →
      u8run .s0 (bs.take (bs.length - c)) = .s0 → u8run .s0 (dropIncompleteTail bs fuel) = .s0 := by
  intro fuel
  induction fuel with
  | zero => intro bs c h; omega
  | succ n ih =>
    intro bs c hc hl hb
    unfold dropIncompleteTail
    split
    · rename_i h0; exact h0
    · rename_i h0
      have hc0 : c ≠ 0 := by
        intro e; subst e
        rw [Nat.sub_zero, List.take_length] at hb
        exact h0 hb
      apply ih bs.dropLast (c - 1) (by omega) (by simp; omega)
      have e : bs.dropLast.take (bs.dropLast.length - (c - 1)) = bs.take (bs.length - c) := by
        rw [List.dropLast_eq_take, List.take_take]
        congr 1
        simp
        omega
      rw [e]; exact hb

theorem encodeTruncate_valid (u : Bytes) (limit : Nat) (hv : utf8Valid u = true) :
    utf8Valid (encodeTruncate u limit) = true := by
  unfold encodeTruncate
  split
  · have hs0 : u8run .s0 u = .s0 := by unfold utf8Valid at hv; simpa using hv
    have hnr : u8run .s0 (u.take limit) ≠ .rej := by
      intro e
      have : u8run .s0 u = .rej := by
        conv => lhs; rw [← List.take_append_drop limit u]
        rw [u8run_append, e, u8run_rej]
      rw [hs0] at this; cases this
    obtain ⟨c, hc, hR, hb⟩ := boundary_near_end (u.take limit) hnr
    have := dropIncompleteTail_valid 4 (u.take limit) c (by have := U8.R_le hR; omega) hc hb
    unfold utf8Valid
    simp [this]
  · exact hv

/-- the reason `sendClose(code, reason)` puts into its close frame: valid UTF-8 if the application's text is, ≤ 123 octets -/
theorem sendClose_reason (r : Bytes) (hv : utf8Valid r = true) :
    utf8Valid (encodeTruncate r 123) = true ∧ (encodeTruncate r 123).length ≤ 123 :=
  ⟨encodeTruncate_valid r 123 hv, encodeTruncate_le r 123⟩

/-- the reason `sendClose` and the echoing reply put into a close frame (`truncated_le`: at most 123 octets) is valid UTF-8
if the text it is cut from is -/
theorem truncated_valid (r : Option Bytes) (hr : ∀ u, r = some u → utf8Valid u = true) (x : Bytes)
    (h : r.map (encodeTruncate · 123) = some x) : utf8Valid x = true := by
  cases r with
  | none => cases h
  | some u => cases h; exact encodeTruncate_valid u 123 (hr u rfl)

/-- what `closeReasonStep` leaves in `remoteCloseReason` has passed the UTF-8 check.  Stated for an endpoint that fails by
drop; the proof does not use that, since `_fail_connection` writes the field in no configuration (`failConnection_CloseEq`) -/
theorem closeReasonStep_valid (s : S) (reason : Option Bytes) (r : Bytes)
    (h : (closeReasonStep s reason).1.remoteCloseReason = some r) (h0 : s.remoteCloseReason = none)
    (hf : s.cfg.failByDrop = true) : utf8Valid r = true := by
  unfold closeReasonStep at h
  cases reason with
  | none => rw [h0] at h; cases h
  | some x =>
    by_cases hv : utf8Valid x = true
    · simp only [hv, Bool.not_true, Bool.false_eq_true, if_false] at h
      cases h; exact hv
    · -- invalid: failing the connection never writes `remoteCloseReason`
      have hkeep : (violation s 1007).1.remoteCloseReason = s.remoteCloseReason :=
        (failConnection_CloseEq s 1007).remoteCloseReason
      simp only [hv, Bool.not_false, if_true, hkeep, h0] at h
      cases h

/-- not vacuous, and the cut really happens inside a code point: 41 copies of "€" (3 octets each) are 123 octets; one
more and the text is cut after 123 octets = exactly 41 whole characters; with a leading "a" the cut at 123 falls inside
a character and two octets are dropped -/
example : utf8Valid ((List.replicate 42 [0xE2, 0x82, 0xAC]).flatten) = true ∧
    (encodeTruncate ((List.replicate 42 [0xE2, 0x82, 0xAC]).flatten) 123).length = 123 ∧
    (encodeTruncate (0x61 :: (List.replicate 42 [0xE2, 0x82, 0xAC]).flatten) 123).length = 121 ∧
    utf8Valid (encodeTruncate (0x61 :: (List.replicate 42 [0xE2, 0x82, 0xAC]).flatten) 123) = true := by
  decide +kernel

end Abverif.Ws
